/-
  C05 (permutation half), part 5: values that respect `σ` are exactly the values that are constant
  on every wiring class, and this is what the model's `Composer.copyViolation` decides.
-/
import Plonk.Proofs.PermutationCycles

namespace Plonk
namespace Perm
open Composer

/-! ### respecting `σ` ⇔ constant on the classes -/

/-- two positions of the gate table wired to the same allocated witness -/
def SameClass (c : Composer) (p q : Pos) : Prop :=
  (p.1 < 4 ∧ p.2 < c.gates.size) ∧ (q.1 < 4 ∧ q.2 < c.gates.size) ∧
  wireAt c p = wireAt c q ∧ wireAt c p < c.wit.size

instance (c : Composer) (p q : Pos) : Decidable (SameClass c p q) := by
  unfold SameClass; infer_instance

theorem sameClass_iff_mem (c : Composer) (p q : Pos) :
    SameClass c p q ↔ Active c p ∧ q ∈ classOf c (wireAt c p) := by
  unfold SameClass Active
  rw [mem_classOf]
  constructor
  · rintro ⟨h1, h2, h3, h4⟩; exact ⟨⟨h1, h4⟩, h2, h3.symm⟩
  · rintro ⟨⟨h1, h4⟩, h2, h3⟩; exact ⟨h1, h2, h3.symm, h4⟩

theorem sameClass_sigmaFn {c : Composer} {p : Pos} (h : Active c p) : SameClass c p (sigmaFn c p) :=
  (sameClass_iff_mem c p _).mpr ⟨h, sigmaFn_mem_class h⟩

theorem iterate_respects {α : Type} (c : Composer) (val : Pos → α) (h : ∀ p, val (sigmaFn c p) = val p)
    (p : Pos) (t : Nat) : val ((sigmaFn c)^[t] p) = val p := by
  induction t with
  | zero => rfl
  | succ t ih => rw [Function.iterate_succ_apply', h, ih]

/-- values respect `σ` iff they are constant on every class -/
theorem respects_iff_const {α : Type} (c : Composer) (val : Pos → α) :
    (∀ p, val (sigmaFn c p) = val p) ↔ (∀ p q, SameClass c p q → val p = val q) := by
  constructor
  · intro h p q hpq
    obtain ⟨ha, hq⟩ := (sameClass_iff_mem c p q).mp hpq
    obtain ⟨t, rfl⟩ := sigmaFn_reaches ha hq
    exact (iterate_respects c val h p t).symm
  · intro h p
    by_cases ha : Active c p
    · exact (h p _ (sameClass_sigmaFn ha)).symm
    · rw [sigmaFn_of_not_active ha]

/-! ### the model's `copyViolation` as a scan -/

abbrev CState := Option (Option Nat) × Array (Option Nat)

def innerBody (x : Nat × Nat) (s : CState) : Id (ForInStep CState) :=
  match s.2.getD x.1 none with
  | none => pure (ForInStep.yield (none, s.2.setIfInBounds x.1 (some x.2)))
  | some v0 => if (v0 != x.2) = true then pure (ForInStep.done (some (some x.1), s.2))
               else pure (ForInStep.yield (none, s.2))

def rowPairs (lay c : Composer) (i : Nat) : List (Nat × Nat) :=
  [((lay.gateAt i).a, (c.rowVals i).a), ((lay.gateAt i).b, (c.rowVals i).b),
   ((lay.gateAt i).c, (c.rowVals i).c), ((lay.gateAt i).d, (c.rowVals i).d)]

def outerBody (lay c : Composer) (i : Nat) (s : CState) : Id (ForInStep CState) :=
  match (forIn (m := Id) (rowPairs lay c i) (none, s.2) innerBody).1 with
  | some r => pure (ForInStep.done (some r, (forIn (m := Id) (rowPairs lay c i) (none, s.2) innerBody).2))
  | none => pure (ForInStep.yield (none, (forIn (m := Id) (rowPairs lay c i) (none, s.2) innerBody).2))

theorem copyViolation_eq (lay c : Composer) :
    copyViolation lay c =
      match (forIn (m := Id) (List.range lay.gates.size) ((none, Array.replicate lay.wit.size none) : CState)
        (outerBody lay c)).1 with
      | some r => r
      | none => none := by
  unfold copyViolation
  have hsz : ([:lay.gates.size] : Std.Legacy.Range).size = lay.gates.size := by
    simp [Std.Legacy.Range.size]
  simp only [Std.Legacy.Range.forIn_eq_forIn_range', hsz, ← List.range_eq_range']
  set_option smartUnfolding false in rfl

/-- first-value-seen scan over `(witness, value)` pairs -/
def scan : List (Nat × Nat) → Array (Option Nat) → Option Nat
  | [], _ => none
  | x :: r, seen =>
    match seen.getD x.1 none with
    | none => scan r (seen.setIfInBounds x.1 (some x.2))
    | some v0 => if (v0 != x.2) = true then some x.1 else scan r seen

theorem scan_inner (rest : List (Nat × Nat)) : ∀ (xs : List (Nat × Nat)) (seen : Array (Option Nat)),
    scan (xs ++ rest) seen =
      match (forIn (m := Id) xs ((none, seen) : CState) innerBody).1 with
      | some r => r
      | none => scan rest (forIn (m := Id) xs ((none, seen) : CState) innerBody).2 := by
  intro xs
  induction xs with
  | nil => intro seen; simp [pure]
  | cons x xs ih =>
    intro seen
    rw [List.forIn_cons, List.cons_append]
    cases h : seen.getD x.1 none with
    | none =>
      have e : innerBody x (none, seen) = pure (ForInStep.yield (none, seen.setIfInBounds x.1 (some x.2))) := by
        simp [innerBody, h]
      rw [e]
      simp only [scan, h]
      exact ih _
    | some v0 =>
      by_cases hv : (v0 != x.2) = true
      · have e : innerBody x (none, seen) = pure (ForInStep.done (some (some x.1), seen)) := by
          simp only [innerBody, h, hv, if_true]
        rw [e]
        simp only [scan, h, hv, if_true]
        rfl
      · have e : innerBody x (none, seen) = pure (ForInStep.yield (none, seen)) := by
          simp only [innerBody, h, hv]
          rfl
        rw [e]
        simp only [scan, h, hv]
        exact ih _

theorem scan_outer (lay c : Composer) : ∀ (is : List Nat) (seen : Array (Option Nat)),
    scan (is.flatMap (rowPairs lay c)) seen =
      match (forIn (m := Id) is ((none, seen) : CState) (outerBody lay c)).1 with
      | some r => r
      | none => none := by
  intro is
  induction is with
  | nil => intro seen; simp [pure, scan]
  | cons i is ih =>
    intro seen
    rw [List.forIn_cons, List.flatMap_cons, scan_inner]
    cases h : (forIn (m := Id) (rowPairs lay c i) ((none, seen) : CState) innerBody).1 with
    | none =>
      have e : outerBody lay c i (none, seen) = pure (ForInStep.yield
          (none, (forIn (m := Id) (rowPairs lay c i) ((none, seen) : CState) innerBody).2)) := by
        simp only [outerBody, h]
      rw [e]
      exact ih _
    | some r =>
      have e : outerBody lay c i (none, seen) = pure (ForInStep.done
          (some r, (forIn (m := Id) (rowPairs lay c i) ((none, seen) : CState) innerBody).2)) := by
        simp only [outerBody, h]
      rw [e]
      rfl

/-- value of the proving-time composer at a wire position -/
def valAt (c : Composer) (p : Pos) : Nat :=
  match p.1 with
  | 0 => (c.rowVals p.2).a
  | 1 => (c.rowVals p.2).b
  | 2 => (c.rowVals p.2).c
  | _ => (c.rowVals p.2).d

theorem copyViolation_eq_scan (lay c : Composer) :
    copyViolation lay c =
      scan ((allPos lay.gates.size).map fun p => (wireAt lay p, valAt c p)) (Array.replicate lay.wit.size none) := by
  rw [copyViolation_eq, ← scan_outer]
  congr 1
  unfold allPos
  rw [List.map_flatMap]
  rfl

/-! ### when the scan finds nothing -/

theorem getD_some_lt {a : Array (Option Nat)} {i v : Nat} (h : a.getD i none = some v) : i < a.size := by
  by_contra hc
  rw [Array.getD_eq_getD_getElem?, Array.getElem?_eq_none (by omega)] at h
  simp at h

theorem scan_eq_none_iff : ∀ (wv : List (Nat × Nat)) (seen : Array (Option Nat)),
    scan wv seen = none ↔
      (∀ x ∈ wv, ∀ v0, seen.getD x.1 none = some v0 → v0 = x.2) ∧
      wv.Pairwise (fun x y => x.1 = y.1 → x.1 < seen.size → x.2 = y.2) := by
  intro wv
  induction wv with
  | nil => intro seen; simp [scan]
  | cons x r ih =>
    intro seen
    rw [List.pairwise_cons]
    cases h : seen.getD x.1 none with
    | none =>
      have e : scan (x :: r) seen = scan r (seen.setIfInBounds x.1 (some x.2)) := by simp only [scan, h]
      rw [e, ih, Array.size_setIfInBounds]
      constructor
      · rintro ⟨h1, h2⟩
        refine ⟨?_, ?_, h2⟩
        · intro y hy v0 hv0
          rcases List.mem_cons.mp hy with rfl | hy
          · rw [h] at hv0; exact absurd hv0 (by simp)
          · have hne : ¬ (x.1 = y.1 ∧ x.1 < seen.size) := by
              rintro ⟨e1, _⟩; rw [← e1, h] at hv0; exact absurd hv0 (by simp)
            have := h1 y hy v0
            rw [getD_setIfInBounds, if_neg hne] at this
            exact this hv0
        · intro y hy e1 hlt
          have := h1 y hy x.2
          rw [getD_setIfInBounds, if_pos ⟨e1, hlt⟩] at this
          exact this rfl
      · rintro ⟨h1, h2, h3⟩
        refine ⟨?_, h3⟩
        intro y hy v0 hv0
        rw [getD_setIfInBounds] at hv0
        split at hv0
        · next hc =>
          rw [← Option.some.inj hv0]
          exact h2 y hy hc.1 hc.2
        · exact h1 y (List.mem_cons_of_mem _ hy) v0 hv0
    | some v0 =>
      by_cases hv : (v0 != x.2) = true
      · have e : scan (x :: r) seen = some x.1 := by simp only [scan, h, hv, if_true]
        rw [e]
        constructor
        · intro hh; exact absurd hh (by simp)
        · rintro ⟨h1, _⟩
          have := h1 x List.mem_cons_self v0 h
          rw [this] at hv
          simp at hv
      · have e : scan (x :: r) seen = scan r seen := by
          simp only [scan, h, hv]
          rfl
        have hv' : v0 = x.2 := by simpa using hv
        rw [e, ih]
        constructor
        · rintro ⟨h1, h2⟩
          refine ⟨?_, ?_, h2⟩
          · intro y hy w hw
            rcases List.mem_cons.mp hy with rfl | hy
            · rw [h] at hw; rw [← Option.some.inj hw]; exact hv'
            · exact h1 y hy w hw
          · intro y hy e1 _
            have := h1 y hy v0 (by rw [← e1]; exact h)
            rw [← this]; exact hv'.symm
        · rintro ⟨h1, _, h3⟩
          exact ⟨fun y hy => h1 y (List.mem_cons_of_mem _ hy), h3⟩

/-- `copyViolation` finds nothing iff positions wired to the same allocated witness of the
    layout carry equal values -/
theorem copyViolation_eq_none_iff (lay c : Composer) :
    copyViolation lay c = none ↔ ∀ p q, SameClass lay p q → valAt c p = valAt c q := by
  rw [copyViolation_eq_scan, scan_eq_none_iff, List.pairwise_map]
  have h0 : ∀ w, (Array.replicate lay.wit.size (none : Option Nat)).getD w none = none := by
    intro w
    rw [Array.getD_eq_getD_getElem?]
    by_cases hw : w < lay.wit.size
    · simp [hw]
    · rw [Array.getElem?_eq_none (by simpa using hw)]; rfl
  constructor
  · rintro ⟨_, h2⟩ p q ⟨hp, hq, hw, hlt⟩
    have hsymm : (allPos lay.gates.size).Pairwise (flip fun a b : Pos =>
        (wireAt lay a, valAt c a).1 = (wireAt lay b, valAt c b).1 →
          (wireAt lay a, valAt c a).1 < (Array.replicate lay.wit.size (none : Option Nat)).size →
          (wireAt lay a, valAt c a).2 = (wireAt lay b, valAt c b).2) := by
      refine h2.imp ?_
      intro a b hab e1 e2
      exact (hab e1.symm (by rw [e1.symm]; exact e2)).symm
    have := List.Pairwise.forall_of_forall_of_flip (fun x _ _ _ => rfl) h2 hsymm
      ((mem_allPos _ p).mpr hp) ((mem_allPos _ q).mpr hq)
    exact this hw (by simpa using hlt)
  · intro h
    refine ⟨?_, ?_⟩
    · intro x _ v0 hv0
      rw [h0] at hv0; exact absurd hv0 (by simp)
    · apply List.pairwise_of_forall_mem_list
      intro p hp q hq e1 e2
      exact h p q ⟨(mem_allPos _ p).mp hp, (mem_allPos _ q).mp hq, e1, by simpa using e2⟩

/-- the three formulations of the copy constraints agree -/
theorem perm_respects_iff (lay c : Composer) :
    ((∀ p, valAt c (sigmaFn lay p) = valAt c p) ↔ (∀ p q, SameClass lay p q → valAt c p = valAt c q)) ∧
    ((∀ p q, SameClass lay p q → valAt c p = valAt c q) ↔ copyViolation lay c = none) :=
  ⟨respects_iff_const lay (valAt c), (copyViolation_eq_none_iff lay c).symm⟩

end Perm
end Plonk
