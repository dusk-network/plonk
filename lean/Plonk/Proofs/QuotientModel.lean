/-
  C05 (prover exactness), algebraic half — the specification prover's own functions
  (`Model/Prover.lean`; `blindPoly` is in `Blinding.lean`):
  `quotientEvals` (each entry is the numerator expression `numR` of the entries it reads, times the
  inverse vanishing value), `permVec` (the running product), and the combination
  `exact_math` / `prover_exact_model`.
-/
import Plonk.Proofs.PolyBridge
import Plonk.Proofs.FftDomain
import Plonk.Proofs.Blinding
import Plonk.Proofs.QuotientGate
import Plonk.Model.Prover

namespace Plonk.Quot
open Plonk Polynomial FftMath

/-- the selector values read at index `i` of the stored evaluation arrays -/
def selAt (selE : Array (Array Nat)) (i : Nat) : Sel F :=
  ⟨toF ((selE.getD 0 #[]).getD i 0), toF ((selE.getD 1 #[]).getD i 0), toF ((selE.getD 2 #[]).getD i 0),
   toF ((selE.getD 3 #[]).getD i 0), toF ((selE.getD 4 #[]).getD i 0), toF ((selE.getD 5 #[]).getD i 0),
   toF ((selE.getD 6 #[]).getD i 0), toF ((selE.getD 7 #[]).getD i 0), toF ((selE.getD 8 #[]).getD i 0),
   toF ((selE.getD 9 #[]).getD i 0), toF ((selE.getD 10 #[]).getD i 0)⟩

/-- the permutation data read at index `i` -/
def permAt (sigE8 : Array (Array Nat)) (linE zE vh l1Den : Array Nat) (nInv8 i : Nat) : PermRow F :=
  ⟨toF (linE.getD i 0), toF ((sigE8.getD 0 #[]).getD i 0), toF ((sigE8.getD 1 #[]).getD i 0),
   toF ((sigE8.getD 2 #[]).getD i 0), toF ((sigE8.getD 3 #[]).getD i 0), toF (zE.getD i 0),
   toF (zE.getD (i + 8) 0), toF (l1Den.getD i 0) * (toF (vh.getD i 0) * toF nInv8)⟩

/-- **Entry `i` of the model's `quotientEvals`** (computed on the coset, next-row values read at
    `i + 8`) is the numerator expression `numR` of the entries it reads — with `L₁` supplied as
    `l1Den[i]·(vh[i]·nInv8)` — times `vhInv8[i mod 8]`. -/
theorem toF_quotientEvals_getD (size8 : Nat) (selE sigE8 : Array (Array Nat))
    (linE aE bE cE dE zE piE vh vhInv8 l1Den : Array Nat)
    (nInv8 beta gamma alpha rSep lSep fSep vSep : Nat) (i : Nat) (hi : i < size8) :
    toF ((quotientEvals size8 selE sigE8 linE aE bE cE dE zE piE vh vhInv8 l1Den nInv8 beta gamma
        alpha rSep lSep fSep vSep).getD i 0) =
      numR (selAt selE i)
        (wiresF (aE.getD i 0) (bE.getD i 0) (cE.getD i 0) (dE.getD i 0) (aE.getD (i + 8) 0)
          (bE.getD (i + 8) 0) (dE.getD (i + 8) 0))
        (toF (piE.getD i 0)) (permAt sigE8 linE zE vh l1Den nInv8 i)
        ⟨toF beta, toF gamma, toF alpha⟩ ⟨toF rSep, toF lSep, toF fSep, toF vSep⟩ *
      toF (vhInv8.getD (i % 8) 0) := by
  simp only [quotientEvals]
  rw [getD_map_range _ _ _ hi]
  simp only [toF_fmul, toF_fadd, toF_fsub, toF_fneg, toF_fsq, toF_one, toF_rangeScalar_wsum,
    toF_logicScalar_wsum, toF_fixedScalar_wsum, toF_varScalar_wsum, toF_arithVal, arithF, toF_zero, add_zero]
  simp only [numR, gateSumR, permStepR, permNumR, permDenR, selAt, permAt, arithR, wiresF]
  -- the gate part `g` and the two products `N`, `D` stand on both sides as the same terms
  have shape (g N D z zn α l1 v : F) :
      (g + (N * z * α + -(D * zn * α) + (z - 1) * (l1 * (α * α)))) * v =
        (g + α * (N * z - D * zn) + α ^ 2 * l1 * (z - 1)) * v := by ring
  exact shape _ _ _ _ _ _ _ _

/-- iterates of a step function -/
def iterFrom (g : Nat → Nat → Nat) (s : Nat) : Nat → Nat
  | 0 => s
  | i + 1 => g i (iterFrom g s i)

theorem foldl_iter (g : Nat → Nat → Nat) (s : Nat) (m : Nat) :
    (List.range m).foldl (fun (acc : List Nat × Nat) i => (acc.2 :: acc.1, g i acc.2)) ([], s) =
      (((List.range m).map (iterFrom g s)).reverse, iterFrom g s m) := by
  induction m with
  | zero => rfl
  | succ m ih =>
    rw [List.range_succ, List.foldl_append, ih]
    simp [iterFrom]

/-- the numerators of `compute_permutation_vec` -/
def permNums (n : Nat) (roots aS bS cS dS : List Nat) (beta gamma : Nat) : List Nat :=
  (List.range n).map fun i =>
    let br := fmul beta (roots.getD i 0)
    fmul (fmul (fmul (fadd (fadd (aS.getD i 0) br) gamma) (fadd (fadd (bS.getD i 0) (fmul br Generated.K1)) gamma))
               (fadd (fadd (cS.getD i 0) (fmul br Generated.K2)) gamma))
         (fadd (fadd (dS.getD i 0) (fmul br Generated.K3)) gamma)

/-- the denominators of `compute_permutation_vec` -/
def permDens (n : Nat) (aS bS cS dS : List Nat) (sigE : List (List Nat)) (beta gamma : Nat) : List Nat :=
  (List.range n).map fun i =>
    let s (j : Nat) := (sigE.getD j []).getD i 0
    fmul (fmul (fmul (fadd (fadd (aS.getD i 0) (fmul beta (s 0))) gamma) (fadd (fadd (bS.getD i 0) (fmul beta (s 1))) gamma))
               (fadd (fadd (cS.getD i 0) (fmul beta (s 2))) gamma))
         (fadd (fadd (dS.getD i 0) (fmul beta (s 3))) gamma)

theorem permVec_eq (n : Nat) (roots aS bS cS dS : List Nat) (sigE : List (List Nat)) (beta gamma : Nat) :
    permVec n roots aS bS cS dS sigE beta gamma =
      if (permDens n aS bS cS dS sigE beta gamma).any (· == 0) then none else
      some (((List.range n).foldl (fun (acc : List Nat × Nat) i =>
        (acc.2 :: acc.1,
          if i + 1 < n then
            fmul acc.2 (fmul ((permNums n roots aS bS cS dS beta gamma).getD i 0)
              ((batchInversion (permDens n aS bS cS dS sigE beta gamma)).getD i 0))
          else acc.2)) ([], 1 % R)).1.reverse) := rfl

/-- field-level numerator / denominator of row `i` -/
def numF (roots aS bS cS dS : List Nat) (beta gamma : Nat) (i : Nat) : F :=
  permNumR (toF beta) (toF gamma) (toF (aS.getD i 0)) (toF (bS.getD i 0)) (toF (cS.getD i 0))
    (toF (dS.getD i 0)) (toF (roots.getD i 0))

def denF (aS bS cS dS : List Nat) (sigE : List (List Nat)) (beta gamma : Nat) (i : Nat) : F :=
  permDenR (toF beta) (toF gamma) (toF (aS.getD i 0)) (toF (bS.getD i 0)) (toF (cS.getD i 0))
    (toF (dS.getD i 0)) (toF ((sigE.getD 0 []).getD i 0)) (toF ((sigE.getD 1 []).getD i 0))
    (toF ((sigE.getD 2 []).getD i 0)) (toF ((sigE.getD 3 []).getD i 0))

theorem toF_permNums_getD (n : Nat) (roots aS bS cS dS : List Nat) (beta gamma i : Nat) (hi : i < n) :
    toF ((permNums n roots aS bS cS dS beta gamma).getD i 0) = numF roots aS bS cS dS beta gamma i := by
  unfold permNums
  rw [getD_map_range _ _ _ hi]
  simp only [toF_fmul, toF_fadd, numF, permNumR]
  -- the model multiplies `β·x` by the coset constant, `permNumR` the other way round
  rw [mul_right_comm _ _ (toF Generated.K1), mul_right_comm _ _ (toF Generated.K2),
    mul_right_comm _ _ (toF Generated.K3)]
  rfl

theorem permDens_getD_lt (n : Nat) (aS bS cS dS : List Nat) (sigE : List (List Nat))
    (beta gamma i : Nat) : (permDens n aS bS cS dS sigE beta gamma).getD i 0 < R := by
  apply getD_lt_R
  intro x hx
  unfold permDens at hx
  obtain ⟨j, _, rfl⟩ := List.mem_map.mp hx
  exact fmul_lt _ _

theorem toF_permDens_getD (n : Nat) (aS bS cS dS : List Nat) (sigE : List (List Nat))
    (beta gamma i : Nat) (hi : i < n) :
    toF ((permDens n aS bS cS dS sigE beta gamma).getD i 0) = denF aS bS cS dS sigE beta gamma i := by
  unfold permDens
  rw [getD_map_range _ _ _ hi]
  simp only [toF_fmul, toF_fadd, denF, permDenR]

theorem toF_batchInversion_getD (v : List Nat) (i : Nat) :
    toF ((batchInversion v).getD i 0) = (toF (v.getD i 0))⁻¹ := by
  unfold batchInversion
  rw [toF_getD_map _ (by simp)]
  split
  · next h => rw [toF_mod, (toF_eq_zero_iff _).mpr (by simpa using h), inv_zero]
  · exact toF_finv _

/-- **`compute_permutation_vec`.** When the model returns `some z`: `z` has `n` entries, every
    denominator is non-zero, `z₀ = 1` and `z_{i+1} = z_i·num_i/den_i`. -/
theorem permVec_spec (n : Nat) (roots aS bS cS dS : List Nat) (sigE : List (List Nat))
    (beta gamma : Nat) (z : List Nat) (h : permVec n roots aS bS cS dS sigE beta gamma = some z) :
    z.length = n ∧ (∀ i < n, denF aS bS cS dS sigE beta gamma i ≠ 0) ∧
    (0 < n → toF (z.getD 0 0) = 1) ∧
    (∀ i, i + 1 < n → toF (z.getD (i + 1) 0) =
      toF (z.getD i 0) * (numF roots aS bS cS dS beta gamma i *
        (denF aS bS cS dS sigE beta gamma i)⁻¹)) := by
  rw [permVec_eq] at h
  split at h
  · exact absurd h (by simp)
  · next hany =>
    rw [foldl_iter (fun i cur => if i + 1 < n then
        fmul cur (fmul ((permNums n roots aS bS cS dS beta gamma).getD i 0)
          ((batchInversion (permDens n aS bS cS dS sigE beta gamma)).getD i 0)) else cur)] at h
    simp only [List.reverse_reverse, Option.some.injEq] at h
    subst h
    refine ⟨by simp, ?_, ?_, ?_⟩
    · intro i hi h0
      apply hany
      rw [List.any_eq_true]
      refine ⟨(permDens n aS bS cS dS sigE beta gamma).getD i 0, ?_, ?_⟩
      · rw [List.getD_eq_getElem _ 0 (by simp [permDens, hi])]
        exact List.getElem_mem _
      · rw [beq_zero_iff (permDens_getD_lt ..), toF_permDens_getD _ _ _ _ _ _ _ _ _ hi]
        exact h0
    · intro hn
      rw [getD_map_range _ _ _ hn]
      simp [iterFrom]
    · intro i hi
      rw [getD_map_range _ _ _ hi, getD_map_range _ _ _ (by omega : i < n)]
      simp only [iterFrom, if_pos hi, toF_fmul, toF_batchInversion_getD,
        toF_permNums_getD _ _ _ _ _ _ _ _ _ (by omega : i < n),
        toF_permDens_getD _ _ _ _ _ _ _ _ _ (by omega : i < n)]

section exact
variable {K : Type*} [Field K] {S : Type*}

/-- For an accumulator built as `compute_permutation_vec` does, with `L₁(ω^i) = [i = 0]`: the row
    values `N_i = E_i(s) + α·(num_i z_i − den_i z_{(i+1) mod n}) + α²·L₁(ω^i)·(z_i − 1)` vanish for all
    rows, two distinct `α` and every separation challenge `s` of a non-empty set `G` iff every gate
    expression `E_i` vanishes on `G` and the two grand products agree. -/
theorem exact_math (n : ℕ) (hn : 0 < n) (E : ℕ → S → K) (G : S → Prop) (hG : ∃ s, G s)
    (Sα : Finset K) (hα : 1 < Sα.card) (num den z l1 : ℕ → K)
    (hl1 : ∀ i, l1 i = if i = 0 then 1 else 0)
    (hden : ∀ i < n, den i ≠ 0) (hz0 : z 0 = 1)
    (hz : ∀ i, i + 1 < n → z (i + 1) = z i * (num i * (den i)⁻¹)) :
    (∀ α ∈ Sα, ∀ s, G s → ∀ i < n,
      E i s + α * (num i * z i - den i * z ((i + 1) % n)) + α ^ 2 * l1 i * (z i - 1) = 0) ↔
    (∀ i < n, ∀ s, G s → E i s = 0) ∧
      ∏ j ∈ Finset.range n, num j = ∏ j ∈ Finset.range n, den j := by
  have hl (α : K) (i : ℕ) : α ^ 2 * l1 i * (z i - 1) = 0 := by
    rw [hl1]
    split
    · next h0 => rw [h0, hz0, sub_self, mul_zero]
    · rw [mul_zero, zero_mul]
  -- the accumulator is the running product, so all steps vanish iff the two products agree
  have hsteps := (Complete.cyclic_steps_iff hn num den z hden).trans
    (and_iff_right (Complete.eq_accSeq_of_rec n num den z (fun _ => hz0) hz))
  rw [and_iff_right hz0] at hsteps
  simp only [hl, add_zero, ← hsteps]
  constructor
  · intro h
    obtain ⟨α1, hα1, α2, hα2, hne⟩ := Finset.one_lt_card.mp hα
    obtain ⟨s0, hs0⟩ := hG
    -- two values of `α` separate the gate part from the permutation step
    have hP (i : ℕ) (hi : i < n) : num i * z i - den i * z ((i + 1) % n) = 0 :=
      (mul_eq_zero.mp (by linear_combination h α1 hα1 s0 hs0 i hi - h α2 hα2 s0 hs0 i hi :
        (α1 - α2) * (num i * z i - den i * z ((i + 1) % n)) = 0)).resolve_left (sub_ne_zero.mpr hne)
    refine ⟨fun i hi s hs => ?_, hP⟩
    have := h α1 hα1 s hs i hi
    rwa [hP i hi, mul_zero, add_zero] at this
  · rintro ⟨hE, hP⟩ α _ s hs i hi
    rw [hE i hi s hs, hP i hi, mul_zero, zero_add]

end exact

/-- the numerator value `N_i` of row `i` of a table given by the model's data: selector rows `G`,
    wire columns, dense public inputs, domain elements, sigma values and accumulator, the next row
    read at `(i+1) mod n`, `L₁(ω^i) = [i = 0]` (for a table read off polynomials the same value is
    `Sound.gateAtRow + α·Sound.permAtRow + α²·Sound.l1AtRow`, `Sound.NumP_eval_domain`) -/
def rowNum (n : Nat) (G : Nat → Gate) (roots aS bS cS dS piS : List Nat) (sigE : List (List Nat))
    (z : List Nat) (ch : Chal F) (s : Seps F) (i : Nat) : F :=
  numR (selF (G i))
    (wiresF (aS.getD i 0) (bS.getD i 0) (cS.getD i 0) (dS.getD i 0) (aS.getD ((i + 1) % n) 0)
      (bS.getD ((i + 1) % n) 0) (dS.getD ((i + 1) % n) 0))
    (toF (piS.getD i 0))
    ⟨toF (roots.getD i 0), toF ((sigE.getD 0 []).getD i 0), toF ((sigE.getD 1 []).getD i 0),
      toF ((sigE.getD 2 []).getD i 0), toF ((sigE.getD 3 []).getD i 0), toF (z.getD i 0),
      toF (z.getD ((i + 1) % n) 0), if i = 0 then 1 else 0⟩ ch s

/-- the model's row check of row `i` of the table, next row cyclic (`Sound.rowOKP`: the same on
    values read off polynomials) -/
def rowOK (n : Nat) (G : Nat → Gate) (aS bS cS dS piS : List Nat) (i : Nat) : Prop :=
  rowHolds (G i) (aS.getD i 0) (bS.getD i 0) (cS.getD i 0) (dS.getD i 0) (aS.getD ((i + 1) % n) 0)
    (bS.getD ((i + 1) % n) 0) (dS.getD ((i + 1) % n) 0) (piS.getD i 0) = true

/-- **Exactness at the level of row values.** With the accumulator of the model's `permVec`:
    all numerator values `N_i` (`i < n`) vanish for every `α` of a set with at least two elements and
    every separation challenge of a grid with more than `7 / 9 / 7 / 5` values per axis
    iff every row identity of the model holds (next row cyclic) and the grand products agree. -/
theorem prover_exact_model (n : Nat) (hn : 0 < n) (G : Nat → Gate) (hG : ∀ i < n, SelReduced (G i))
    (roots aS bS cS dS piS : List Nat) (sigE : List (List Nat)) (beta gamma : Nat) (z : List Nat)
    (hz : permVec n roots aS bS cS dS sigE beta gamma = some z)
    (Sα Sr Sl Sf Sv : Finset F) (hα : 1 < Sα.card) (hr : 7 < Sr.card) (hl : 9 < Sl.card)
    (hf : 7 < Sf.card) (hv : 5 < Sv.card) :
    (∀ α ∈ Sα, ∀ ρ ∈ Sr, ∀ l ∈ Sl, ∀ φ ∈ Sf, ∀ ν ∈ Sv, ∀ i < n,
      rowNum n G roots aS bS cS dS piS sigE z ⟨toF beta, toF gamma, α⟩ ⟨ρ, l, φ, ν⟩ i = 0) ↔
    (∀ i < n, rowOK n G aS bS cS dS piS i) ∧
      ∏ i ∈ Finset.range n, numF roots aS bS cS dS beta gamma i =
        ∏ i ∈ Finset.range n, denF aS bS cS dS sigE beta gamma i := by
  obtain ⟨-, hden, hz0, hstep⟩ := permVec_spec n roots aS bS cS dS sigE beta gamma z hz
  obtain ⟨r0, hr0⟩ := Finset.card_pos.mp (by omega : 0 < Sr.card)
  obtain ⟨l0, hl0⟩ := Finset.card_pos.mp (by omega : 0 < Sl.card)
  obtain ⟨f0, hf0⟩ := Finset.card_pos.mp (by omega : 0 < Sf.card)
  obtain ⟨v0, hv0⟩ := Finset.card_pos.mp (by omega : 0 < Sv.card)
  have key := exact_math (K := F) (S := Seps F) n hn
    (fun i s => gateSumR (selF (G i))
      (wiresF (aS.getD i 0) (bS.getD i 0) (cS.getD i 0) (dS.getD i 0) (aS.getD ((i + 1) % n) 0)
        (bS.getD ((i + 1) % n) 0) (dS.getD ((i + 1) % n) 0)) (toF (piS.getD i 0)) s)
    (fun s => s.rs ∈ Sr ∧ s.ls ∈ Sl ∧ s.fs ∈ Sf ∧ s.vs ∈ Sv) ⟨⟨r0, l0, f0, v0⟩, hr0, hl0, hf0, hv0⟩
    Sα hα (numF roots aS bS cS dS beta gamma) (denF aS bS cS dS sigE beta gamma)
    (fun i => toF (z.getD i 0)) (fun i => if i = 0 then 1 else 0) (fun _ => rfl) hden (hz0 hn) hstep
  refine Iff.trans ?_ (key.trans (and_congr_left' (forall₂_congr fun i hi => ?_)))
  · exact ⟨fun h α hα s hs i hi => h α hα s.rs hs.1 s.ls hs.2.1 s.fs hs.2.2.1 s.vs hs.2.2.2 i hi,
      fun h α hα ρ hρ l hl φ hφ ν hν i hi => h α hα ⟨ρ, l, φ, ν⟩ ⟨hρ, hl, hφ, hν⟩ i hi⟩
  unfold rowOK
  rw [← gate_sum_zero_iff (G i) (hG i hi) _ _ _ _ _ _ _ _ Sr Sl Sf Sv hr hl hf hv]
  exact ⟨fun h ρ hρ l hl φ hφ ν hν => h ⟨ρ, l, φ, ν⟩ ⟨hρ, hl, hφ, hν⟩,
    fun h s hs => h s.rs hs.1 s.ls hs.2.1 s.fs hs.2.2.1 s.vs hs.2.2.2⟩

end Plonk.Quot
