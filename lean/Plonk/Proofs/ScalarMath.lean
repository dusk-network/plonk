/-
  Arithmetic behind C14 (JubJub scalar range, signed-digit ladder): the two 252-bit range checks
  of `assert_canonical_jubjub_scalar` hold iff `s < r_J`; a signed-digit accumulator chain with
  pinned leading rounds recomposes the scalar over ℤ, without wrap modulo `r`; the width-2 NAF
  of a scalar below `2^252` has 253 digits.
-/
import Mathlib.Tactic.Ring
import Mathlib.Tactic.Linarith
import Mathlib.Tactic.LinearCombination
import Mathlib.Algebra.BigOperators.Intervals
import Mathlib.Algebra.Order.Group.Unbundled.Int
import Mathlib.Data.List.GetD
import Plonk.Generated
import Plonk.Model.Jubjub
import Plonk.Proofs.TruncMath

namespace Plonk

/-! ### canonical JubJub scalar -/

theorem RJ_pos : 0 < RJ := by decide +kernel
theorem RJ_lt_R : RJ < R := by decide +kernel
theorem RJ_le_two_pow : RJ ≤ 2 ^ Generated.JUBJUB_SCALAR_BITS := by decide +kernel
/-- wrap-around is impossible: `R − 2^252 > 2^252` -/
theorem scalar_no_wrap : 2 ^ Generated.JUBJUB_SCALAR_BITS < R - 2 ^ Generated.JUBJUB_SCALAR_BITS := by
  decide +kernel

/-- the constant `r_J − 1` as placed in the gate by the model (`(RJ - 1) % R`) -/
theorem RJ_sub_one_mod : (RJ - 1) % R = RJ - 1 :=
  Nat.mod_eq_of_lt (by have := RJ_lt_R; omega)

/-- `s < 2^252` and `(r_J − 1) − s < 2^252` (as canonical values of field elements) hold iff
    `s < r_J` -/
theorem canonical_scalar_iff (s : F) :
    (s.val < 2 ^ Generated.JUBJUB_SCALAR_BITS ∧
      (toF ((RJ - 1) % R) - s).val < 2 ^ Generated.JUBJUB_SCALAR_BITS) ↔ s.val < RJ := by
  rw [RJ_sub_one_mod]
  have hs := ZMod.val_lt s
  have h1 := RJ_le_two_pow
  have h2 := scalar_no_wrap
  have h3 := RJ_lt_R
  have h4 := RJ_pos
  have es : toF (RJ - 1) - s = toF (RJ - 1) - toF s.val := by rw [toF_val]
  rw [es]
  generalize 2 ^ Generated.JUBJUB_SCALAR_BITS = B at *
  rcases Nat.lt_or_ge (RJ - 1) s.val with hlt | hle
  · rw [val_toF_sub_of_lt hs hlt]; clear h1 h3; omega
  · rw [val_toF_sub_of_le (by omega) hle]; clear h2 h3 hs; omega

/-! ### signed-digit arithmetic -/

/-- integer accumulator after `k` rounds (most significant digit first) of the `n` digits `d`
    (`d` indexed little-endian, as the wnaf): `Z₀ = 0`, `Z_{k+1} = 2·Z_k + d_(n−1−k)`. -/
def sdAccZ (d : Nat → ℤ) (n : Nat) : Nat → ℤ
  | 0 => 0
  | k + 1 => 2 * sdAccZ d n k + d (n - 1 - k)

/-- the field chain is the cast of the integer chain -/
theorem sdAcc_cast (d : Nat → ℤ) (n : Nat) (acc : Nat → F) (h0 : acc 0 = 0) (k : Nat)
    (hstep : ∀ i < k, acc (i + 1) = 2 * acc i + ((d (n - 1 - i) : ℤ) : F)) :
    acc k = ((sdAccZ d n k : ℤ) : F) := by
  induction k with
  | zero => simpa [sdAccZ] using h0
  | succ k ih =>
    rw [hstep k (Nat.lt_succ_self k), ih (fun i hi => hstep i (Nat.lt_succ_of_lt hi))]
    simp only [sdAccZ]; push_cast; ring

/-- the rounds `L ≤ i < L + m` contribute an `m`-digit signed number:
    `|Z_{L+m} − 2^m·Z_L| < 2^m` -/
theorem sdAccZ_add_bound (d : Nat → ℤ) (n L m : Nat)
    (hd : ∀ i < L + m, d (n - 1 - i) = -1 ∨ d (n - 1 - i) = 0 ∨ d (n - 1 - i) = 1) :
    -(2 ^ m) < sdAccZ d n (L + m) - 2 ^ m * sdAccZ d n L ∧
      sdAccZ d n (L + m) - 2 ^ m * sdAccZ d n L < 2 ^ m := by
  induction m with
  | zero => rw [Nat.add_zero, pow_zero, one_mul, sub_self]; exact ⟨by decide, by decide⟩
  | succ m ih =>
    obtain ⟨h1, h2⟩ := ih (fun i hi => hd i (Nat.lt_succ_of_lt hi))
    have hb : -1 ≤ d (n - 1 - (L + m)) ∧ d (n - 1 - (L + m)) ≤ 1 := by
      rcases hd (L + m) (Nat.lt_succ_self _) with h | h | h <;> rw [h] <;> decide
    rw [← Nat.add_assoc, sdAccZ, pow_succ]
    constructor <;> linarith

/-- size of the integer chain: `|Z_k| < 2^k` -/
theorem sdAccZ_bound (d : Nat → ℤ) (n k : Nat)
    (hd : ∀ i < k, d (n - 1 - i) = -1 ∨ d (n - 1 - i) = 0 ∨ d (n - 1 - i) = 1) :
    -(2 ^ k) < sdAccZ d n k ∧ sdAccZ d n k < 2 ^ k := by
  have := sdAccZ_add_bound d n 0 k (by rwa [Nat.zero_add])
  rwa [Nat.zero_add, sdAccZ, mul_zero, sub_zero] at this

/-- if `Z_L = 0`, the next `m` rounds stay below `2^m` -/
theorem sdAccZ_bound_after (d : Nat → ℤ) (n L m : Nat)
    (hd : ∀ i < L + m, d (n - 1 - i) = -1 ∨ d (n - 1 - i) = 0 ∨ d (n - 1 - i) = 1)
    (hz : sdAccZ d n L = 0) :
    -(2 ^ m) < sdAccZ d n (L + m) ∧ sdAccZ d n (L + m) < 2 ^ m := by
  have := sdAccZ_add_bound d n L m hd
  rwa [hz, mul_zero, sub_zero] at this

/-- a vanishing signed-digit sum has only zero digits -/
theorem sdAccZ_eq_zero (d : Nat → ℤ) (n k : Nat)
    (hd : ∀ i < k, d (n - 1 - i) = -1 ∨ d (n - 1 - i) = 0 ∨ d (n - 1 - i) = 1)
    (hz : sdAccZ d n k = 0) : ∀ j < k, d (n - 1 - j) = 0 := by
  induction k with
  | zero => exact fun j hj => absurd hj (Nat.not_lt_zero j)
  | succ k ih =>
    rw [sdAccZ] at hz
    have hb : -1 ≤ d (n - 1 - k) ∧ d (n - 1 - k) ≤ 1 := by
      rcases hd k (Nat.lt_succ_self k) with h | h | h <;> rw [h] <;> decide
    -- `2·Z_k + d = 0` with `|d| ≤ 1`: the digit is even, hence `0`
    have hk : d (n - 1 - k) = 0 := by omega
    have hz' : sdAccZ d n k = 0 := by omega
    intro j hj
    rcases Nat.lt_or_eq_of_le (Nat.le_of_lt_succ hj) with hjk | rfl
    · exact ih (fun i hi => hd i (Nat.lt_succ_of_lt hi)) hz' j hjk
    · exact hk

/-- conversely, zero leading digits give `Z_k = 0` -/
theorem sdAccZ_of_top_zero (d : Nat → ℤ) (n k : Nat) (hz : ∀ j < k, d (n - 1 - j) = 0) :
    sdAccZ d n k = 0 := by
  induction k with
  | zero => rfl
  | succ k ih =>
    simp only [sdAccZ]
    rw [ih (fun j hj => hz j (Nat.lt_succ_of_lt hj)), hz k (Nat.lt_succ_self k)]; ring

open Finset in
/-- closed form: `Z_k = Σ_{i<k} d_(n−k+i)·2^i` -/
theorem sdAccZ_eq_sum (d : Nat → ℤ) (n k : Nat) (hk : k ≤ n) :
    sdAccZ d n k = ∑ i ∈ range k, d (n - k + i) * 2 ^ i := by
  induction k with
  | zero => simp [sdAccZ]
  | succ k ih =>
    simp only [sdAccZ]
    rw [ih (Nat.le_of_succ_le hk), Finset.sum_range_succ', Finset.mul_sum]
    have e0 : n - (k + 1) + 0 = n - 1 - k := by rw [Nat.add_zero, Nat.sub_sub, Nat.add_comm 1 k]
    rw [e0, pow_zero, mul_one]
    congr 1
    apply Finset.sum_congr rfl
    intro i _
    have e1 : n - (k + 1) + (i + 1) = n - k + i := by omega
    rw [e1, pow_succ]; ring

open Finset in
theorem sdAccZ_full (d : Nat → ℤ) (n : Nat) : sdAccZ d n n = ∑ i ∈ range n, d i * 2 ^ i := by
  rw [sdAccZ_eq_sum d n n le_rfl]
  apply Finset.sum_congr rfl
  intro i _; rw [Nat.sub_self, Nat.zero_add]

/-- an integer of absolute value below `R` that vanishes in `F` is zero -/
theorem int_eq_zero_of_cast {z : ℤ} (h : ((z : ℤ) : F) = 0) (h1 : -(R : ℤ) < z) (h2 : z < R) :
    z = 0 := by
  rw [ZMod.intCast_zmod_eq_zero_iff_dvd] at h
  exact Int.eq_zero_of_abs_lt_dvd h (abs_lt.mpr ⟨h1, h2⟩)

/-- a signed number below `p` and a reduced value below `B` that agree in `F` are equal, when
    `p + B ≤ R` -/
theorem int_eq_val_of_cast {z p : ℤ} {s : F} {B : ℕ} (h : (z : F) = s) (h1 : -p < z) (h2 : z < p)
    (hs : s.val < B) (hR : p + B ≤ R) : z = s.val := by
  have hc : ((z - (s.val : ℤ) : ℤ) : F) = 0 := by
    rw [Int.cast_sub, Int.cast_natCast, show ((s.val : ℕ) : F) = s from toF_val s, h, sub_self]
  have hs' : (s.val : ℤ) < B := Int.ofNat_lt.mpr hs
  have := int_eq_zero_of_cast hc (by omega) (by omega)
  omega

open Finset in
/-- `n` rounds, `L` pinned leading rounds, scalar bound `B`: the leading digits vanish and the
    digits recompose the scalar over ℤ.  Side conditions on the constants: `2^L ≤ R` and the
    no-wrap inequality `2^(n−L) + B ≤ R`. -/
theorem signed_digits_no_wrap (n L B : Nat) (hLn : L ≤ n) (hLR : 2 ^ L ≤ R)
    (hnw : 2 ^ (n - L) + B ≤ R)
    (d : Nat → ℤ) (acc : Nat → F) (s : F)
    (hd : ∀ i < n, d i = -1 ∨ d i = 0 ∨ d i = 1)
    (h0 : acc 0 = 0)
    (hstep : ∀ i < n, acc (i + 1) = 2 * acc i + ((d (n - 1 - i) : ℤ) : F))
    (hL : acc L = 0) (hfin : acc n = s) (hs : s.val < B) :
    (∀ j < L, d (n - 1 - j) = 0) ∧
    (∑ i ∈ range n, d i * 2 ^ i = (s.val : ℤ)) := by
  have hd' : ∀ k ≤ n, ∀ i < k, d (n - 1 - i) = -1 ∨ d (n - 1 - i) = 0 ∨ d (n - 1 - i) = 1 :=
    fun k _ i _ => hd _ (by omega)
  -- leading rounds: `|Z_L| < 2^L ≤ R` and `Z_L = 0` in `F`
  have hZL : sdAccZ d n L = 0 := by
    have hc := sdAcc_cast d n acc h0 L (fun i hi => hstep i (Nat.lt_of_lt_of_le hi hLn))
    obtain ⟨b1, b2⟩ := sdAccZ_bound d n L (hd' L hLn)
    have hp : (2 : ℤ) ^ L ≤ R := by exact_mod_cast hLR
    exact int_eq_zero_of_cast (hc.symm.trans hL) (by omega) (by omega)
  -- remaining rounds: `|Z_n| < 2^(n−L)` and `Z_n = s` in `F`
  have e : L + (n - L) = n := Nat.add_sub_cancel' hLn
  have hb := sdAccZ_bound_after d n L (n - L) (by rw [e]; exact hd' n le_rfl) hZL
  rw [e] at hb
  have hfull := int_eq_val_of_cast ((sdAcc_cast d n acc h0 n hstep).symm.trans hfin) hb.1 hb.2 hs
    (by exact_mod_cast hnw)
  rw [sdAccZ_full] at hfull
  exact ⟨sdAccZ_eq_zero d n L (hd' L hLn) hZL, hfull⟩

/-- the no-wrap inequality, from the extracted constants: `2^(256−3) + 2^252 ≤ R` -/
theorem no_wrap :
    2 ^ (Generated.FIXED_BASE_SIGNED_DIGIT_ROUNDS - Generated.FIXED_BASE_LEADING_ZERO_ROUNDS)
      + 2 ^ Generated.JUBJUB_SCALAR_BITS ≤ R := by decide +kernel

/-- the same with 2 leading rounds -/
theorem no_wrap_two :
    2 ^ (Generated.FIXED_BASE_SIGNED_DIGIT_ROUNDS - 2) + 2 ^ Generated.JUBJUB_SCALAR_BITS ≤ R := by
  decide +kernel

/-- with fewer than two pinned leading rounds the no-wrap inequality is false -/
theorem no_wrap_fails_below_two :
    ¬ (2 ^ (Generated.FIXED_BASE_SIGNED_DIGIT_ROUNDS - 1) + 2 ^ Generated.JUBJUB_SCALAR_BITS ≤ R) := by
  decide +kernel

theorem leading_rounds_small : 2 ^ Generated.FIXED_BASE_LEADING_ZERO_ROUNDS ≤ R := by decide +kernel
theorem leading_le_rounds :
    Generated.FIXED_BASE_LEADING_ZERO_ROUNDS ≤ Generated.FIXED_BASE_SIGNED_DIGIT_ROUNDS := by decide

open Finset in
/-- at the constants of `fixed_base.rs`: 256 rounds, accumulator pinned to `0` after 3 rounds,
    scalar `< 2^252` -/
theorem signed_digits_no_wrap_generated
    (d : Nat → ℤ) (acc : Nat → F) (s : F)
    (hd : ∀ i < Generated.FIXED_BASE_SIGNED_DIGIT_ROUNDS, d i = -1 ∨ d i = 0 ∨ d i = 1)
    (h0 : acc 0 = 0)
    (hstep : ∀ i < Generated.FIXED_BASE_SIGNED_DIGIT_ROUNDS,
      acc (i + 1) = 2 * acc i + ((d (Generated.FIXED_BASE_SIGNED_DIGIT_ROUNDS - 1 - i) : ℤ) : F))
    (hL : acc Generated.FIXED_BASE_LEADING_ZERO_ROUNDS = 0)
    (hfin : acc Generated.FIXED_BASE_SIGNED_DIGIT_ROUNDS = s)
    (hs : s.val < 2 ^ Generated.JUBJUB_SCALAR_BITS) :
    (∀ j < Generated.FIXED_BASE_LEADING_ZERO_ROUNDS,
      d (Generated.FIXED_BASE_SIGNED_DIGIT_ROUNDS - 1 - j) = 0) ∧
    (∑ i ∈ range Generated.FIXED_BASE_SIGNED_DIGIT_ROUNDS, d i * 2 ^ i = (s.val : ℤ)) :=
  signed_digits_no_wrap _ _ _ leading_le_rounds leading_rounds_small no_wrap d acc s hd h0 hstep hL
    hfin hs

/-! #### digits derived from the row constraint `bit·(bit−1)·(bit+1) = 0` -/

/-- the integer digit of a field value in `{−1,0,1}` -/
noncomputable def sdDigit (b : F) : ℤ := if b = 1 then 1 else if b = -1 then -1 else 0

theorem sdDigit_spec {b : F} (h : b = 0 ∨ b = 1 ∨ b = -1) :
    (sdDigit b = -1 ∨ sdDigit b = 0 ∨ sdDigit b = 1) ∧ ((sdDigit b : ℤ) : F) = b := by
  have h1 := neg_one_ne_one_F
  have h0 : (0 : F) ≠ -1 := fun h => one_ne_zero (neg_eq_zero.mp h.symm)
  unfold sdDigit
  rcases h with rfl | rfl | rfl
  · rw [if_neg zero_ne_one, if_neg h0, Int.cast_zero]; exact ⟨Or.inr (Or.inl rfl), rfl⟩
  · rw [if_pos rfl, Int.cast_one]; exact ⟨Or.inr (Or.inr rfl), rfl⟩
  · rw [if_neg h1, if_pos rfl, Int.cast_neg, Int.cast_one]; exact ⟨Or.inl rfl, rfl⟩

open Finset in
/-- Constraint-side form: an accumulator chain whose increments `acc_{i+1} − 2·acc_i`
    satisfy the bit-consistency cubic, pinned to `0` at rounds `0` and `L = 3` and to `s` at
    round 256 with `s < 2^252`, determines integer digits in `{−1,0,1}` that recompose `s`
    over ℤ, the three leading ones being `0`. -/
theorem signed_digit_chain (acc : Nat → F) (s : F)
    (h0 : acc 0 = 0)
    (hbit : ∀ i < Generated.FIXED_BASE_SIGNED_DIGIT_ROUNDS,
      (acc (i + 1) - 2 * acc i) * ((acc (i + 1) - 2 * acc i) - 1) * ((acc (i + 1) - 2 * acc i) + 1) = 0)
    (hL : acc Generated.FIXED_BASE_LEADING_ZERO_ROUNDS = 0)
    (hfin : acc Generated.FIXED_BASE_SIGNED_DIGIT_ROUNDS = s)
    (hs : s.val < 2 ^ Generated.JUBJUB_SCALAR_BITS) :
    ∃ d : Nat → ℤ,
      (∀ i < Generated.FIXED_BASE_SIGNED_DIGIT_ROUNDS, d i = -1 ∨ d i = 0 ∨ d i = 1) ∧
      (∀ i < Generated.FIXED_BASE_SIGNED_DIGIT_ROUNDS,
        acc (i + 1) - 2 * acc i = ((d (Generated.FIXED_BASE_SIGNED_DIGIT_ROUNDS - 1 - i) : ℤ) : F)) ∧
      (∀ j < Generated.FIXED_BASE_LEADING_ZERO_ROUNDS,
        d (Generated.FIXED_BASE_SIGNED_DIGIT_ROUNDS - 1 - j) = 0) ∧
      (∑ i ∈ range Generated.FIXED_BASE_SIGNED_DIGIT_ROUNDS, d i * 2 ^ i = (s.val : ℤ)) := by
  generalize hn : Generated.FIXED_BASE_SIGNED_DIGIT_ROUNDS = n at *
  let d : Nat → ℤ := fun i => sdDigit (acc (n - 1 - i + 1) - 2 * acc (n - 1 - i))
  have hd : ∀ i < n, d i = -1 ∨ d i = 0 ∨ d i = 1 := fun i hi =>
    (sdDigit_spec ((bitCons_iff _).mp (hbit _ (Nat.sub_one_sub_lt_of_lt hi)))).1
  have hinc : ∀ i < n, acc (i + 1) - 2 * acc i = ((d (n - 1 - i) : ℤ) : F) := by
    intro i hi
    have e : n - 1 - (n - 1 - i) = i := by omega
    simp only [d, e]
    exact (sdDigit_spec ((bitCons_iff _).mp (hbit i hi))).2.symm
  have hstep : ∀ i < n, acc (i + 1) = 2 * acc i + ((d (n - 1 - i) : ℤ) : F) := by
    intro i hi; rw [← hinc i hi]; ring
  subst hn
  obtain ⟨r1, r3⟩ := signed_digits_no_wrap_generated d acc s hd h0 hstep hL hfin hs
  exact ⟨d, hd, hinc, r1, r3⟩

/-! ### the width-2 NAF -/

/-- digit emitted by one step of `compute_windowed_naf(2)` -/
def nafDigit (k : Nat) : ℤ := if k % 2 = 1 then (if k % 4 ≥ 2 then -1 else 1) else 0
/-- remaining scalar after one step -/
def nafNext (k : Nat) : Nat :=
  if k % 2 = 1 then (if k % 4 ≥ 2 then (k + 1) / 2 else (k - 1) / 2) else k / 2

/-- the first `n` NAF digits of `k` -/
def nafList : Nat → Nat → List ℤ
  | 0, _ => []
  | n + 1, k => nafDigit k :: nafList n (nafNext k)

theorem wnaf2_go_eq (n k : Nat) (acc : List ℤ) :
    wnaf2.go n k acc = acc.reverse ++ nafList n k := by
  induction n generalizing k acc with
  | zero => simp [wnaf2.go, nafList]
  | succ n ih =>
    unfold wnaf2.go
    simp only [nafList, nafDigit, nafNext, beq_iff_eq]
    split
    · split
      · rw [ih]; simp
      · rw [ih]; simp
    · rw [ih]; simp

theorem wnaf2_eq (k : Nat) : wnaf2 k = nafList 256 k := by
  unfold wnaf2; rw [wnaf2_go_eq]; simp

theorem nafList_length (n k : Nat) : (nafList n k).length = n := by
  induction n generalizing k with
  | zero => rfl
  | succ n ih => simp [nafList, ih]

theorem nafDigit_cases (k : Nat) : nafDigit k = -1 ∨ nafDigit k = 0 ∨ nafDigit k = 1 := by
  unfold nafDigit; split
  · split <;> simp
  · simp

theorem nafList_digits (n k : Nat) : ∀ d ∈ nafList n k, d = -1 ∨ d = 0 ∨ d = 1 := by
  induction n generalizing k with
  | zero => intro d hd; simp [nafList] at hd
  | succ n ih =>
    intro d hd
    simp only [nafList, List.mem_cons] at hd
    rcases hd with h | h
    · rw [h]; exact nafDigit_cases k
    · exact ih _ d h

/-- one step preserves the value: `k = digit + 2·next` -/
theorem naf_step (k : Nat) : (k : ℤ) = nafDigit k + 2 * (nafNext k : ℤ) := by
  unfold nafDigit nafNext
  split
  · -- `k` is odd, so `k ± 1` is even; which of the two was taken does not matter
    split
    · next h4 => clear h4; omega
    · next h4 => clear h4; omega
  · omega

theorem nafNext_le (k : Nat) : 2 * nafNext k ≤ k + 1 := by
  have := naf_step k
  rcases nafDigit_cases k with h | h | h <;> omega

/-- little-endian integer value of a digit list -/
def listValZ : List ℤ → ℤ
  | [] => 0
  | d :: ds => d + 2 * listValZ ds

open Finset in
theorem listValZ_eq_sum (l : List ℤ) :
    listValZ l = ∑ i ∈ range l.length, l.getD i 0 * 2 ^ i := by
  induction l with
  | nil => simp [listValZ]
  | cons x xs ih =>
    simp only [listValZ, List.length_cons]
    rw [Finset.sum_range_succ', ih, Finset.mul_sum]
    simp only [List.getD_cons_zero, List.getD_cons_succ, pow_zero, mul_one]
    rw [add_comm]
    congr 1
    apply Finset.sum_congr rfl
    intro i _; rw [pow_succ]; ring

/-- the NAF of `0` is all zeros -/
theorem nafList_succ_zero (n : Nat) : nafList (n + 1) 0 = 0 :: nafList n 0 := rfl

theorem nafList_zero (n : Nat) : ∀ i, (nafList n 0).getD i 0 = 0 := by
  induction n with
  | zero => intro i; rfl
  | succ n ih =>
    intro i
    rw [nafList_succ_zero]
    cases i with
    | zero => rfl
    | succ i => exact ih i

theorem listValZ_nafList_zero (n : Nat) : listValZ (nafList n 0) = 0 := by
  induction n with
  | zero => rfl
  | succ n ih => rw [nafList_succ_zero, listValZ, ih]; rfl

/-- key invariant: a scalar `≤ 2^m` is exhausted after `m + 1` NAF digits -/
theorem nafList_small : ∀ n m k, k ≤ 2 ^ m → m + 1 ≤ n →
    listValZ (nafList n k) = k ∧ ∀ i, m + 1 ≤ i → (nafList n k).getD i 0 = 0
  | 0, _, _, _, hn => absurd hn (Nat.not_succ_le_zero _)
  | n + 1, 0, k, hk, _ => by
    have : k = 0 ∨ k = 1 := by omega
    rcases this with rfl | rfl
    · exact ⟨by rw [listValZ_nafList_zero]; rfl, fun i _ => nafList_zero _ i⟩
    · have h1 : nafDigit 1 = 1 := by decide
      have h2 : nafNext 1 = 0 := by decide
      refine ⟨by simp only [nafList, listValZ, h1, h2, listValZ_nafList_zero]; rfl, ?_⟩
      intro i hi
      match i, hi with
      | 0, hi => exact absurd hi (Nat.not_succ_le_zero _)
      | i + 1, _ => simp only [nafList, h2, List.getD_cons_succ]; exact nafList_zero _ i
  | n + 1, m + 1, k, hk, hn => by
    have hnext : nafNext k ≤ 2 ^ m := by
      have := nafNext_le k
      rw [pow_succ] at hk; omega
    obtain ⟨v, z⟩ := nafList_small n m (nafNext k) hnext (Nat.le_of_succ_le_succ hn)
    refine ⟨?_, ?_⟩
    · simp only [nafList, listValZ, v]; exact (naf_step k).symm
    · intro i hi
      match i, hi with
      | 0, hi => exact absurd hi (Nat.not_succ_le_zero _)
      | i + 1, hi =>
        simp only [nafList, List.getD_cons_succ]; exact z i (Nat.le_of_succ_le_succ hi)

open Finset in
/-- for `k ≤ 2^252` the 256-entry width-2 NAF has digits in `{−1,0,1}`, integer value `k`, and
    zero digits at positions `≥ 253` -/
theorem naf_bound (k : Nat) (hk : k ≤ 2 ^ Generated.JUBJUB_SCALAR_BITS) :
    (wnaf2 k).length = 256 ∧
    (∀ d ∈ wnaf2 k, d = -1 ∨ d = 0 ∨ d = 1) ∧
    (∑ i ∈ range 256, (wnaf2 k).getD i 0 * 2 ^ i = (k : ℤ)) ∧
    (∀ i, Generated.JUBJUB_SCALAR_BITS + 1 ≤ i → (wnaf2 k).getD i 0 = 0) := by
  rw [wnaf2_eq]
  obtain ⟨v, z⟩ := nafList_small 256 Generated.JUBJUB_SCALAR_BITS k hk (by decide)
  refine ⟨nafList_length _ _, nafList_digits _ _, ?_, z⟩
  rw [listValZ_eq_sum, nafList_length] at v; exact v

open Finset in
/-- a list of digits read with default `0` yields digits -/
theorem getD_digit {l : List ℤ} (h : ∀ d ∈ l, d = -1 ∨ d = 0 ∨ d = 1) (i : Nat) :
    l.getD i 0 = -1 ∨ l.getD i 0 = 0 ∨ l.getD i 0 = 1 := by
  by_cases hi : i < l.length
  · rw [List.getD_eq_getElem _ _ hi]; exact h _ (List.getElem_mem hi)
  · rw [List.getD_eq_default _ _ (Nat.le_of_not_lt hi)]; exact Or.inr (Or.inl rfl)

open Finset in
/-- the honest NAF digits of `k ≤ 2^252` drive the integer accumulator to `0` after the three
    leading rounds and to `k` after 256 rounds -/
theorem naf_chain_complete (k : Nat) (hk : k ≤ 2 ^ Generated.JUBJUB_SCALAR_BITS) :
    let d := fun i => (wnaf2 k).getD i 0
    (∀ i, d i = -1 ∨ d i = 0 ∨ d i = 1) ∧
    sdAccZ d 256 Generated.FIXED_BASE_LEADING_ZERO_ROUNDS = 0 ∧ sdAccZ d 256 256 = (k : ℤ) := by
  intro d
  obtain ⟨hlen, hdig, hval, hz⟩ := naf_bound k hk
  refine ⟨getD_digit hdig, ?_, ?_⟩
  · apply sdAccZ_of_top_zero
    intro j hj
    apply hz
    have : Generated.FIXED_BASE_LEADING_ZERO_ROUNDS = 3 := rfl
    have : Generated.JUBJUB_SCALAR_BITS = 252 := rfl
    omega
  · rw [sdAccZ_full]; exact hval

end Plonk
