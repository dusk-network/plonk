/-
  C12 — composer glue for the curve-group components of `point.rs`:
  `addPointGates` / `componentAddPoint`, `componentNegPoint`, `componentSubPoint`,
  `selectIdentityGates` / `componentSelectIdentity`, `componentSelectPoint`.
  (`componentMulPoint` is in `MulPoint.lean`.)

  `add_point_gates` is analysed on its explicit final state (`addOut`): its first gate reads the
  closing row, so it is exact but not plain.  Every other component is the chain of the
  specifications of its steps (`X_spec`, `Spec.lean`): the returned wires, what is appended, what
  the rows say under an ARBITRARY assignment (for sub: `subPoint_rel_iff` turns it into the
  group-law form on curve inputs), and when the model's own table satisfies them.
-/
import Plonk.Proofs.Arith
import Plonk.Proofs.Range
import Plonk.Proofs.EdwardsRows
import Plonk.Proofs.EdwardsGroup

namespace Plonk
open Plonk Plonk.Composer

namespace Composer

/-- the field point carried by the wire pair `p` under the assignment `w` -/
def ptW (w : Nat → Nat) (p : Pt) : PtF := (toF (w p.1), toF (w p.2))

@[simp] theorem ptW_fst (w : Nat → Nat) (p : Pt) : (ptW w p).1 = toF (w p.1) := rfl
@[simp] theorem ptW_snd (w : Nat → Nat) (p : Pt) : (ptW w p).2 = toF (w p.2) := rfl

theorem ptW_mk (w : Nat → Nat) (x y : Nat) : ptW w (x, y) = (toF (w x), toF (w y)) := rfl

/-- both wires of the pair are allocated -/
def PtAlloc (c : Composer) (p : Pt) : Prop := p.1 < c.wit.size ∧ p.2 < c.wit.size

theorem PtAlloc.mono {c c' : Composer} {p : Pt} (h : PtAlloc c p) (hx : Extends c c') :
    PtAlloc c' p := ⟨Nat.lt_of_lt_of_le h.1 hx.wit_size, Nat.lt_of_lt_of_le h.2 hx.wit_size⟩

theorem lt_wit_size {c : Composer} {n k i : Nat} (h : c.wit.size = n + k) (hi : i < k) :
    n + i < c.wit.size := h ▸ Nat.add_lt_add_left hi n

theorem PtAlloc.of_size {c : Composer} {n k i j : Nat} (h : c.wit.size = n + k) (hi : i < k)
    (hj : j < k) : PtAlloc c (n + i, n + j) := ⟨lt_wit_size h hi, lt_wit_size h hj⟩

theorem Extends.ptW_val_eq {c c' : Composer} (hx : Extends c c') {p : Pt} (h : PtAlloc c p) :
    ptW c'.val p = ptW c.val p := by
  unfold ptW; rw [hx.val_eq h.1, hx.val_eq h.2]

/-- the assignment `w0` below `n`, the field values `vs` on the wires from `n` on -/
def extW (w0 : Nat → Nat) (n : Nat) (vs : List F) : Nat → Nat :=
  fun i => if i < n then w0 i else (vs.getD (i - n) 0).val

theorem extW_old (w0 : Nat → Nat) (n : Nat) (vs : List F) {i : Nat} (h : i < n) :
    extW w0 n vs i = w0 i := if_pos h

theorem extW_new (w0 : Nat → Nat) (n : Nat) (vs : List F) (k : Nat) :
    toF (extW w0 n vs (n + k)) = vs.getD k 0 := by
  unfold extW
  rw [if_neg (Nat.not_lt.mpr (Nat.le_add_right n k)), Nat.add_sub_cancel_left, toF_val]

/-! ### `add_point_gates` -/

/-- the curve-addition gate on wires `(x1, y1, x2, y2)` -/
def addVarGate (a b : Pt) : Gate :=
  (Constraint.groupAddVariableBase { a := a.1, b := a.2, c := b.1, d := b.2 }).toGate

/-- the unselected closing row carrying `(x3, y3, _, x1·y2)`; `n` = first allocated witness -/
def addOutGate (n : Nat) : Gate := ({ a := n + 1, b := n + 2, d := n } : Constraint).toGate

def addOut (c : Composer) (a b : Pt) : Composer :=
  { gates := (c.gates.push (addVarGate a b)).push (addOutGate c.wit.size),
    wit := ((c.wit.push (fmul (c.val a.1) (c.val b.2) % R)).push
              ((edAddOrId (c.val a.1, c.val a.2) (c.val b.1, c.val b.2)).1 % R)).push
              ((edAddOrId (c.val a.1, c.val a.2) (c.val b.1, c.val b.2)).2 % R),
    pis := c.pis }

theorem addPointGates_run (a b : Pt) (c : Composer) :
    (addPointGates a b).run c = ((c.wit.size + 1, c.wit.size + 2), addOut c a b) := by
  unfold addPointGates addOut addVarGate addOutGate
  simp only [bind, StateT.bind, StateT.run, getVal, pure, StateT.pure, appendWitness,
    appendCustomGate]
  simp [Constraint.groupAddVariableBase, Constraint.fromExternal]

theorem addPointGates_fst (a b : Pt) (c : Composer) :
    ((addPointGates a b).run c).1 = (c.wit.size + 1, c.wit.size + 2) := by
  rw [addPointGates_run]

theorem addPointGates_snd (a b : Pt) (c : Composer) :
    ((addPointGates a b).run c).2 = addOut c a b := by rw [addPointGates_run]

theorem addOut_gates_size (c : Composer) (a b : Pt) :
    (addOut c a b).gates.size = c.gates.size + 2 := by simp [addOut]

theorem addOut_wit_size (c : Composer) (a b : Pt) :
    (addOut c a b).wit.size = c.wit.size + 3 := by simp [addOut]

theorem addOut_get0 (c : Composer) (a b : Pt) :
    (addOut c a b).gates[c.gates.size]? = some (addVarGate a b) := by
  show ((c.gates.push _).push _)[c.gates.size]? = _
  rw [push2_eq, Array.getElem?_append_right (Nat.le_refl _)]; simp

theorem addOut_get1 (c : Composer) (a b : Pt) :
    (addOut c a b).gates[c.gates.size + 1]? = some (addOutGate c.wit.size) := by
  show ((c.gates.push _).push _)[c.gates.size + 1]? = _
  rw [push2_eq, Array.getElem?_append_right (Nat.le_succ _)]; simp

theorem addOut_piAt (c : Composer) (a b : Pt) (i : Nat) : (addOut c a b).piAt i = c.piAt i := rfl

theorem addOut_extends (c : Composer) (a b : Pt) : Extends c (addOut c a b) :=
  extends_of_append _ _ (push2_eq _ _ _) (push3_eq _ _ _ _) rfl

theorem addOutGate_plain (n : Nat) : Gate.plain (addOutGate n) := ⟨rfl, rfl, rfl, rfl⟩

theorem addPointGates_appendsL (a b : Pt) (c : Composer) :
    AppendsL c ((addPointGates a b).run c).2 2 3 := by
  rw [addPointGates_snd]
  refine ⟨addOut_extends c a b, addOut_gates_size c a b, addOut_wit_size c a b, fun i _ hi => ?_⟩
  rw [addOut_gates_size] at hi
  obtain rfl : i = c.gates.size + 1 := Nat.succ.inj hi
  rw [gateAt_of_get (addOut_get1 c a b)]; exact addOutGate_plain _

theorem addPointGates_extends (a b : Pt) (c : Composer) :
    Extends c ((addPointGates a b).run c).2 := (addPointGates_appendsL a b c).ext

theorem addOut_val_helper (c : Composer) (a b : Pt) :
    (addOut c a b).val c.wit.size = fmul (c.val a.1) (c.val b.2) := by
  have h := val_of_wit_append (c := c) (c' := addOut c a b) (push3_eq _ _ _ _) 0
  rw [Nat.add_zero] at h; rw [h]
  simp [Nat.mod_eq_of_lt (fmul_lt _ _)]

theorem addOut_val_x (c : Composer) (a b : Pt) :
    (addOut c a b).val (c.wit.size + 1) =
      (edAddOrId (c.val a.1, c.val a.2) (c.val b.1, c.val b.2)).1 := by
  rw [val_of_wit_append (c := c) (c' := addOut c a b) (push3_eq _ _ _ _) 1]
  simp [Nat.mod_eq_of_lt (edAddOrId_lt _ _).1]

theorem addOut_val_y (c : Composer) (a b : Pt) :
    (addOut c a b).val (c.wit.size + 2) =
      (edAddOrId (c.val a.1, c.val a.2) (c.val b.1, c.val b.2)).2 := by
  rw [val_of_wit_append (c := c) (c' := addOut c a b) (push3_eq _ _ _ _) 2]
  simp [Nat.mod_eq_of_lt (edAddOrId_lt _ _).2]

theorem addPointGates_piFresh (a b : Pt) (c : Composer) (h : PiFresh c) :
    PiFresh ((addPointGates a b).run c).2 := by
  rw [addPointGates_snd]
  intro i hi
  rw [addOut_piAt]; rw [addOut_gates_size] at hi
  exact h i (Nat.le_trans (Nat.le_add_right _ 2) hi)

theorem addPointGates_wf (a b : Pt) (c : Composer) (h : WF c) :
    WF ((addPointGates a b).run c).2 := by
  refine ⟨fun i => ?_, addPointGates_piFresh a b c h.pis_zero⟩
  rw [addPointGates_snd]
  rcases Nat.lt_or_ge i c.wit.size with hi | hi
  · rw [(addOut_extends c a b).val_eq hi]; exact h.val_lt i
  · obtain ⟨k, rfl⟩ := Nat.exists_eq_add_of_le hi
    match k with
    | 0 => rw [Nat.add_zero, addOut_val_helper]; exact fmul_lt _ _
    | 1 => rw [addOut_val_x]; exact (edAddOrId_lt _ _).1
    | 2 => rw [addOut_val_y]; exact (edAddOrId_lt _ _).2
    | k + 3 =>
      rw [val_of_size_le _ (by
        rw [addOut_wit_size]; exact Nat.add_le_add_left (Nat.le_add_left 3 k) _)]
      exact R_pos

theorem rowHolds_addOutGate (n va vb vc vd an bn dn : Nat) :
    rowHolds (addOutGate n) va vb vc vd an bn dn 0 = true := by
  rw [rowHolds_arith _ rfl rfl rfl rfl]
  simp [arithF, addOutGate, Constraint.toGate]

theorem addPointGates_rows_iff (a b : Pt) (c : Composer) (hpi : PiFresh c) (w : Nat → Nat) :
    ((addPointGates a b).run c).2.rowsHoldW w c.gates.size
        ((addPointGates a b).run c).2.gates.size ↔
      VarRowF (toF (w a.1)) (toF (w a.2)) (toF (w b.1)) (toF (w b.2))
        (toF (w (c.wit.size + 1))) (toF (w (c.wit.size + 2))) (toF (w c.wit.size)) := by
  rw [addPointGates_snd, addOut_gates_size,
    rowsHoldW_split _ w (Nat.le_succ c.gates.size) (Nat.le_succ (c.gates.size + 1)),
    rowsHoldW_single, rowsHoldW_single]
  have p0 : (addOut c a b).piAt c.gates.size = 0 := hpi _ (Nat.le_refl _)
  have p1 : (addOut c a b).piAt (c.gates.size + 1) = 0 := hpi _ (Nat.le_succ _)
  rw [rowHoldsW_of_get (addOut_get0 c a b) (addOut_get1 c a b) p0,
    rowHoldsW_of_get_plain (addOut_get1 c a b) (addOutGate_plain _) p1, rowHolds_addOutGate]
  obtain ⟨hv, ha, hr, hl, hf⟩ :=
    groupAddVariableBase_selectors { a := a.1, b := a.2, c := b.1, d := b.2 }
  rw [addVarGate, rowHolds_var _ hv ha hr hl hf]
  simp [Constraint.groupAddVariableBase, Constraint.fromExternal, Constraint.toGate, addOutGate]

theorem addPointGates_rows_iff_on_curve (a b : Pt) (c : Composer) (hpi : PiFresh c)
    (w : Nat → Nat) (h1 : OnCurveP (ptW w a)) (h2 : OnCurveP (ptW w b)) :
    ((addPointGates a b).run c).2.rowsHoldW w c.gates.size
        ((addPointGates a b).run c).2.gates.size ↔
      toF (w c.wit.size) = toF (w a.1) * toF (w b.2) ∧
      ptW w (c.wit.size + 1, c.wit.size + 2) = addF (ptW w a) (ptW w b) := by
  rw [addPointGates_rows_iff a b c hpi w]
  exact varRowF_iff_of_on_curve h1 h2 _ _ _

theorem addPointGates_val (a b : Pt) (c : Composer)
    (h1 : OnCurveP (ptW c.val a)) (h2 : OnCurveP (ptW c.val b)) :
    toF (((addPointGates a b).run c).2.val c.wit.size) = toF (c.val a.1) * toF (c.val b.2) ∧
    ptW ((addPointGates a b).run c).2.val ((addPointGates a b).run c).1 =
      addF (ptW c.val a) (ptW c.val b) := by
  rw [addPointGates_fst, addPointGates_snd]
  refine ⟨by rw [addOut_val_helper, toF_fmul], ?_⟩
  have hs := toFP_edAddOrId (c.val a.1, c.val a.2) (c.val b.1, c.val b.2)
    ((onCurve_iff_P _).mpr h1) ((onCurve_iff_P _).mpr h2)
  unfold ptW
  simp only [addOut_val_x, addOut_val_y]
  exact hs

theorem addPointGates_honest_ext (a b : Pt) (c : Composer) (hpi : PiFresh c)
    (ha : PtAlloc c a) (hb : PtAlloc c b)
    (h1 : OnCurveP (ptW c.val a)) (h2 : OnCurveP (ptW c.val b))
    {c'' : Composer} (hext : Extends ((addPointGates a b).run c).2 c'') :
    ((addPointGates a b).run c).2.rowsHoldW c''.val c.gates.size
      ((addPointGates a b).run c).2.gates.size := by
  have hap := addPointGates_appendsL a b c
  have hex := hap.ext.trans hext
  have ea : ptW c''.val a = ptW c.val a := hex.ptW_val_eq ha
  have eb : ptW c''.val b = ptW c.val b := hex.ptW_val_eq hb
  rw [addPointGates_rows_iff_on_curve a b c hpi _ (by rw [ea]; exact h1) (by rw [eb]; exact h2)]
  obtain ⟨v1, v2⟩ := addPointGates_val a b c h1 h2
  rw [addPointGates_fst] at v2
  have hw : ((addPointGates a b).run c).2.wit.size = c.wit.size + 3 := hap.wit
  have eo : ptW c''.val (c.wit.size + 1, c.wit.size + 2) =
      ptW ((addPointGates a b).run c).2.val (c.wit.size + 1, c.wit.size + 2) :=
    hext.ptW_val_eq (.of_size hw (by decide) (by decide))
  have h0 : c.wit.size < ((addPointGates a b).run c).2.wit.size :=
    lt_wit_size hw (i := 0) (by decide)
  -- the new wires are read through `hext`, the input wires through `hex`
  rw [eo, v2, ea, eb, hext.val_eq h0, v1, hex.val_eq ha.1, hex.val_eq hb.2]
  exact ⟨rfl, rfl⟩

theorem addPointGates_honest (a b : Pt) (c : Composer) (hpi : PiFresh c)
    (ha : PtAlloc c a) (hb : PtAlloc c b)
    (h1 : OnCurveP (ptW c.val a)) (h2 : OnCurveP (ptW c.val b)) :
    ((addPointGates a b).run c).2.rowsHoldW ((addPointGates a b).run c).2.val c.gates.size
      ((addPointGates a b).run c).2.gates.size :=
  addPointGates_honest_ext a b c hpi ha hb h1 h2 (Extends.refl _)

theorem addPointGates_exists (a b : Pt) (c : Composer) (hpi : PiFresh c)
    (ha : PtAlloc c a) (hb : PtAlloc c b) (w0 : Nat → Nat)
    (h1 : OnCurveP (ptW w0 a)) (h2 : OnCurveP (ptW w0 b)) :
    ∃ w, (∀ i, i < c.wit.size → w i = w0 i) ∧
      ((addPointGates a b).run c).2.rowsHoldW w c.gates.size
        ((addPointGates a b).run c).2.gates.size := by
  let w := extW w0 c.wit.size
    [toF (w0 a.1) * toF (w0 b.2), (addF (ptW w0 a) (ptW w0 b)).1, (addF (ptW w0 a) (ptW w0 b)).2]
  have old : ∀ i, i < c.wit.size → w i = w0 i := fun i hi => extW_old _ _ _ hi
  have v0 : toF (w c.wit.size) = toF (w0 a.1) * toF (w0 b.2) := extW_new _ _ _ 0
  have v1 : toF (w (c.wit.size + 1)) = (addF (ptW w0 a) (ptW w0 b)).1 := extW_new _ _ _ 1
  have v2 : toF (w (c.wit.size + 2)) = (addF (ptW w0 a) (ptW w0 b)).2 := extW_new _ _ _ 2
  have ea : ptW w a = ptW w0 a := by unfold ptW; rw [old _ ha.1, old _ ha.2]
  have eb : ptW w b = ptW w0 b := by unfold ptW; rw [old _ hb.1, old _ hb.2]
  refine ⟨w, old, ?_⟩
  rw [addPointGates_rows_iff_on_curve a b c hpi _ (by rw [ea]; exact h1) (by rw [eb]; exact h2),
    ea, eb]
  refine ⟨by rw [v0, old _ ha.1, old _ hb.2], ?_⟩
  show (toF (w (c.wit.size + 1)), toF (w (c.wit.size + 2))) = _
  rw [v1, v2]

/-- `add_point_gates a b`: exact, not plain (the first gate reads the closing row).  The rows say
    `VarRowF` of the two inputs, the returned pair `(n+1, n+2)` and the helper wire `n`; the
    model's table satisfies them when the inputs it holds are allocated curve points. -/
theorem addPointGates_spec (a b : Pt) (c : Composer) :
    Spec 1 (addPointGates a b) c (c.wit.size + 1, c.wit.size + 2) 2 3
      (fun w => VarRowF (toF (w a.1)) (toF (w a.2)) (toF (w b.1)) (toF (w b.2))
        (toF (w (c.wit.size + 1))) (toF (w (c.wit.size + 2))) (toF (w c.wit.size)))
      (fun _ => True)
      (fun v => PtAlloc c a ∧ PtAlloc c b ∧ OnCurveP (ptW v a) ∧ OnCurveP (ptW v b)) where
  fst := addPointGates_fst a b c
  appendsL := addPointGates_appendsL a b c
  piFresh := addPointGates_piFresh a b c
  red i hi := by
    rw [addPointGates_snd]
    obtain ⟨k, rfl⟩ := Nat.exists_eq_add_of_le hi
    match k with
    | 0 => rw [Nat.add_zero, addOut_val_helper]; exact fmul_lt _ _
    | 1 => rw [addOut_val_x]; exact (edAddOrId_lt _ _).1
    | 2 => rw [addOut_val_y]; exact (edAddOrId_lt _ _).2
    | k + 3 =>
      rw [val_of_size_le _ (by
        rw [addOut_wit_size]; exact Nat.add_le_add_left (Nat.le_add_left 3 k) _)]
      exact R_pos
  sound h _ hext w hr := (addPointGates_rows_iff a b c h w).mp
    (((addPointGates_appendsL a b c).rows_ext hext w).mp hr)
  vals _ := trivial
  complete h c'' hext hH := by
    obtain ⟨ha, hb, h1, h2⟩ := hH
    have hex := (addPointGates_extends a b c).trans hext
    refine ((addPointGates_appendsL a b c).rows_ext hext _).mpr
      (addPointGates_honest_ext a b c h ha hb ?_ ?_ hext)
    · rw [← hex.ptW_val_eq ha]; exact h1
    · rw [← hex.ptW_val_eq hb]; exact h2
  conv _ h w hS := (addPointGates_rows_iff a b c h w).mpr hS
  plain hk := absurd hk (by decide)

theorem addPointGates_wit_size (a b : Pt) (c : Composer) :
    ((addPointGates a b).run c).2.wit.size = c.wit.size + 3 := (addPointGates_spec a b c).wit

/-! ### `component_add_point` (= `add_point_gates`) -/

theorem componentAddPoint_eq (a b : Pt) : componentAddPoint a b = addPointGates a b := rfl

theorem componentAddPoint_fst (a b : Pt) (c : Composer) :
    ((componentAddPoint a b).run c).1 = (c.wit.size + 1, c.wit.size + 2) :=
  addPointGates_fst a b c

/-! ### `component_neg_point` : one `gate_mul` with `q_L = −1` -/

/-- `component_neg_point p`: the new wire carries `−x`; the returned pair is `(n, p.2)` -/
theorem componentNegPoint_spec (p : Pt) (c : Composer) :
    Spec 2 (componentNegPoint p) c (c.wit.size, p.2) 1 1
      (fun w => toF (w c.wit.size) = - toF (w p.1)) (fun _ => True)
      (fun _ => p.1 < c.wit.size) := by
  unfold componentNegPoint
  exact ((gateSub_spec p.1 0 c).mono_iff (Nat.le_refl 2) rfl rfl rfl
    (fun w => by rw [toF_zero, zero_sub]) (fun _ _ h => h) (fun _ _ _ _ h => h)).bind_pure _

theorem componentNegPoint_wit_size (p : Pt) (c : Composer) :
    ((componentNegPoint p).run c).2.wit.size = c.wit.size + 1 := (componentNegPoint_spec p c).wit

theorem componentNegPoint_honest (p : Pt) (c : Composer) (hwf : WF c) (hp : PtAlloc c p) :
    ((componentNegPoint p).run c).2.rowsHoldW ((componentNegPoint p).run c).2.val c.gates.size
      ((componentNegPoint p).run c).2.gates.size :=
  (componentNegPoint_spec p c).complete hwf.pis_zero (Extends.refl _) hp.1

/-! ### `component_sub_point` : negate, then add -/

/-- state after the negation gate -/
def subMid (c : Composer) (b : Pt) : Composer := ((componentNegPoint b).run c).2

theorem subMid_gates_size (c : Composer) (b : Pt) : (subMid c b).gates.size = c.gates.size + 1 :=
  (componentNegPoint_spec b c).gates

/-- `component_sub_point a b`: negate, then add.  Wire `n` is `−x₂`, wire `n+1` the helper of the
    addition, the returned pair is `(n+2, n+3)`. -/
theorem componentSubPoint_spec (a b : Pt) (c : Composer) :
    Spec 1 (componentSubPoint a b) c (c.wit.size + 2, c.wit.size + 3) 3 4
      (fun w => toF (w c.wit.size) = - toF (w b.1) ∧
        VarRowF (toF (w a.1)) (toF (w a.2)) (toF (w c.wit.size)) (toF (w b.2))
          (toF (w (c.wit.size + 2))) (toF (w (c.wit.size + 3))) (toF (w (c.wit.size + 1))))
      (fun _ => True)
      (fun v => PtAlloc c a ∧ PtAlloc c b ∧ OnCurveP (ptW v a) ∧ OnCurveP (ptW v b)) := by
  unfold componentSubPoint componentAddPoint
  apply Spec.mono_iff
  · apply (componentNegPoint_spec _ _).bind
    exact addPointGates_spec _ _ _
  · decide
  · simp only [componentNegPoint_wit_size]
  · rfl
  · rfl
  · intro w; simp only [componentNegPoint_wit_size]
  · intros; trivial
  · rintro v - - - ⟨ha, hb, h1, h2⟩
    refine ⟨hb.1, fun e1 => ⟨ha.mono (componentNegPoint_spec b c).ext,
      ⟨by rw [componentNegPoint_wit_size]; exact Nat.lt_succ_self _,
        Nat.lt_of_lt_of_le hb.2 (componentNegPoint_spec b c).ext.wit_size⟩, h1, ?_⟩⟩
    have hn : ptW v (c.wit.size, b.2) = negF (ptW v b) := by
      unfold negF ptW; simp only [e1]
    rw [hn]; exact neg_on_curveP h2

/-- with on-curve inputs what the rows of `component_sub_point` say determines every new wire -/
theorem subPoint_rel_iff {w : Nat → Nat} {a b : Pt} {n : Nat}
    (h1 : OnCurveP (ptW w a)) (h2 : OnCurveP (ptW w b)) :
    (toF (w n) = - toF (w b.1) ∧
      VarRowF (toF (w a.1)) (toF (w a.2)) (toF (w n)) (toF (w b.2))
        (toF (w (n + 2))) (toF (w (n + 3))) (toF (w (n + 1)))) ↔
    (toF (w n) = - toF (w b.1) ∧ toF (w (n + 1)) = toF (w a.1) * toF (w b.2) ∧
      ptW w (n + 2, n + 3) = addF (ptW w a) (negF (ptW w b))) := by
  refine and_congr_right fun e1 => ?_
  have hn : (toF (w n), toF (w b.2)) = negF (ptW w b) := by
    unfold negF ptW; simp only [e1]
  have h2' : OnCurveP (toF (w n), toF (w b.2)) := by rw [hn]; exact neg_on_curveP h2
  rw [varRowF_iff_of_on_curve (x1 := toF (w a.1)) (y1 := toF (w a.2)) (x2 := toF (w n))
    (y2 := toF (w b.2)) h1 h2', hn]
  rfl

/-! ### `select_identity_gates` / `component_select_identity` -/

/-- field-level selection between `P` (`b = 1`) and the identity (`b = 0`):
    `(b·x, 1 − b + b·y)` -/
def selIdF (b : F) (P : PtF) : PtF := (b * P.1, 1 - b + b * P.2)

@[simp] theorem selIdF_zero (P : PtF) : selIdF 0 P = idF := by simp [selIdF, idF]
@[simp] theorem selIdF_one (P : PtF) : selIdF 1 P = P := by simp [selIdF]

theorem selIdF_on_curve {b : F} {P : PtF} (hb : b = 0 ∨ b = 1) (hP : OnCurveP P) :
    OnCurveP (selIdF b P) := by
  rcases hb with rfl | rfl
  · rw [selIdF_zero]; exact id_on_curveP
  · rw [selIdF_one]; exact hP

/-- `select_identity_gates bit a`: the returned pair `(n, n+1)` carries
    `(bit·x, 1 − bit + bit·y)` (no booleanity is enforced here) -/
theorem selectIdentityGates_spec (bit : Nat) (a : Pt) (c : Composer) :
    Spec 2 (selectIdentityGates bit a) c (c.wit.size, c.wit.size + 1) 2 2
      (fun w => ptW w (c.wit.size, c.wit.size + 1) = selIdF (toF (w bit)) (ptW w a))
      (fun _ => True) (fun _ => bit < c.wit.size ∧ PtAlloc c a) := by
  unfold selectIdentityGates
  apply Spec.mono_iff
  · apply (componentSelectZero_spec _ _ _).bind
    exact (componentSelectOne_spec _ _ _).bind_pure _
  · decide
  · simp only [componentSelectZero_wit_size]
  · rfl
  · rfl
  · intro w
    simp only [componentSelectZero_wit_size]
    unfold ptW selIdF
    simp only [Prod.mk.injEq]
  · intros; trivial
  · rintro v - - - ⟨hb, ha⟩
    simp only [componentSelectZero_wit_size]
    exact ⟨⟨hb, ha.1⟩, fun _ => ⟨Nat.lt_succ_of_lt hb, Nat.lt_succ_of_lt ha.2⟩⟩

/-- state after the boolean gate -/
def selIdB (c : Composer) (bit : Nat) : Composer := ((componentBoolean bit).run c).2

theorem selIdB_gates_size (c : Composer) (bit : Nat) :
    (selIdB c bit).gates.size = c.gates.size + 1 := (componentBoolean_spec bit c).gates

/-- `component_select_identity bit a` = `component_boolean` + `select_identity_gates` -/
theorem componentSelectIdentity_spec (bit : Nat) (a : Pt) (c : Composer) :
    Spec 2 (componentSelectIdentity bit a) c (c.wit.size, c.wit.size + 1) 3 2
      (fun w => (toF (w bit) = 0 ∨ toF (w bit) = 1) ∧
        ptW w (c.wit.size, c.wit.size + 1) = selIdF (toF (w bit)) (ptW w a))
      (fun _ => True)
      (fun v => bit < c.wit.size ∧ PtAlloc c a ∧ (v bit = 0 ∨ v bit = 1)) := by
  unfold componentSelectIdentity
  apply Spec.mono_iff
  · apply (componentBoolean_spec _ _).bind
    exact selectIdentityGates_spec _ _ _
  · decide
  · simp only [componentBoolean_wit_size]
  · rfl
  · rfl
  · intro w
    simp only [componentBoolean_wit_size, sq_eq_self_iff]
  · intros; trivial
  · rintro v - - - ⟨hb, ha, hbit⟩
    simp only [componentBoolean_wit_size]
    refine ⟨?_, fun _ => ⟨hb, ha⟩⟩
    rcases hbit with h | h <;> rw [h] <;> simp

/-! ### `component_select_point` : `bit·a + (1 − bit)·b` coordinate-wise -/

/-- field-level selection between two points -/
def selPtF (b : F) (P Q : PtF) : PtF := (b * P.1 + (1 - b) * Q.1, b * P.2 + (1 - b) * Q.2)

@[simp] theorem selPtF_one (P Q : PtF) : selPtF 1 P Q = P := by simp [selPtF]
@[simp] theorem selPtF_zero (P Q : PtF) : selPtF 0 P Q = Q := by simp [selPtF]

/-- `component_select_point bit a b`: two `component_select`; the returned pair is `(n+3, n+7)`.
    Booleanity of the bit is NOT enforced. -/
theorem componentSelectPoint_spec (bit : Nat) (a b : Pt) (c : Composer) :
    Spec 2 (componentSelectPoint bit a b) c (c.wit.size + 3, c.wit.size + 7) 8 8
      (fun w =>
        (toF (w c.wit.size) = toF (w bit) * toF (w a.1) ∧
         toF (w (c.wit.size + 1)) = 1 - toF (w bit) ∧
         toF (w (c.wit.size + 2)) = toF (w (c.wit.size + 1)) * toF (w b.1) ∧
         toF (w (c.wit.size + 3)) = toF (w (c.wit.size + 2)) + toF (w c.wit.size)) ∧
        (toF (w (c.wit.size + 4)) = toF (w bit) * toF (w a.2) ∧
         toF (w (c.wit.size + 5)) = 1 - toF (w bit) ∧
         toF (w (c.wit.size + 6)) = toF (w (c.wit.size + 5)) * toF (w b.2) ∧
         toF (w (c.wit.size + 7)) = toF (w (c.wit.size + 6)) + toF (w (c.wit.size + 4))))
      (fun _ => True)
      (fun _ => bit < c.wit.size ∧ PtAlloc c a ∧ PtAlloc c b) := by
  unfold componentSelectPoint
  apply Spec.mono_iff
  · apply (componentSelect_spec _ _ _ _).bind
    exact (componentSelect_spec _ _ _ _).bind_pure _
  · decide
  · simp only [componentSelect_wit_size]
  · rfl
  · rfl
  · intro w; simp only [componentSelect_wit_size]
  · intros; trivial
  · rintro v - - - ⟨hbit, ha, hb⟩
    simp only [componentSelect_wit_size]
    exact ⟨⟨hbit, ha.1, hb.1⟩, fun _ => ⟨Nat.lt_add_right 4 hbit, Nat.lt_add_right 4 ha.2,
      Nat.lt_add_right 4 hb.2⟩⟩

/-! ### `append_point`, `assert_equal_point` -/

/-- `append_point` of an affine pair: two witnesses `(n, n+1)`, no gate -/
theorem appendAffinePoint_spec (q : Pt) (c : Composer) :
    Spec 2 (appendAffinePoint q) c (c.wit.size, c.wit.size + 1) 0 2 (fun _ => True)
      (fun v => ptW v (c.wit.size, c.wit.size + 1) = toFP q) (fun _ => True) := by
  unfold appendAffinePoint
  apply Spec.mono_iff
  · apply (appendWitness_spec _ _).bind
    exact (appendWitness_spec _ _).bind_pure _
  · decide
  · simp only [appendWitness_run, Array.size_push]
  · rfl
  · rfl
  · exact fun _ => and_self_iff
  · rintro v - ⟨e₀, e₁⟩
    rw [appendWitness_run, Array.size_push] at e₁
    rw [ptW_mk, e₀, e₁, toF_mod, toF_mod]; rfl
  · intros; exact ⟨trivial, fun _ => trivial⟩

theorem appendAffinePoint_wit_size (q : Pt) (c : Composer) :
    ((appendAffinePoint q).run c).2.wit.size = c.wit.size + 2 := (appendAffinePoint_spec q c).wit

/-- `assert_equal_point a b`: the two pairs carry the same field point -/
theorem assertEqualPoint_spec (a b : Pt) (c : Composer) :
    Spec 2 (assertEqualPoint a b) c () 2 0 (fun w => ptW w a = ptW w b) (fun _ => True)
      (fun v => ptW v a = ptW v b) := by
  unfold assertEqualPoint
  apply Spec.mono_iff
  · apply (assertEqual_spec _ _ _).bind
    exact assertEqual_spec _ _ _
  · decide
  · rfl
  · rfl
  · rfl
  · exact fun w => ⟨fun h => Prod.ext h.1 h.2, fun h => ⟨congrArg Prod.fst h, congrArg Prod.snd h⟩⟩
  · intros; trivial
  · exact fun _ _ _ _ h => ⟨congrArg Prod.fst h, fun _ => congrArg Prod.snd h⟩

end Composer

/-! ### the prime-order subgroup is closed under what the components compute -/

/-- `P` is a point of the prime-order subgroup: on the curve and killed by `r_J` -/
def InSubgroup (P : PtF) : Prop := OnCurveP P ∧ smulF RJ P = idF

theorem inSubgroup_id : InSubgroup idF := ⟨id_on_curveP, smulF_id RJ⟩

theorem InSubgroup.add {P Q : PtF} (hP : InSubgroup P) (hQ : InSubgroup Q) :
    InSubgroup (addF P Q) :=
  ⟨add_on_curveP hP.1 hQ.1, by rw [smulF_addF RJ hP.1 hQ.1, hP.2, hQ.2, addF_id]⟩

theorem InSubgroup.neg {P : PtF} (hP : InSubgroup P) : InSubgroup (negF P) :=
  ⟨neg_on_curveP hP.1, by rw [smulF_negF, hP.2, negF_id]⟩

theorem InSubgroup.sub {P Q : PtF} (hP : InSubgroup P) (hQ : InSubgroup Q) :
    InSubgroup (addF P (negF Q)) := hP.add hQ.neg

theorem InSubgroup.smul {P : PtF} (hP : InSubgroup P) (n : ℕ) : InSubgroup (smulF n P) :=
  ⟨smulF_on_curve n hP.1, by
    rw [← smulF_mul _ _ hP.1, Nat.mul_comm, smulF_mul _ _ hP.1, hP.2, smulF_id]⟩

theorem InSubgroup.sel {P : PtF} (hP : InSubgroup P) {b : F} (hb : b = 0 ∨ b = 1) :
    InSubgroup (Composer.selIdF b P) := by
  rcases hb with rfl | rfl
  · rw [Composer.selIdF_zero]; exact inSubgroup_id
  · rw [Composer.selIdF_one]; exact hP

end Plonk
