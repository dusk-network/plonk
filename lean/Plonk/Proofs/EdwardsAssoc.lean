/-
  Associativity of the twisted Edwards addition law on JubJub curve points.
  For the `x`-coordinate, the cross-multiplied identity lies in the ideal of the three curve
  equations (`assoc_poly_X`), and completeness (`add_complete`) makes the denominators non-zero.
  The `y`-coordinate is the `x`-coordinate after translating by the point `(i, 0)` of order 4,
  `i² = -1`.
-/
import Plonk.Proofs.Edwards

namespace Plonk

/-- cross-multiplied `x`-coordinates of `(P₁+P₂)+P₃` and `(P₂+P₃)+P₁`, in the ideal of the curve
    equations `fₖ = 0`.  Write `tₖ = xₖyₖ`, `Δ = x₁y₃ − y₁x₃`, `Γ = y₁y₃ − x₁x₃` and
    `S = y₂(x₁y₃ + y₁x₃) + x₂(y₁y₃ + x₁x₃)`, the part of both numerators that is symmetric in the
    three points.  Expanding both sides in `x₂, y₂` and replacing `yₖ² − xₖ² − 1` by `d·tₖ²` leaves
    `d²t₂²·S·(t₃²·d·t₁² − t₁²·d·t₃²) = 0`; collecting what the replacements cost gives
    `lhs − rhs = d·t₂·( t₃(d·t₂t₃·S + y₂Δ − x₂Γ)·f₁ + d·t₁t₃(x₂Γ(t₁−t₃) − y₂Δ(t₁+t₃))·f₂
                        − t₁(d·t₁t₂·S − y₂Δ − x₂Γ)·f₃ )`. -/
theorem assoc_poly_X {x1 y1 x2 y2 x3 y3 : F}
    (h1 : OnCurveF x1 y1) (h2 : OnCurveF x2 y2) (h3 : OnCurveF x3 y3) :
    ((x1 * y2 + y1 * x2) * (1 - dF * x1 * x2 * y1 * y2) * y3
        + (y1 * y2 + x1 * x2) * (1 + dF * x1 * x2 * y1 * y2) * x3)
      * ((1 + dF * x2 * x3 * y2 * y3) * (1 - dF * x2 * x3 * y2 * y3)
        + dF * (x2 * y3 + y2 * x3) * (y2 * y3 + x2 * x3) * x1 * y1)
    = ((x2 * y3 + y2 * x3) * (1 - dF * x2 * x3 * y2 * y3) * y1
        + (y2 * y3 + x2 * x3) * (1 + dF * x2 * x3 * y2 * y3) * x1)
      * ((1 + dF * x1 * x2 * y1 * y2) * (1 - dF * x1 * x2 * y1 * y2)
        + dF * (x1 * y2 + y1 * x2) * (y1 * y2 + x1 * x2) * x3 * y3) := by
  unfold OnCurveF at h1 h2 h3
  linear_combination
    (dF * (x2 * y2) * ((x3 * y3) * (dF * (x2 * y2) * (x3 * y3)
        * (y2 * (x1 * y3 + y1 * x3) + x2 * (y1 * y3 + x1 * x3))
        + (y2 * (x1 * y3 - y1 * x3) - x2 * (y1 * y3 - x1 * x3))))) * h1
    + (dF * (x2 * y2) * (dF * (x1 * y1) * (x3 * y3)
        * (x2 * (y1 * y3 - x1 * x3) * (x1 * y1 - x3 * y3)
          - y2 * (x1 * y3 - y1 * x3) * (x1 * y1 + x3 * y3)))) * h2
    - (dF * (x2 * y2) * ((x1 * y1) * (dF * (x1 * y1) * (x2 * y2)
        * (y2 * (x1 * y3 + y1 * x3) + x2 * (y1 * y3 + x1 * x3))
        - (y2 * (x1 * y3 - y1 * x3) + x2 * (y1 * y3 - x1 * x3))))) * h3

theorem addF_comm (p q : PtF) : addF p q = addF q p := by
  unfold addF
  apply Prod.ext <;> simp only <;> ring

theorem dF_mul_div (A B X Y u v : F) :
    dF * (X / A) * u * (Y / B) * v = dF * X * Y * u * v / (A * B) := by ring

theorem one_add_dF_mul_div {A B X Y u v : F} (hA : A ≠ 0) (hB : B ≠ 0) :
    1 + dF * (X / A) * u * (Y / B) * v = (A * B + dF * X * Y * u * v) / (A * B) := by
  rw [dF_mul_div, one_add_div (mul_ne_zero hA hB)]

/-- the sum of a point given by fractions and a second point, as a pair of fractions -/
theorem addF_div_left {A B X Y u v : F} (hA : A ≠ 0) (hB : B ≠ 0) :
    addF (X / A, Y / B) (u, v) =
      ((X * B * v + Y * A * u) / (A * B + dF * X * Y * u * v),
       (Y * A * v + X * B * u) / (A * B - dF * X * Y * u * v)) := by
  have hAB : A * B ≠ 0 := mul_ne_zero hA hB
  have n1 : X / A * v + Y / B * u = (X * B * v + Y * A * u) / (A * B) := by
    rw [div_mul_eq_mul_div, div_mul_eq_mul_div, div_add_div _ _ hA hB]; ring
  have n2 : Y / B * v + X / A * u = (Y * A * v + X * B * u) / (A * B) := by
    rw [div_mul_eq_mul_div, div_mul_eq_mul_div, div_add_div _ _ hB hA]; ring
  simp only [addF, n1, n2, dF_mul_div, one_add_div hAB, one_sub_div hAB,
    div_div_div_cancel_right₀ hAB]

/-- the `x`-coordinates of `(P+Q)+R` and `P+(Q+R)` agree -/
theorem addF_assoc_fst {p q r : PtF} (hp : OnCurveP p) (hq : OnCurveP q) (hr : OnCurveP r) :
    (addF (addF p q) r).1 = (addF p (addF q r)).1 := by
  obtain ⟨hL, -⟩ := add_completeP (add_on_curveP hp hq) hr
  obtain ⟨hR, -⟩ := add_completeP (add_on_curveP hq hr) hp
  obtain ⟨hA12, hB12⟩ := add_completeP hp hq
  obtain ⟨hA23, hB23⟩ := add_completeP hq hr
  have eL : addF (addF p q) r = _ := addF_div_left hA12 hB12 (u := r.1) (v := r.2)
  have eR : addF (addF q r) p = _ := addF_div_left hA23 hB23 (u := p.1) (v := p.2)
  have dL := (div_ne_zero_iff.mp ((one_add_dF_mul_div hA12 hB12).symm.trans_ne hL)).1
  have dR := (div_ne_zero_iff.mp ((one_add_dF_mul_div hA23 hB23).symm.trans_ne hR)).1
  rw [addF_comm p (addF q r), eL, eR]
  exact (div_eq_div_iff dL dR).mpr (assoc_poly_X hp hq hr)

/-- For `i² = -1` the map `(x, y) ↦ (i·y, i·x)` (translation by the point `(i, 0)` of order 4)
    preserves the curve … -/
theorem onCurveP_rot {i : F} (hi : i * i = -1) {p : PtF} (hp : OnCurveP p) :
    OnCurveP (i * p.2, i * p.1) := by
  unfold OnCurveP OnCurveF at *
  linear_combination
    hp + (p.1 * p.1 - p.2 * p.2 - dF * (p.1 * p.2) * (p.1 * p.2) * (i * i - 1)) * hi

/-- … and commutes with the addition law, exchanging the two coordinates. -/
theorem addF_rot {i : F} (hi : i * i = -1) (p q : PtF) :
    addF (i * p.2, i * p.1) q = (i * (addF p q).2, i * (addF p q).1) := by
  have e1 : 1 + dF * (i * p.2) * q.1 * (i * p.1) * q.2 = 1 - dF * p.1 * q.1 * p.2 * q.2 := by
    linear_combination (dF * p.1 * q.1 * p.2 * q.2) * hi
  have e2 : 1 - dF * (i * p.2) * q.1 * (i * p.1) * q.2 = 1 + dF * p.1 * q.1 * p.2 * q.2 := by
    linear_combination -(dF * p.1 * q.1 * p.2 * q.2) * hi
  simp only [addF, e1, e2, ← mul_div_assoc, Prod.mk.injEq]
  constructor <;> congr 1 <;> ring

/-- Associativity of the addition law on curve points.  The `y`-coordinates follow from the
    `x`-coordinates of the points translated by `(i, 0)`. -/
theorem addF_assoc {p q r : PtF} (hp : OnCurveP p) (hq : OnCurveP q) (hr : OnCurveP r) :
    addF (addF p q) r = addF p (addF q r) := by
  obtain ⟨i, hi⟩ := neg_one_is_square
  have hi0 : i ≠ 0 := by rintro rfl; simp at hi
  refine Prod.ext (addF_assoc_fst hp hq hr) ?_
  have h := addF_assoc_fst (onCurveP_rot hi.symm hp) hq hr
  rw [addF_rot hi.symm, addF_rot hi.symm, addF_rot hi.symm] at h
  exact mul_left_cancel₀ hi0 h

end Plonk
