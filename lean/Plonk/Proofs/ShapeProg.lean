/-
  Property C07 — error-aware composition and whole programs.

  A circuit description (`Circuit::circuit`) is a sequence of component calls chained with `?`:
  it stops at the first error.  `ExceptT CErr CM` is that monad.  `ShapeEqE m₁ m₂` says: run on
  two states of the same shape, *if both succeed* they return the same indices and leave states
  of the same shape.  (Whether an entry point fails may depend on values — `append_point` on a
  `Z = 0` point, `component_mul_generator` on a scalar `≥ r_J` — see the `error_iff` lemmas; a
  failing run does not produce a circuit at all.)
-/
import Plonk.Proofs.ShapePoint

namespace Plonk
open Plonk Plonk.Composer

/-- the circuit-synthesis monad: composer state plus early exit with a `CErr` -/
abbrev CME := ExceptT CErr CM

theorem CME.bind_run {α β : Type} (m : CME α) (k : α → CME β) (c : Composer) :
    (m >>= k).run.run c =
      match (m.run.run c).1 with
      | .ok a => (k a).run.run (m.run.run c).2
      | .error e => (.error e, (m.run.run c).2) := by
  show (ExceptT.bindCont k (m.run.run c).1).run (m.run.run c).2 = _
  cases (m.run.run c).1 <;> rfl

/-- if both runs succeed, same result (indices) and same shape -/
def ShapeEqE {α : Type} (m₁ m₂ : CME α) : Prop :=
  ∀ c₁ c₂, SameShape c₁ c₂ → ∀ a₁ a₂,
    (m₁.run.run c₁).1 = .ok a₁ → (m₂.run.run c₂).1 = .ok a₂ →
      a₁ = a₂ ∧ SameShape (m₁.run.run c₁).2 (m₂.run.run c₂).2

namespace ShapeEqE
variable {α β : Type}

theorem pure (a : α) : ShapeEqE (Pure.pure a : CME α) (Pure.pure a) :=
  fun _ _ h _ _ h₁ h₂ => ⟨(Except.ok.inj h₁).symm.trans (Except.ok.inj h₂), h⟩

/-- a total component (no error path) used inside a program -/
theorem lift {m₁ m₂ : CM α} (h : ShapeEq m₁ m₂) :
    ShapeEqE (liftM m₁ : CME α) (liftM m₂ : CME α) :=
  fun c₁ c₂ hc _ _ h₁ h₂ =>
    ⟨(Except.ok.inj h₁).symm.trans (((h c₁ c₂ hc).1).trans (Except.ok.inj h₂)), (h c₁ c₂ hc).2⟩

/-- `ShapeEqE` on `ExceptT.mk m` unfolds to this statement about `m` -/
theorem mk {m₁ m₂ : CM (Except CErr α)}
    (h : ∀ c₁ c₂, SameShape c₁ c₂ → ∀ a₁ a₂, (m₁.run c₁).1 = .ok a₁ → (m₂.run c₂).1 = .ok a₂ →
      a₁ = a₂ ∧ SameShape (m₁.run c₁).2 (m₂.run c₂).2) :
    ShapeEqE (ExceptT.mk m₁) (ExceptT.mk m₂) := h

/-- an entry point whose successful runs agree as `ShapeEq` demands -/
theorem mk_of_fst_eq {m₁ m₂ : CM (Except CErr α)}
    (h : ∀ c₁ c₂, SameShape c₁ c₂ → ∀ a₁ a₂, (m₁.run c₁).1 = .ok a₁ → (m₂.run c₂).1 = .ok a₂ →
      (m₁.run c₁).1 = (m₂.run c₂).1 ∧ SameShape (m₁.run c₁).2 (m₂.run c₂).2) :
    ShapeEqE (ExceptT.mk m₁) (ExceptT.mk m₂) := by
  refine .mk fun c₁ c₂ hc a₁ a₂ h₁ h₂ => ?_
  obtain ⟨hr, hs⟩ := h c₁ c₂ hc a₁ a₂ h₁ h₂
  rw [h₁, h₂] at hr
  exact ⟨by injection hr, hs⟩

theorem bind {m₁ m₂ : CME α} {k₁ k₂ : α → CME β} (hm : ShapeEqE m₁ m₂)
    (hk : ∀ a, ShapeEqE (k₁ a) (k₂ a)) : ShapeEqE (m₁ >>= k₁) (m₂ >>= k₂) := by
  intro c₁ c₂ hc b₁ b₂
  rw [CME.bind_run, CME.bind_run]
  cases h₁ : (m₁.run.run c₁).1 with
  | error e => intro h; cases h
  | ok a₁ =>
    cases h₂ : (m₂.run.run c₂).1 with
    | error e => intro _ h; cases h
    | ok a₂ =>
      obtain ⟨rfl, hs⟩ := hm c₁ c₂ hc a₁ a₂ h₁ h₂
      exact hk a₁ _ _ hs b₁ b₂

end ShapeEqE

namespace Composer

/-! ### the error-returning entry points as program steps -/

theorem appendPoint_shapeE (e₁ e₂ : Ext) :
    ShapeEqE (ExceptT.mk (appendPoint e₁)) (ExceptT.mk (appendPoint e₂)) :=
  .mk_of_fst_eq fun c₁ c₂ hc _ _ h₁ h₂ => appendPoint_shape
    (ne_zero_of_ok (fun hz => by rw [appendPoint_degenerate hz]) h₁)
    (ne_zero_of_ok (fun hz => by rw [appendPoint_degenerate hz]) h₂) c₁ c₂ hc

theorem appendConstantPoint_shapeE (e : Ext) :
    ShapeEqE (ExceptT.mk (appendConstantPoint e)) (ExceptT.mk (appendConstantPoint e)) :=
  .mk_of_fst_eq fun c₁ c₂ hc _ _ _ _ => appendConstantPoint_valueFree.shapeEq c₁ c₂ hc

theorem appendPublicPoint_shapeE (e₁ e₂ : Ext) :
    ShapeEqE (ExceptT.mk (appendPublicPoint e₁)) (ExceptT.mk (appendPublicPoint e₂)) :=
  .mk_of_fst_eq fun c₁ c₂ hc _ _ h₁ h₂ => appendPublicPoint_shape
    (ne_zero_of_ok (fun hz => by rw [appendPublicPoint_degenerate hz]) h₁)
    (ne_zero_of_ok (fun hz => by rw [appendPublicPoint_degenerate hz]) h₂) c₁ c₂ hc

theorem assertEqualPublicPoint_shapeE (p : Pt) (e₁ e₂ : Ext) :
    ShapeEqE (ExceptT.mk (assertEqualPublicPoint p e₁))
      (ExceptT.mk (assertEqualPublicPoint p e₂)) :=
  .mk_of_fst_eq fun c₁ c₂ hc _ _ h₁ h₂ => assertEqualPublicPoint_shape p
    (ne_zero_of_ok (fun hz => by rw [assertEqualPublicPoint_degenerate p hz]) h₁)
    (ne_zero_of_ok (fun hz => by rw [assertEqualPublicPoint_degenerate p hz]) h₂) c₁ c₂ hc

theorem appendFixedBaseSignedDigits_shapeE (jubjub : Nat) (gen : Pt) {ds₁ ds₂ : List Int}
    (hl : min ds₁.length Generated.FIXED_BASE_SIGNED_DIGIT_ROUNDS =
          min ds₂.length Generated.FIXED_BASE_SIGNED_DIGIT_ROUNDS) :
    ShapeEqE (ExceptT.mk (appendFixedBaseSignedDigits jubjub gen ds₁))
      (ExceptT.mk (appendFixedBaseSignedDigits jubjub gen ds₂)) := by
  refine .mk_of_fst_eq fun c₁ c₂ hc a₁ a₂ h₁ h₂ => ?_
  have valid : ∀ {ds c a}, ((appendFixedBaseSignedDigits jubjub gen ds).run c).1 = .ok a →
      badDigits ds = false := fun {ds c a} h => by
    cases hb : badDigits ds
    · rfl
    · have := (appendFixedBaseSignedDigits_error_iff jubjub gen ds c _).mpr ⟨rfl, hb⟩
      rw [h] at this
      cases this
  exact (appendFixedBaseSignedDigits_valueFree jubjub gen ((valid h₁).trans (valid h₂).symm)
    fun _ => hl).shapeEq c₁ c₂ hc

theorem componentMulGenerator_shapeE (jubjub : Nat) (gen : Ext) :
    ShapeEqE (ExceptT.mk (componentMulGenerator jubjub gen))
      (ExceptT.mk (componentMulGenerator jubjub gen)) :=
  .mk_of_fst_eq fun c₁ c₂ hc a₁ a₂ h₁ h₂ => componentMulGenerator_shape jubjub gen hc
    ((componentMulGenerator_ok_iff jubjub gen c₁).mp ⟨a₁, h₁⟩).2
    ((componentMulGenerator_ok_iff jubjub gen c₂).mp ⟨a₂, h₂⟩).2

end Composer

/-! ### whole programs

  A program is a list of steps over a register file of witness indices, as in the op language of
  `Plonk/Driver/Prog.lean` (`execOp` reads operand indices from registers filled by earlier ops,
  `pushRegs` appends the indices an op returns). -/

/-- one program step: from the registers so far to the indices it returns -/
abbrev Step := List Nat → CME (List Nat)

/-- run the steps in order; stop at the first error -/
def runSteps : List Step → List Nat → CME (List Nat)
  | [], regs => pure regs
  | f :: fs, regs => do
    let out ← f regs
    runSteps fs (regs ++ out)

/-- two step lists are the same calls up to value parameters -/
inductive StepsRel : List Step → List Step → Prop
  | nil : StepsRel [] []
  | cons {f g : Step} {fs gs : List Step} :
      (∀ regs, ShapeEqE (f regs) (g regs)) → StepsRel fs gs → StepsRel (f :: fs) (g :: gs)

theorem runSteps_shapeE {fs gs : List Step} (h : StepsRel fs gs) :
    ∀ regs, ShapeEqE (runSteps fs regs) (runSteps gs regs) := by
  induction h with
  | nil => intro regs; exact .pure _
  | cons hf _ ih =>
    intro regs
    unfold runSteps
    exact .bind (hf regs) fun out => ih _

/-- a step without error path (e.g. a lifted total component) -/
def Step.Total (f : Step) : Prop := ∀ regs c, ∃ r, ((f regs).run.run c).1 = .ok r

theorem Step.total_lift (m : List Nat → CM (List Nat)) :
    Step.Total (fun regs => (liftM (m regs) : CME (List Nat))) :=
  fun regs c => ⟨((m regs).run c).1, rfl⟩

theorem runSteps_total : ∀ {fs : List Step}, (∀ f ∈ fs, Step.Total f) →
    ∀ regs c, ∃ r, ((runSteps fs regs).run.run c).1 = .ok r
  | [], _, regs, _ => ⟨regs, rfl⟩
  | f :: fs, h, regs, c => by
    unfold runSteps
    rw [CME.bind_run]
    obtain ⟨r, hr⟩ := h f (List.mem_cons_self) regs c
    rw [hr]
    exact runSteps_total (fun g hg => h g (List.mem_cons_of_mem _ hg)) _ _

end Plonk
