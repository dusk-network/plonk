/-
  Refinement of the coefficient-list polynomials of `Plonk/Model/Poly.lean` into Mathlib's
  `Polynomial (ZMod R)`: interpretation `toPoly`, the representation predicates `Reduced`,
  `Trimmed`, and one refinement lemma per operation of the model.
-/
import Mathlib.Algebra.Polynomial.Basic
import Mathlib.Algebra.Polynomial.Coeff
import Mathlib.Algebra.Polynomial.Eval.Defs
import Mathlib.Algebra.Polynomial.Eval.Coeff
import Mathlib.Algebra.Polynomial.Degree.Defs
import Mathlib.Algebra.Polynomial.Degree.Lemmas
import Mathlib.Algebra.Polynomial.Div
import Mathlib.Data.List.DropRight
import Mathlib.Data.List.GetD
import Mathlib.Tactic.Ring
import Mathlib.Tactic.LinearCombination
import Plonk.Proofs.FieldBridge
import Plonk.Model.FFT

namespace Plonk
open Polynomial

/-- interpretation of a little-endian coefficient list: `Σ_i C (toF p[i]) * X^i` -/
noncomputable def toPoly : List Nat → F[X]
  | [] => 0
  | x :: xs => C (toF x) + X * toPoly xs

@[simp] theorem toPoly_nil : toPoly [] = 0 := rfl
@[simp] theorem toPoly_cons (x : Nat) (xs : List Nat) :
    toPoly (x :: xs) = C (toF x) + X * toPoly xs := rfl

theorem coeff_toPoly (p : List Nat) (i : Nat) : (toPoly p).coeff i = toF (p.getD i 0) := by
  induction p generalizing i with
  | nil => rw [toPoly_nil, coeff_zero, List.getD_nil, toF_zero]
  | cons x xs ih =>
    cases i with
    | zero => rw [toPoly_cons, coeff_add, coeff_C_zero, coeff_X_mul_zero, add_zero, List.getD_cons_zero]
    | succ i =>
      rw [toPoly_cons, coeff_add, coeff_C_succ, coeff_X_mul, zero_add, ih, List.getD_cons_succ]

theorem toPoly_eq_sum (p : List Nat) :
    toPoly p = ∑ i ∈ Finset.range p.length, C (toF (p.getD i 0)) * X ^ i := by
  ext k
  rw [coeff_toPoly, finsetSum_coeff]
  simp only [coeff_C_mul_X_pow]
  by_cases hk : k < p.length
  · rw [Finset.sum_eq_single k]
    · simp
    · intro b _ hb; simp [Ne.symm hb]
    · intro h; exact absurd (Finset.mem_range.mpr hk) h
  · rw [List.getD_eq_default _ _ (Nat.le_of_not_lt hk), Finset.sum_eq_zero]
    · simp
    · intro i hi
      have : i < p.length := Finset.mem_range.mp hi
      have : k ≠ i := by omega
      simp [this]

theorem toPoly_set (cs : List Nat) (i v : Nat) (hi : i < cs.length) :
    toPoly (cs.set i v) = toPoly cs + C (toF v - toF (cs.getD i 0)) * X ^ i := by
  ext k
  rw [coeff_add, coeff_toPoly, coeff_toPoly, coeff_C_mul_X_pow]
  by_cases hk : k = i
  · subst hk
    rw [if_pos rfl, List.getD_eq_getElem?_getD, List.getD_eq_getElem?_getD, List.getElem?_set_self hi]
    simp
  · rw [if_neg hk, List.getD_eq_getElem?_getD, List.getD_eq_getElem?_getD,
      List.getElem?_set_ne (Ne.symm hk)]
    simp

theorem toPoly_ext {p q : List Nat} (h : ∀ i, toF (p.getD i 0) = toF (q.getD i 0)) :
    toPoly p = toPoly q := by
  ext i; rw [coeff_toPoly, coeff_toPoly, h]

theorem toPoly_append (p q : List Nat) :
    toPoly (p ++ q) = toPoly p + X ^ p.length * toPoly q := by
  induction p with
  | nil => rw [List.nil_append, toPoly_nil, List.length_nil, pow_zero, one_mul, zero_add]
  | cons x xs ih =>
    rw [List.cons_append, toPoly_cons, ih, toPoly_cons, List.length_cons, pow_succ]; ring

/-! ### representation predicates -/

/-- every coefficient is a canonical representative -/
def Reduced (p : List Nat) : Prop := ∀ x ∈ p, x < R

/-- no trailing zero coefficient (`last().is_none_or(|c| c != 0)`) -/
def Trimmed (p : List Nat) : Prop := ∀ h : p ≠ [], p.getLast h ≠ 0

namespace Poly

theorem trim_eq_rdropWhile (p : Poly) : trim p = p.rdropWhile (· == 0) := rfl

@[simp] theorem trim_nil : trim [] = [] := rfl

theorem trim_concat (p : Poly) (x : Nat) :
    trim (p ++ [x]) = if x = 0 then trim p else p ++ [x] := by
  simp only [trim_eq_rdropWhile, List.rdropWhile_concat]
  simp

theorem getD_trim (p : Poly) (i : Nat) : (trim p).getD i 0 = p.getD i 0 := by
  induction p using List.reverseRecOn with
  | nil => rfl
  | append_singleton p x ih =>
    rw [trim_concat]
    split
    · next hx =>
      subst hx
      rw [ih]
      by_cases hi : i < p.length
      · rw [List.getD_append _ _ _ _ hi]
      · have hi : p.length ≤ i := Nat.le_of_not_lt hi
        rw [List.getD_eq_default _ _ hi, List.getD_append_right _ _ _ _ hi]
        cases h : i - p.length <;> simp
    · rfl

theorem length_trim_le (p : Poly) : (trim p).length ≤ p.length :=
  (List.rdropWhile_prefix (p := (· == 0)) (l := p)).length_le

theorem trimmed_trim (p : Poly) : Trimmed (trim p) := by
  intro h
  have := List.rdropWhile_last_not (p := (· == 0)) (l := p) h
  simpa [trim_eq_rdropWhile] using this

theorem trim_eq_self {p : Poly} (h : Trimmed p) : trim p = p := by
  rw [trim_eq_rdropWhile, List.rdropWhile_eq_self_iff]
  intro hl; simpa using h hl

theorem trim_eq_self_iff {p : Poly} : trim p = p ↔ Trimmed p :=
  ⟨fun h => h ▸ trimmed_trim p, trim_eq_self⟩

theorem mem_trim {p : Poly} {x : Nat} (h : x ∈ trim p) : x ∈ p :=
  (List.rdropWhile_prefix (p := (· == 0)) (l := p)).subset h

theorem reduced_trim {p : Poly} (h : Reduced p) : Reduced (trim p) :=
  fun x hx => h x (mem_trim hx)

theorem getD_eq_zero_of_length_trim_le {p : Poly} {i : Nat} (h : (trim p).length ≤ i) :
    p.getD i 0 = 0 := by
  rw [← getD_trim, List.getD_eq_default _ _ h]

end Poly

open Poly

@[simp] theorem toPoly_trim (p : List Nat) : toPoly (trim p) = toPoly p :=
  toPoly_ext fun i => by rw [getD_trim]

theorem toF_getD_map (g : Nat → Nat) (hg : toF (g 0) = 0) (p : List Nat) (i : Nat) :
    toF ((p.map g).getD i 0) = toF (g (p.getD i 0)) := by
  induction p generalizing i with
  | nil => rw [List.map_nil, List.getD_nil, hg, toF_zero]
  | cons x xs ih => cases i with
    | zero => rfl
    | succ i => exact ih i

@[simp] theorem toPoly_map_mod (p : List Nat) : toPoly (p.map (· % R)) = toPoly p :=
  toPoly_ext fun i => by rw [toF_getD_map _ (by simp)]; simp

@[simp] theorem toPoly_ofCoeffs (p : List Nat) : toPoly (ofCoeffs p) = toPoly p := by
  unfold ofCoeffs; rw [toPoly_trim, toPoly_map_mod]

theorem reduced_ofCoeffs (p : List Nat) : Reduced (ofCoeffs p) := by
  apply reduced_trim
  intro x hx
  obtain ⟨y, _, rfl⟩ := List.mem_map.mp hx
  exact Nat.mod_lt _ R_pos

theorem trimmed_ofCoeffs (p : List Nat) : Trimmed (ofCoeffs p) := trimmed_trim _

/-! ### zero test and degree -/

theorem isZero_iff (p : List Nat) : isZero p = true ↔ ∀ x ∈ p, x = 0 := by
  simp [isZero]

theorem isZero_false_ne_nil {p : List Nat} (h : isZero p = false) : p ≠ [] := by
  rintro rfl; simp [isZero] at h

theorem toPoly_eq_zero_of_isZero {p : List Nat} (h : isZero p = true) : toPoly p = 0 := by
  rw [isZero_iff] at h
  ext i
  rw [coeff_toPoly, coeff_zero]
  by_cases hi : i < p.length
  · rw [List.getD_eq_getElem _ _ hi, h _ (List.getElem_mem hi)]; simp
  · rw [List.getD_eq_default _ _ (Nat.le_of_not_lt hi)]; simp

/-- for reduced coefficient lists, `is_zero` decides `toPoly p = 0` -/
theorem toPoly_eq_zero_iff {p : List Nat} (hp : Reduced p) : toPoly p = 0 ↔ isZero p = true := by
  refine ⟨fun h => ?_, toPoly_eq_zero_of_isZero⟩
  rw [isZero_iff]
  intro x hx
  obtain ⟨i, hi, rfl⟩ := List.getElem_of_mem hx
  have := congrArg (fun q => q.coeff i) h
  simp only [coeff_toPoly, coeff_zero, List.getD_eq_getElem _ _ hi] at this
  exact (toF_eq_zero_of_lt (hp _ (List.getElem_mem hi))).mp this

theorem isZero_trim (p : List Nat) : isZero (trim p) = isZero p := by
  rw [Bool.eq_iff_iff, isZero_iff, isZero_iff]
  constructor
  · intro h x hx
    obtain ⟨i, hi, rfl⟩ := List.getElem_of_mem hx
    rw [← List.getD_eq_getElem _ 0 hi, ← getD_trim]
    by_cases hi' : i < (trim p).length
    · rw [List.getD_eq_getElem _ _ hi']; exact h _ (List.getElem_mem hi')
    · rw [List.getD_eq_default _ _ (Nat.le_of_not_lt hi')]
  · intro h x hx; exact h x (mem_trim hx)

theorem trim_eq_nil_iff (p : List Nat) : trim p = [] ↔ isZero p = true := by
  rw [trim_eq_rdropWhile, List.rdropWhile_eq_nil_iff, isZero_iff]; simp

/-- the length of a reduced, trimmed list is determined by its polynomial -/
theorem length_of_trimmed {p : List Nat} (hr : Reduced p) (ht : Trimmed p) (hne : p ≠ []) :
    (toPoly p).natDegree = p.length - 1 ∧ toPoly p ≠ 0 := by
  have hlen : 0 < p.length := List.length_pos_iff.mpr hne
  have hlast : toF (p.getD (p.length - 1) 0) ≠ 0 := by
    rw [List.getD_eq_getElem _ _ (by omega)]
    have h1 := ht hne
    rw [List.getLast_eq_getElem] at h1
    intro h0
    exact h1 ((toF_eq_zero_of_lt (hr _ (List.getElem_mem _))).mp h0)
  have hc : (toPoly p).coeff (p.length - 1) ≠ 0 := by rwa [coeff_toPoly]
  refine ⟨natDegree_eq_of_le_of_coeff_ne_zero ?_ hc, fun h => hc (by rw [h, coeff_zero])⟩
  rw [natDegree_le_iff_coeff_eq_zero]
  intro N hN
  rw [coeff_toPoly, List.getD_eq_default _ _ (by omega)]; simp

/-- `degree()` is the `natDegree` of the interpreted polynomial (reduced lists) -/
theorem degree_eq_natDegree {p : List Nat} (hp : Reduced p) :
    Poly.degree p = (toPoly p).natDegree := by
  unfold Poly.degree
  by_cases hne : trim p = []
  · rw [hne, ← toPoly_trim, hne]; simp
  · rw [← toPoly_trim p, (length_of_trimmed (reduced_trim hp) (trimmed_trim p) hne).1]

/-- reduced and trimmed lists are unique representatives -/
theorem toPoly_injective {p q : List Nat} (hp : Reduced p) (hq : Reduced q)
    (tp : Trimmed p) (tq : Trimmed q) (h : toPoly p = toPoly q) : p = q := by
  have hlen : p.length = q.length := by
    by_cases hp0 : p = []
    · subst hp0
      by_contra hne
      have : q ≠ [] := by rintro rfl; simp at hne
      exact (length_of_trimmed hq tq this).2 (by rw [← h]; rfl)
    · by_cases hq0 : q = []
      · subst hq0
        exact absurd (by rw [h]; rfl) (length_of_trimmed hp tp hp0).2
      · have h1 := (length_of_trimmed hp tp hp0).1
        have h2 := (length_of_trimmed hq tq hq0).1
        rw [h] at h1
        have := List.length_pos_iff.mpr hp0
        have := List.length_pos_iff.mpr hq0
        omega
  apply List.ext_getElem hlen
  intro i h1 h2
  have := congrArg (fun r => r.coeff i) h
  simp only [coeff_toPoly, List.getD_eq_getElem _ _ h1, List.getD_eq_getElem _ _ h2] at this
  exact (toF_inj_of_lt (hp _ (List.getElem_mem _)) (hq _ (List.getElem_mem _))).mp this

/-! ### the two zips -/

namespace Poly

theorem length_zipOnto (f : Nat → Nat → Nat) (a b : Poly) : (zipOnto f a b).length = a.length := by
  fun_induction zipOnto f a b <;> simp only [*, List.length_cons, List.length_nil]

theorem getD_zipOnto (f : Nat → Nat → Nat) (a b : Poly) (i : Nat) :
    (zipOnto f a b).getD i 0 = if i < a.length then f (a.getD i 0) (b.getD i 0) else 0 := by
  fun_induction zipOnto f a b generalizing i <;> cases i <;>
    simp only [*, List.getD_cons_succ, List.getD_cons_zero, List.getD_nil, List.length_cons,
      List.length_nil, Nat.add_lt_add_iff_right, Nat.zero_lt_succ, Nat.not_lt_zero, if_true,
      if_false]

theorem length_zipLong (f : Nat → Nat → Nat) (a b : Poly) :
    (zipLong f a b).length = max a.length b.length := by
  fun_induction zipLong f a b <;>
    simp only [*, List.length_cons, List.length_nil, Nat.max_zero, Nat.zero_max,
      Nat.add_max_add_right, Nat.max_self]

theorem getD_zipLong (f : Nat → Nat → Nat) (a b : Poly) (i : Nat) :
    (zipLong f a b).getD i 0 =
      if i < max a.length b.length then f (a.getD i 0) (b.getD i 0) else 0 := by
  fun_induction zipLong f a b generalizing i <;> cases i <;>
    simp only [*, List.getD_cons_succ, List.getD_cons_zero, List.getD_nil, List.length_cons,
      List.length_nil, Nat.max_zero, Nat.zero_max, Nat.add_max_add_right,
      Nat.add_lt_add_iff_right, Nat.zero_lt_succ, Nat.not_lt_zero, if_true, if_false]

theorem reduced_zipOnto {f : Nat → Nat → Nat} (hf : ∀ x y, f x y < R) (a b : Poly) :
    Reduced (zipOnto f a b) := by
  fun_induction zipOnto f a b with
  | case1 => exact fun _ h => nomatch h
  | case2 a as ih => exact List.forall_mem_cons.mpr ⟨hf _ _, ih⟩
  | case3 a as b bs ih => exact List.forall_mem_cons.mpr ⟨hf _ _, ih⟩

theorem reduced_zipLong {f : Nat → Nat → Nat} (hf : ∀ x y, f x y < R) (a b : Poly) :
    Reduced (zipLong f a b) := by
  fun_induction zipLong f a b with
  | case1 => exact fun _ h => nomatch h
  | case2 a as ih => exact List.forall_mem_cons.mpr ⟨hf _ _, ih⟩
  | case3 b bs ih => exact List.forall_mem_cons.mpr ⟨hf _ _, ih⟩
  | case4 a as b bs ih => exact List.forall_mem_cons.mpr ⟨hf _ _, ih⟩

end Poly

/-- `zipLong` of a field-linear combination -/
theorem toPoly_zipLong (f : Nat → Nat → Nat) (c : F)
    (hf : ∀ x y, toF (f x y) = toF x + c * toF y) (a b : List Nat) :
    toPoly (zipLong f a b) = toPoly a + C c * toPoly b := by
  ext i
  rw [coeff_toPoly, getD_zipLong, coeff_add, coeff_C_mul, coeff_toPoly, coeff_toPoly]
  split
  · exact hf _ _
  · next h =>
    have h := Nat.le_of_not_lt h
    rw [List.getD_eq_default _ _ (Nat.le_trans (Nat.le_max_left _ _) h),
      List.getD_eq_default _ _ (Nat.le_trans (Nat.le_max_right _ _) h)]; simp

/-- a list of degree `≤ n − 1` (`0 < n`) has zero coefficients from `n` on, however long it is -/
theorem getD_eq_zero_of_degree_le_pred {p : List Nat} {n i : Nat} (hn : 0 < n)
    (h : Poly.degree p ≤ n - 1) (hi : n ≤ i) : p.getD i 0 = 0 := by
  apply getD_eq_zero_of_length_trim_le
  unfold Poly.degree at h
  omega

/-- the coefficients of `b` at and beyond `a.length` vanish when `degree a ≥ degree b` -/
theorem getD_eq_zero_of_degree_le {a b : List Nat} (ha : isZero a = false)
    (h : Poly.degree a ≥ Poly.degree b) {i : Nat} (hi : a.length ≤ i) : b.getD i 0 = 0 :=
  getD_eq_zero_of_degree_le_pred (List.length_pos_iff.mpr (isZero_false_ne_nil ha))
    (Nat.le_trans h (Nat.sub_le_sub_right (length_trim_le a) 1)) hi

/-- `zipOnto f a b` for a field-linear `f`, when `b` has no non-zero coefficient beyond `a` -/
theorem toPoly_zipOnto (f : Nat → Nat → Nat) (c : F)
    (hf : ∀ x y, toF (f x y) = toF x + c * toF y) {a b : List Nat}
    (h : ∀ i, a.length ≤ i → toF (b.getD i 0) = 0) :
    toPoly (zipOnto f a b) = toPoly a + C c * toPoly b := by
  ext i
  rw [coeff_toPoly, getD_zipOnto, coeff_add, coeff_C_mul, coeff_toPoly, coeff_toPoly]
  split
  · exact hf _ _
  · next hi =>
    have hi := Nat.le_of_not_lt hi
    rw [List.getD_eq_default _ _ hi, h i hi, toF_zero, mul_zero, add_zero]

/-- `zipOnto … a (b.take a.length)`: the branch `degree a ≥ degree b` loses nothing -/
theorem toPoly_zipOnto_take (f : Nat → Nat → Nat) (c : F)
    (hf : ∀ x y, toF (f x y) = toF x + c * toF y) {a b : List Nat} (ha : isZero a = false)
    (h : Poly.degree a ≥ Poly.degree b) :
    toPoly (zipOnto f a (b.take a.length)) = toPoly a + C c * toPoly b := by
  ext i
  rw [coeff_toPoly, getD_zipOnto, coeff_add, coeff_C_mul, coeff_toPoly, coeff_toPoly]
  split
  · next hi =>
    rw [hf]
    congr 3
    simp [List.getD_eq_getElem?_getD, hi]
  · next hi =>
    have hi : a.length ≤ i := Nat.le_of_not_lt hi
    rw [List.getD_eq_default _ _ hi, getD_eq_zero_of_degree_le ha h hi]; simp

/-! ### ring operations -/

theorem toPoly_map (g : Nat → Nat) (c : F) (hg : ∀ x, toF (g x) = c * toF x) (p : List Nat) :
    toPoly (p.map g) = C c * toPoly p := by
  ext i
  rw [coeff_toPoly, toF_getD_map g (by rw [hg, toF_zero, mul_zero]), coeff_C_mul, coeff_toPoly, hg]

/-- the branches that `add`, `addAssign`, `addAssignScaled`, `sub`, `subAssign` share: a zero `b`
    returns `a`, and `degree a ≥ degree b` zips onto `a`; the operations differ in what they
    return for a zero `a` (`X`) and for `degree a < degree b` (`Y`) -/
theorem toPoly_trim_branches (f : Nat → Nat → Nat) (c : F)
    (hf : ∀ x y, toF (f x y) = toF x + c * toF y) (a b X Y : List Nat)
    (hX : isZero a = true → toPoly X = C c * toPoly b)
    (hY : isZero b = false → ¬ Poly.degree a ≥ Poly.degree b →
      toPoly Y = toPoly a + C c * toPoly b) :
    toPoly (trim (if isZero a then X else if isZero b then a
      else if Poly.degree a ≥ Poly.degree b then zipOnto f a (b.take a.length) else Y))
      = toPoly a + C c * toPoly b := by
  rw [toPoly_trim]
  split
  · next h => rw [toPoly_eq_zero_of_isZero h, zero_add, hX h]
  · split
    · next h => rw [toPoly_eq_zero_of_isZero h, mul_zero, add_zero]
    · next ha hb =>
      split
      · next h => exact toPoly_zipOnto_take f c hf ((Bool.not_eq_true _).mp ha) h
      · next h => exact hY ((Bool.not_eq_true _).mp hb) h

theorem toF_fadd_one_mul (x y : Nat) : toF (fadd x y) = toF x + 1 * toF y := by
  rw [toF_fadd, one_mul]

theorem toF_fsub_neg_one_mul (x y : Nat) : toF (fsub x y) = toF x + -1 * toF y := by
  rw [toF_fsub, neg_one_mul, sub_eq_add_neg]

theorem add_C_neg_one_mul (p q : F[X]) : p + C (-1) * q = p - q := by
  rw [C_neg, C_1, neg_one_mul, sub_eq_add_neg]

theorem toPoly_add (a b : List Nat) : toPoly (Poly.add a b) = toPoly a + toPoly b := by
  have h := toPoly_trim_branches fadd 1 toF_fadd_one_mul a b b
    (zipOnto (fun x y => fadd y x) b (a.take b.length)) (fun _ => by rw [C_1, one_mul])
    (fun hb hd => by
      rw [toPoly_zipOnto_take (fun x y => fadd y x) 1 (fun x y => by rw [toF_fadd, one_mul, add_comm]) hb
        (by omega), add_comm, C_1, one_mul, one_mul])
  rwa [C_1, one_mul] at h

theorem toPoly_addAssign (a b : List Nat) : toPoly (Poly.addAssign a b) = toPoly a + toPoly b := by
  have h := toPoly_trim_branches fadd 1 toF_fadd_one_mul a b b (zipLong fadd a b)
    (fun _ => by rw [C_1, one_mul]) (fun _ _ => toPoly_zipLong fadd 1 toF_fadd_one_mul a b)
  rwa [C_1, one_mul] at h

theorem toPoly_addAssignScaled (a : List Nat) (f : Nat) (b : List Nat) :
    toPoly (Poly.addAssignScaled a f b) = toPoly a + C (toF f) * toPoly b :=
  have hf : ∀ x y, toF (fadd x (fmul f y)) = toF x + toF f * toF y := fun x y => by
    rw [toF_fadd, toF_fmul]
  toPoly_trim_branches _ (toF f) hf a b _ _
    (fun _ => toPoly_map _ (toF f) (fun x => by rw [toF_fmul, mul_comm]) b)
    (fun _ _ => toPoly_zipLong _ (toF f) hf a b)

theorem toPoly_sub (a b : List Nat) : toPoly (Poly.sub a b) = toPoly a - toPoly b := by
  rw [← add_C_neg_one_mul]
  exact toPoly_trim_branches fsub (-1) toF_fsub_neg_one_mul a b _ _
    (fun _ => toPoly_map fneg (-1) (fun x => by rw [toF_fneg, neg_one_mul]) b)
    (fun _ _ => toPoly_zipLong fsub (-1) toF_fsub_neg_one_mul a b)

theorem toPoly_subAssign (a b : List Nat) : toPoly (Poly.subAssign a b) = toPoly a - toPoly b := by
  rw [← add_C_neg_one_mul]
  refine toPoly_trim_branches fsub (-1) toF_fsub_neg_one_mul a b _ _ (fun h => ?_)
    (fun _ _ => toPoly_zipLong fsub (-1) toF_fsub_neg_one_mul a b)
  have h0 : isZero (a.take b.length) = true :=
    (isZero_iff _).mpr fun x hx => (isZero_iff a).mp h x (List.mem_of_mem_take hx)
  rw [toPoly_zipLong fsub (-1) toF_fsub_neg_one_mul, toPoly_eq_zero_of_isZero h0, zero_add]

theorem toPoly_scale (p : List Nat) (k : Nat) : toPoly (Poly.scale p k) = C (toF k) * toPoly p := by
  unfold Poly.scale
  split
  · next h =>
    rw [Bool.or_eq_true] at h
    rcases h with h | h
    · rw [toPoly_eq_zero_of_isZero h]; simp
    · have : toF k = 0 := (toF_eq_zero_iff k).mpr (by simpa using h)
      rw [this]; simp
  · rw [toPoly_ofCoeffs, toPoly_map _ (toF k) (by simp [mul_comm])]

theorem toPoly_addConst (p : List Nat) (k : Nat) :
    toPoly (Poly.addConst p k) = toPoly p + C (toF k) := by
  unfold Poly.addConst
  split
  · next h =>
    rw [toPoly_eq_zero_of_isZero h, toPoly_ofCoeffs, toPoly_cons, toPoly_nil, mul_zero, add_zero,
      zero_add]
  · split
    · next h => rw [(toF_eq_zero_iff k).mpr (beq_iff_eq.mp h), C_0, add_zero]
    · split
      · next h _ => exact absurd rfl ‹¬ isZero [] = true›
      · rw [toPoly_cons, toPoly_cons, toF_fadd, C_add, add_right_comm]

theorem toPoly_subConst (p : List Nat) (k : Nat) :
    toPoly (Poly.subConst p k) = toPoly p - C (toF k) := by
  rw [Poly.subConst, toPoly_addConst, toF_fneg, C_neg, sub_eq_add_neg]

theorem toPoly_mulSchool (a b : List Nat) : toPoly (Poly.mulSchool a b) = toPoly a * toPoly b := by
  induction a with
  | nil => simp [Poly.mulSchool]
  | cons x xs ih =>
    rw [Poly.mulSchool, toPoly_zipLong fadd 1 toF_fadd_one_mul, toPoly_map _ (toF x) (toF_fmul x),
      toPoly_cons, toPoly_cons, ih, toF_zero, C_0, C_1]
    ring

/-! ### results are trimmed (and reduced on reduced inputs) -/

theorem trimmed_add (a b : List Nat) : Trimmed (Poly.add a b) := trimmed_trim _
theorem trimmed_addAssign (a b : List Nat) : Trimmed (Poly.addAssign a b) := trimmed_trim _
theorem trimmed_addAssignScaled (a : List Nat) (f : Nat) (b : List Nat) :
    Trimmed (Poly.addAssignScaled a f b) := trimmed_trim _
theorem trimmed_sub (a b : List Nat) : Trimmed (Poly.sub a b) := trimmed_trim _
theorem trimmed_subAssign (a b : List Nat) : Trimmed (Poly.subAssign a b) := trimmed_trim _
theorem trimmed_nil : Trimmed [] := fun h => absurd rfl h
theorem reduced_nil : Reduced [] := fun _ h => by simp at h
theorem trimmed_scale (p : List Nat) (k : Nat) : Trimmed (Poly.scale p k) := by
  unfold Poly.scale; split
  · exact trimmed_nil
  · exact trimmed_ofCoeffs _
theorem reduced_scale (p : List Nat) (k : Nat) : Reduced (Poly.scale p k) := by
  unfold Poly.scale; split
  · exact reduced_nil
  · exact reduced_ofCoeffs _

theorem reduced_map {g : Nat → Nat} (hg : ∀ x, g x < R) (p : List Nat) : Reduced (p.map g) := by
  intro x hx; obtain ⟨y, _, rfl⟩ := List.mem_map.mp hx; exact hg y

/-- the skeleton of `toPoly_trim_branches` for `Reduced` -/
theorem reduced_trim_branches {f : Nat → Nat → Nat} (hf : ∀ x y, f x y < R) {a X Y : List Nat}
    (b : List Nat) (ha : Reduced a) (hX : Reduced X) (hY : Reduced Y) :
    Reduced (trim (if isZero a then X else if isZero b then a
      else if Poly.degree a ≥ Poly.degree b then zipOnto f a (b.take a.length) else Y)) := by
  apply reduced_trim
  split_ifs
  exacts [hX, ha, reduced_zipOnto hf _ _, hY]

theorem reduced_add {a b : List Nat} (ha : Reduced a) (hb : Reduced b) :
    Reduced (Poly.add a b) :=
  reduced_trim_branches fadd_lt b ha hb (reduced_zipOnto (fun x y => fadd_lt y x) _ _)

theorem reduced_addAssign {a b : List Nat} (ha : Reduced a) (hb : Reduced b) :
    Reduced (Poly.addAssign a b) :=
  reduced_trim_branches fadd_lt b ha hb (reduced_zipLong fadd_lt _ _)

theorem reduced_addAssignScaled {a : List Nat} (ha : Reduced a) (f : Nat) (b : List Nat) :
    Reduced (Poly.addAssignScaled a f b) :=
  reduced_trim_branches (fun _ _ => fadd_lt _ _) b ha (reduced_map (fun x => fmul_lt x f) _)
    (reduced_zipLong (fun _ _ => fadd_lt _ _) _ _)

theorem reduced_sub {a : List Nat} (ha : Reduced a) (b : List Nat) :
    Reduced (Poly.sub a b) :=
  reduced_trim_branches fsub_lt b ha (reduced_map fneg_lt _) (reduced_zipLong fsub_lt _ _)

theorem reduced_subAssign {a : List Nat} (ha : Reduced a) (b : List Nat) :
    Reduced (Poly.subAssign a b) :=
  reduced_trim_branches fsub_lt b ha (reduced_zipLong fsub_lt _ _) (reduced_zipLong fsub_lt _ _)

theorem reduced_mulSchool (a b : List Nat) : Reduced (Poly.mulSchool a b) := by
  cases a with
  | nil => exact reduced_nil
  | cons x xs => exact reduced_zipLong (fun x y => fadd_lt _ _) _ _

theorem reduced_addConst {p : List Nat} (hp : Reduced p) (k : Nat) :
    Reduced (Poly.addConst p k) := by
  unfold Poly.addConst
  split_ifs
  · exact reduced_ofCoeffs _
  · exact hp
  · cases p with
    | nil => exact reduced_nil
    | cons c cs =>
      intro x hx
      rcases List.mem_cons.mp hx with rfl | hx
      · exact fadd_lt _ _
      · exact hp x (List.mem_cons_of_mem _ hx)

/-- `&p + &k` keeps `p` trimmed except in the single case where a constant polynomial is cancelled:
    `addConst [c] k = [0]` when `c + k ≡ 0` (the Rust code does not truncate there). -/
theorem trimmed_addConst {p : List Nat} (hp : Trimmed p) (k : Nat)
    (h : 2 ≤ p.length ∨ toPoly p + C (toF k) ≠ 0) : Trimmed (Poly.addConst p k) := by
  unfold Poly.addConst
  split_ifs with h1 h2
  · exact trimmed_ofCoeffs _
  · exact hp
  · cases p with
    | nil => exact trimmed_nil
    | cons c cs =>
      cases cs with
      | nil =>
        intro _
        rcases h with h | h
        · simp at h
        · simp only [List.getLast_singleton]
          intro h0
          apply h
          have : toF c + toF k = 0 := by rw [← toF_fadd, h0]; simp
          simp only [toPoly_cons, toPoly_nil, mul_zero, add_zero]
          rw [← C_add, this, C_0]
      | cons c' cs =>
        intro _
        have := hp (by simp)
        simpa using this

/-! ### evaluation -/

theorem toF_foldl_fadd {α : Type} (g : α → Nat) (l : List α) (a : Nat) :
    toF (l.foldl (fun acc x => fadd acc (g x)) a) = toF a + (l.map (fun x => toF (g x))).sum := by
  induction l generalizing a with
  | nil => simp
  | cons x xs ih => rw [List.foldl_cons, ih, toF_fadd]; simp [add_assoc]

theorem evaluate_fold (z : Nat) (p : List Nat) (s w : Nat) :
    toF (p.foldl (fun (acc : Nat × Nat) c => (fadd acc.1 (fmul acc.2 c), fmul acc.2 z)) (s, w)).1
      = toF s + toF w * (toPoly p).eval (toF z) := by
  induction p generalizing s w with
  | nil => rw [List.foldl_nil, toPoly_nil, eval_zero, mul_zero, add_zero]
  | cons c cs ih =>
    rw [List.foldl_cons, ih, toF_fadd, toF_fmul, toF_fmul, toPoly_cons, eval_add, eval_C, eval_mul,
      eval_X]
    ring

theorem evaluate_fold_lt (z : Nat) (p : List Nat) (s w : Nat) (hs : s < R) :
    (p.foldl (fun (acc : Nat × Nat) c => (fadd acc.1 (fmul acc.2 c), fmul acc.2 z)) (s, w)).1 < R := by
  induction p generalizing s w with
  | nil => simpa
  | cons c cs ih => rw [List.foldl_cons]; exact ih _ _ (fadd_lt _ _)

theorem evaluate_spec (p : List Nat) (z : Nat) :
    toF (Poly.evaluate p z) = (toPoly p).eval (toF z) := by
  unfold Poly.evaluate
  split
  · next h => rw [toPoly_eq_zero_of_isZero h]; simp
  · rw [evaluate_fold]; simp

theorem evaluate_lt (p : List Nat) (z : Nat) : Poly.evaluate p z < R := by
  unfold Poly.evaluate
  split
  · exact R_pos
  · exact evaluate_fold_lt _ _ _ _ R_pos

/-- the same fold as used by the definition `dft` -/
theorem evaluate'_spec (p : List Nat) (z : Nat) :
    toF (dft.Poly.evaluate' p z) = (toPoly p).eval (toF z) := by
  unfold dft.Poly.evaluate'
  rw [evaluate_fold]; simp

/-! ### division by a linear factor -/

theorem toPoly_headD_tail (q : List Nat) :
    toPoly q = C (toF (q.headD 0)) + X * toPoly q.tail := by
  cases q <;> simp

theorem ruffini_fold (z : Nat) (p : List Nat) :
    let st := p.foldr (fun c (acc : List Nat × Nat) => (fadd c acc.2 :: acc.1, fmul z (fadd c acc.2))) ([], 0)
    toPoly p = toPoly st.1.tail * (X - C (toF z)) + C (toF (st.1.headD 0)) ∧
      toF st.2 = toF z * toF (st.1.headD 0) := by
  induction p with
  | nil => simp
  | cons c cs ih =>
    obtain ⟨ih1, ih2⟩ := ih
    simp only [List.foldr_cons, List.tail_cons, List.headD_cons, toPoly_cons]
    refine ⟨?_, by simp⟩
    rw [ih1]
    generalize (List.foldr (fun c (acc : List Nat × Nat) =>
      (fadd c acc.2 :: acc.1, fmul z (fadd c acc.2))) ([], 0) cs) = st at ih1 ih2 ⊢
    rw [toPoly_headD_tail st.1]
    simp only [toF_fadd, ih2, C_add, C_mul]
    ring

/-- Ruffini: `ruffini p z` is the quotient of the division of `p` by `X − z`, the remainder being
    the value `p(z)` (for every coefficient list `p`, trimmed or not, reduced or not). -/
theorem ruffini_spec (p : List Nat) (z : Nat) :
    toPoly p = toPoly (Poly.ruffini p z) * (X - C (toF z)) + C ((toPoly p).eval (toF z)) := by
  have key : ∃ r : F, toPoly p = toPoly (Poly.ruffini p z) * (X - C (toF z)) + C r := by
    unfold Poly.ruffini
    rw [List.foldl_reverse]
    simp only [toPoly_ofCoeffs]
    exact ⟨_, (ruffini_fold z p).1⟩
  obtain ⟨r, hr⟩ := key
  have : (toPoly p).eval (toF z) = r := by
    conv_lhs => rw [hr]
    simp
  rw [this]; exact hr

theorem ruffini_eq_divByMonic (p : List Nat) (z : Nat) :
    toPoly (Poly.ruffini p z) = toPoly p /ₘ (X - C (toF z)) := by
  have h := ruffini_spec p z
  have := div_modByMonic_unique (f := toPoly p) (toPoly (Poly.ruffini p z))
    (C ((toPoly p).eval (toF z))) (monic_X_sub_C (toF z))
    ⟨by rw [add_comm, mul_comm]; exact h.symm, by
      rw [degree_X_sub_C]; exact lt_of_le_of_lt degree_C_le (by norm_num)⟩
  exact this.1.symm

/-- for a root `z` the division is exact -/
theorem ruffini_of_root (p : List Nat) (z : Nat) (h : (toPoly p).eval (toF z) = 0) :
    toPoly p = toPoly (Poly.ruffini p z) * (X - C (toF z)) := by
  have := ruffini_spec p z
  rw [h] at this; simpa using this

theorem trimmed_ruffini (p : List Nat) (z : Nat) : Trimmed (Poly.ruffini p z) := by
  unfold Poly.ruffini; exact trimmed_ofCoeffs _

theorem reduced_ruffini (p : List Nat) (z : Nat) : Reduced (Poly.ruffini p z) := by
  unfold Poly.ruffini; exact reduced_ofCoeffs _

end Plonk
