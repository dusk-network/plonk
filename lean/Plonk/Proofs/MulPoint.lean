/-
  C12 — composer glue for `component_mul_point`: the MSB-first double-and-add ladder
  `r ← add r r; p ← select_identity bit P; r ← add r p` over a list of bit wires.

  One round is the specification `mulStep_spec` (doubling, selection, addition chained); the ladder
  over an arbitrary list of bit wires (`componentMulPoint.go`) is `mulGo_spec`, by induction over the
  list.  What the ladder's rows say is the recursive relation `LadderRows`; soundness (output =
  `ladderF`) and determinism of every allocated wire are inductions on that relation alone.  Then bit
  lists: the ladder over the canonical bits is the scalar multiple.  Then `mulPointN n` =
  `componentDecomposition n` + ladder from
  `(ZERO, ONE)` for a variable number `n` of scalar bits; `componentMulPoint` is the instance
  `n = MUL_POINT_BITS`.
-/
import Plonk.Proofs.PointGadgets
import Plonk.Proofs.Decomp

namespace Plonk
open Plonk Plonk.Composer

theorem toF_zero_or_one {v : ℕ} (h : v = 0 ∨ v = 1) : toF v = 0 ∨ toF v = 1 :=
  h.imp (fun e => (congrArg toF e).trans toF_zero) (fun e => (congrArg toF e).trans toF_one)

namespace Composer

/-! ### one ladder step -/

/-- one round of the ladder of `component_mul_point` -/
def mulStep (P : Pt) (b : Nat) (r : Pt) : CM Pt := do
  let r ← addPointGates r r
  let p ← selectIdentityGates b P
  addPointGates r p

/-- what the six rows of one round say under `w` (`n` the first of its eight wires): the doubling,
    the selection, the addition of the two results -/
def StepRows (w : Nat → Nat) (n : Nat) (P : Pt) (b : Nat) (r : Pt) : Prop :=
  VarRowF (toF (w r.1)) (toF (w r.2)) (toF (w r.1)) (toF (w r.2))
    (toF (w (n + 1))) (toF (w (n + 2))) (toF (w n)) ∧
  ptW w (n + 3, n + 4) = selIdF (toF (w b)) (ptW w P) ∧
  VarRowF (toF (w (n + 1))) (toF (w (n + 2))) (toF (w (n + 3))) (toF (w (n + 4)))
    (toF (w (n + 6))) (toF (w (n + 7))) (toF (w (n + 5)))

theorem selectIdentityGates_wit_size (bit : Nat) (a : Pt) (c : Composer) :
    ((selectIdentityGates bit a).run c).2.wit.size = c.wit.size + 2 :=
  (selectIdentityGates_spec bit a c).wit

/-- one round: 6 gates, 8 witnesses `n … n+7`, the accumulator returned on `(n+6, n+7)`; exact.
    The model's table satisfies the rows when accumulator and point are allocated curve points and
    the bit is allocated and boolean. -/
theorem mulStep_spec (P : Pt) (b : Nat) (r : Pt) (c : Composer) :
    Spec 1 (mulStep P b r) c (c.wit.size + 6, c.wit.size + 7) 6 8
      (fun w => StepRows w c.wit.size P b r) (fun _ => True)
      (fun v => PtAlloc c r ∧ b < c.wit.size ∧ PtAlloc c P ∧ OnCurveP (ptW v r) ∧
        OnCurveP (ptW v P) ∧ (toF (v b) = 0 ∨ toF (v b) = 1)) := by
  unfold mulStep
  apply Spec.mono_iff
  · apply (addPointGates_spec _ _ _).bind
    apply (selectIdentityGates_spec _ _ _).bind
    exact addPointGates_spec _ _ _
  · decide
  · simp only [selectIdentityGates_wit_size, addPointGates_wit_size]
  · rfl
  · rfl
  · intro w
    simp only [selectIdentityGates_wit_size, addPointGates_wit_size]
    exact Iff.rfl
  · intros; trivial
  · rintro v - - - ⟨hr, hb, hP, cr, cP, hbit⟩
    simp only [selectIdentityGates_wit_size, addPointGates_wit_size, PtAlloc, Nat.add_assoc,
      Nat.reduceAdd]
    have lt : ∀ {i j : Nat}, i < j → c.wit.size + i < c.wit.size + j :=
      fun h => Nat.add_lt_add_left h _
    refine ⟨⟨hr, hr, cr, cr⟩, fun r₁ => ⟨⟨Nat.lt_add_right 3 hb, Nat.lt_add_right 3 hP.1,
      Nat.lt_add_right 3 hP.2⟩, fun r₂ => ⟨⟨lt (by decide), lt (by decide)⟩,
      ⟨lt (by decide), lt (by decide)⟩, ?_, ?_⟩⟩⟩
    · have := ((varRowF_iff_of_on_curve cr cr _ _ _).mp r₁).2
      rw [ptW_mk, this]; exact add_on_curveP cr cr
    · rw [r₂]; exact selIdF_on_curve hbit cP

/-- the field-level content of one round: every one of the eight allocated wires
    `n .. n+7` (`n = c.wit.size`) as a function of the inputs -/
def StepSpec (w : Nat → Nat) (n : Nat) (P : Pt) (b : Nat) (r : Pt) : Prop :=
  toF (w n) = toF (w r.1) * toF (w r.2) ∧
  ptW w (n + 1, n + 2) = addF (ptW w r) (ptW w r) ∧
  ptW w (n + 3, n + 4) = selIdF (toF (w b)) (ptW w P) ∧
  toF (w (n + 5)) = (addF (ptW w r) (ptW w r)).1 * (selIdF (toF (w b)) (ptW w P)).2 ∧
  ptW w (n + 6, n + 7) = addF (addF (ptW w r) (ptW w r)) (selIdF (toF (w b)) (ptW w P))

/-- on curve inputs and a boolean bit the rows of a round determine all eight wires -/
theorem stepRows_iff {w : Nat → Nat} {n : Nat} {P : Pt} {b : Nat} {r : Pt}
    (hr : OnCurveP (ptW w r)) (hP : OnCurveP (ptW w P))
    (hb : toF (w b) = 0 ∨ toF (w b) = 1) : StepRows w n P b r ↔ StepSpec w n P b r := by
  unfold StepRows StepSpec
  rw [varRowF_iff_of_on_curve (x1 := toF (w r.1)) (y1 := toF (w r.2)) (x2 := toF (w r.1))
    (y2 := toF (w r.2)) hr hr, and_assoc]
  refine and_congr_right fun _ => and_congr_right fun e1 => and_congr_right fun e2 => ?_
  have e1 : ptW w (n + 1, n + 2) = addF (ptW w r) (ptW w r) := e1
  -- given the first two stages, the third is an addition of curve points
  have c1 : OnCurveP (ptW w (n + 1, n + 2)) := by rw [e1]; exact add_on_curveP hr hr
  have c2 : OnCurveP (ptW w (n + 3, n + 4)) := by rw [e2]; exact selIdF_on_curve hb hP
  rw [varRowF_iff_of_on_curve (x1 := toF (w (n + 1))) (y1 := toF (w (n + 2)))
    (x2 := toF (w (n + 3))) (y2 := toF (w (n + 4))) c1 c2, ← e1, ← e2]
  rfl

theorem StepSpec.out {w : Nat → Nat} {n : Nat} {P : Pt} {b : Nat} {r : Pt}
    (h : StepSpec w n P b r) (hb : toF (w b) = 0 ∨ toF (w b) = 1) :
    ptW w (n + 6, n + 7) = ladderStepF (ptW w P) (ptW w r) (decide (toF (w b) = 1)) := by
  rw [h.2.2.2.2]
  unfold ladderStepF
  rcases hb with hb | hb
  · rw [hb, selIdF_zero, decide_eq_false (zero_ne_one (α := F)), if_neg Bool.false_ne_true]
  · rw [hb, selIdF_one, decide_eq_true rfl, if_pos rfl]

/-- `w` and `w'` carry the same field elements on the wires `lo ≤ i < hi` -/
def AgreeOn (w w' : Nat → Nat) (lo hi : Nat) : Prop :=
  ∀ i, lo ≤ i → i < hi → toF (w i) = toF (w' i)

theorem AgreeOn.nil (w w' : Nat → Nat) (lo : Nat) : AgreeOn w w' lo lo :=
  fun _ h1 h2 => absurd h2 (Nat.not_lt.mpr h1)

theorem AgreeOn.cons {w w' : Nat → Nat} {lo hi : Nat} (h0 : toF (w lo) = toF (w' lo))
    (h : AgreeOn w w' (lo + 1) hi) : AgreeOn w w' lo hi := fun i hlo hhi => by
  rcases Nat.eq_or_lt_of_le hlo with rfl | hlt
  · exact h0
  · exact h i hlt hhi

theorem AgreeOn.append {w w' : Nat → Nat} {lo mid hi : Nat} (h1 : AgreeOn w w' lo mid)
    (h2 : AgreeOn w w' mid hi) : AgreeOn w w' lo hi := fun i hlo hhi =>
  (Nat.lt_or_ge i mid).elim (h1 i hlo) (fun hm => h2 i hm hhi)

theorem AgreeOn.pairs {w w' : Nat → Nat} {W : Nat} (n : Nat)
    (h0 : ∀ j, j < n → toF (w (W + 2 * j)) = toF (w' (W + 2 * j)))
    (h1 : ∀ j, j < n → toF (w (W + 2 * j + 1)) = toF (w' (W + 2 * j + 1))) :
    AgreeOn w w' W (W + 2 * n) := by
  induction n with
  | zero => exact .nil w w' W
  | succ n ih =>
    refine (ih (fun j hj => h0 j (Nat.lt_succ_of_lt hj))
      (fun j hj => h1 j (Nat.lt_succ_of_lt hj))).append ?_
    exact .cons (h0 n (Nat.lt_succ_self n)) <| .cons (h1 n (Nat.lt_succ_self n)) <| .nil w w' _

theorem StepSpec.determ {w w' : Nat → Nat} {n : Nat} {P : Pt} {b : Nat} {r : Pt}
    (h : StepSpec w n P b r) (h' : StepSpec w' n P b r)
    (er : ptW w r = ptW w' r) (eP : ptW w P = ptW w' P) (eb : toF (w b) = toF (w' b)) :
    AgreeOn w w' n (n + 8) := by
  obtain ⟨a0, a1, a2, a3, a4⟩ := h
  obtain ⟨b0, b1, b2, b3, b4⟩ := h'
  rw [← er] at b1 b3 b4
  rw [← eP, ← eb] at b2 b3 b4
  have er1 : toF (w r.1) = toF (w' r.1) := congrArg Prod.fst er
  have er2 : toF (w r.2) = toF (w' r.2) := congrArg Prod.snd er
  rw [← er1, ← er2] at b0
  have q1 := a1.trans b1.symm
  have q2 := a2.trans b2.symm
  have q4 := a4.trans b4.symm
  obtain ⟨q11, q12⟩ := Prod.mk.inj q1
  obtain ⟨q21, q22⟩ := Prod.mk.inj q2
  obtain ⟨q41, q42⟩ := Prod.mk.inj q4
  exact .cons (a0.trans b0.symm) <| .cons q11 <| .cons q12 <| .cons q21 <| .cons q22 <|
    .cons (a3.trans b3.symm) <| .cons q41 <| .cons q42 <| .nil w w' _

/-! ### the ladder over a list of bit wires -/

/-- the pair the ladder returns when its first free wire is `n`: the accumulator of the last round -/
def ladderOut : List Nat → Nat → Pt → Pt
  | [], _, r => r
  | _ :: bs, n, _ => ladderOut bs (n + 8) (n + 6, n + 7)

/-- what the rows of the ladder say: one `StepRows` per bit wire, each round on its own eight wires,
    its accumulator handed to the next -/
def LadderRows (w : Nat → Nat) (P : Pt) : List Nat → Nat → Pt → Prop
  | [], _, _ => True
  | b :: bs, n, r => StepRows w n P b r ∧ LadderRows w P bs (n + 8) (n + 6, n + 7)

/-- the bit list a list of wires carries under `w` (wire value `1` ↦ `true`) -/
def bitsW (w : Nat → Nat) (bs : List Nat) : List Bool := bs.map fun b => decide (toF (w b) = 1)

@[simp] theorem bitsW_nil (w : Nat → Nat) : bitsW w [] = [] := rfl
theorem bitsW_cons (w : Nat → Nat) (b : Nat) (bs : List Nat) :
    bitsW w (b :: bs) = decide (toF (w b) = 1) :: bitsW w bs := rfl

theorem ladderOut_eq_last (bs : List Nat) (n : Nat) (r : Pt) (h : bs ≠ []) :
    ladderOut bs n r = (n + 8 * bs.length - 2, n + 8 * bs.length - 1) := by
  induction bs generalizing n r with
  | nil => exact absurd rfl h
  | cons b bs ih =>
    cases bs with
    | nil => rfl
    | cons b' bs =>
      rw [ladderOut, ih _ _ (List.cons_ne_nil _ _), List.length_cons (a := b), Nat.mul_succ,
        ← Nat.add_assoc, Nat.add_right_comm n]

/-- soundness of the ladder, on what its rows say: boolean bits and curve inputs give the ladder
    of the field points -/
theorem LadderRows.sound {w : Nat → Nat} {P : Pt} (bs : List Nat) (n : Nat) (r : Pt)
    (h : LadderRows w P bs n r) (hbits : ∀ b ∈ bs, toF (w b) = 0 ∨ toF (w b) = 1)
    (hr : OnCurveP (ptW w r)) (hP : OnCurveP (ptW w P)) :
    ptW w (ladderOut bs n r) = ladderF (ptW w P) (bitsW w bs) (ptW w r) ∧
    OnCurveP (ptW w (ladderOut bs n r)) := by
  induction bs generalizing n r with
  | nil => exact ⟨rfl, hr⟩
  | cons b bs ih =>
    have hb := hbits b List.mem_cons_self
    have eo := ((stepRows_iff hr hP hb).mp h.1).out hb
    have co : OnCurveP (ptW w (n + 6, n + 7)) := by
      rw [eo]; exact ladderStepF_on_curve hP hr _
    obtain ⟨i1, i2⟩ := ih _ _ h.2 (fun b' hb' => hbits b' (List.mem_cons_of_mem _ hb')) co
    refine ⟨?_, i2⟩
    rw [ladderOut, i1, eo, bitsW_cons, ladderF_cons]

/-- every wire of the ladder is determined by the bits, the point and the first accumulator -/
theorem LadderRows.determ {w w' : Nat → Nat} {P : Pt} (bs : List Nat) (n : Nat) (r : Pt)
    (h : LadderRows w P bs n r) (h' : LadderRows w' P bs n r)
    (hbits : ∀ b ∈ bs, toF (w b) = 0 ∨ toF (w b) = 1)
    (ebits : ∀ b ∈ bs, toF (w b) = toF (w' b))
    (hr : OnCurveP (ptW w r)) (hP : OnCurveP (ptW w P))
    (er : ptW w r = ptW w' r) (eP : ptW w P = ptW w' P) :
    AgreeOn w w' n (n + 8 * bs.length) := by
  induction bs generalizing n r with
  | nil => exact .nil w w' _
  | cons b bs ih =>
    have hb := hbits b List.mem_cons_self
    have eb := ebits b List.mem_cons_self
    have sp := (stepRows_iff hr hP hb).mp h.1
    have sp' := (stepRows_iff (er ▸ hr) (eP ▸ hP) (eb ▸ hb)).mp h'.1
    have eo := sp.out hb
    have co : OnCurveP (ptW w (n + 6, n + 7)) := by
      rw [eo]; exact ladderStepF_on_curve hP hr _
    have er' : ptW w (n + 6, n + 7) = ptW w' (n + 6, n + 7) := by
      rw [eo, (sp'.out (eb ▸ hb)), er, eP, eb]
    have hrec := ih _ _ h.2 h'.2 (fun b' hb' => hbits b' (List.mem_cons_of_mem _ hb'))
      (fun b' hb' => ebits b' (List.mem_cons_of_mem _ hb')) co er'
    rw [List.length_cons, Nat.mul_succ, Nat.add_comm (8 * _), ← Nat.add_assoc]
    exact (sp.determ sp' er eP eb).append hrec

/-- `component_mul_point.go P bs r`: six gates and eight witnesses per bit wire; exact.  The
    model's table satisfies the rows when every bit wire is allocated and boolean and the point and
    the first accumulator are allocated curve points. -/
theorem mulGo_spec (P : Pt) (bs : List Nat) (r : Pt) (c : Composer) :
    Spec 1 (componentMulPoint.go P bs r) c (ladderOut bs c.wit.size r) (6 * bs.length)
      (8 * bs.length) (fun w => LadderRows w P bs c.wit.size r) (fun _ => True)
      (fun v => (∀ b ∈ bs, b < c.wit.size ∧ (toF (v b) = 0 ∨ toF (v b) = 1)) ∧ PtAlloc c P ∧
        PtAlloc c r ∧ OnCurveP (ptW v P) ∧ OnCurveP (ptW v r)) := by
  induction bs generalizing r c with
  | nil =>
    refine Spec.congr (m' := pure r) (by rw [componentMulPoint.go]) ?_
    exact (Spec.pure r c).mono_iff (by decide) rfl rfl rfl (fun _ => Iff.rfl) (fun _ _ h => h)
      (fun _ _ _ _ _ => trivial)
  | cons b bs ih =>
    refine Spec.congr (m' := mulStep P b r >>= componentMulPoint.go P bs)
      (by rw [componentMulPoint.go, mulStep]; simp only [bind_assoc]) ?_
    have hw : ((mulStep P b r).run c).2.wit.size = c.wit.size + 8 := (mulStep_spec P b r c).wit
    apply Spec.mono_iff
    · apply (mulStep_spec P b r c).bind
      exact ih _ _
    · decide
    · rw [hw]; rfl
    · rw [List.length_cons, Nat.mul_succ, Nat.add_comm]
    · rw [List.length_cons, Nat.mul_succ, Nat.add_comm]
    · intro w; rw [hw]; exact Iff.rfl
    · intros; trivial
    · rintro v - - - ⟨hbits, hP, hr, cP, cr⟩
      rw [hw]
      obtain ⟨hb, hbit⟩ := hbits b List.mem_cons_self
      refine ⟨⟨hr, hb, hP, cr, cP, hbit⟩, fun r₁ => ⟨fun b' hb' => ?_, ?_, ?_, cP, ?_⟩⟩
      · obtain ⟨q1, q2⟩ := hbits b' (List.mem_cons_of_mem _ hb')
        exact ⟨Nat.lt_add_right 8 q1, q2⟩
      · exact hP.mono (mulStep_spec P b r c).ext
      · exact .of_size hw (i := 6) (j := 7) (by decide) (by decide)
      · rw [((stepRows_iff cr cP hbit).mp r₁).out hbit]
        exact ladderStepF_on_curve cP cr _

/-- final state of the ladder -/
def goOut (P : Pt) (bs : List Nat) (r : Pt) (c : Composer) : Composer :=
  ((componentMulPoint.go P bs r).run c).2

/-- returned pair of the ladder -/
def goRes (P : Pt) (bs : List Nat) (r : Pt) (c : Composer) : Pt :=
  ((componentMulPoint.go P bs r).run c).1

theorem goOut_appendsL (P : Pt) (bs : List Nat) (r : Pt) (c : Composer) :
    AppendsL c (goOut P bs r c) (6 * bs.length) (8 * bs.length) := (mulGo_spec P bs r c).appendsL

theorem goOut_wf (P : Pt) (bs : List Nat) (r : Pt) (c : Composer) (h : WF c) :
    WF (goOut P bs r c) := (mulGo_spec P bs r c).wf h

theorem goRes_eq_last (P : Pt) (bs : List Nat) (r : Pt) (c : Composer) (h : bs ≠ []) :
    goRes P bs r c = ((goOut P bs r c).wit.size - 2, (goOut P bs r c).wit.size - 1) := by
  rw [goRes, (mulGo_spec P bs r c).fst, ladderOut_eq_last bs _ r h, goOut, (mulGo_spec P bs r c).wit]

theorem mulGo_sound (P : Pt) (bs : List Nat) (r : Pt) (c : Composer) (h : WF c) (w : Nat → Nat)
    (hbits : ∀ b ∈ bs, toF (w b) = 0 ∨ toF (w b) = 1)
    (hr : OnCurveP (ptW w r)) (hP : OnCurveP (ptW w P))
    (hrows : (goOut P bs r c).rowsHoldW w c.gates.size (goOut P bs r c).gates.size) :
    ptW w (goRes P bs r c) = ladderF (ptW w P) (bitsW w bs) (ptW w r) ∧
    OnCurveP (ptW w (goRes P bs r c)) := by
  have s := mulGo_spec P bs r c
  rw [goRes, s.fst]
  exact LadderRows.sound bs _ r ((s.rows_iff_self (Nat.le_refl 1) h.pis_zero w).mp hrows) hbits hr hP

theorem mulGo_determ (P : Pt) (bs : List Nat) (r : Pt) (c : Composer) (h : WF c) (w w' : Nat → Nat)
    (hbits : ∀ b ∈ bs, toF (w b) = 0 ∨ toF (w b) = 1)
    (ebits : ∀ b ∈ bs, toF (w b) = toF (w' b))
    (hr : OnCurveP (ptW w r)) (hP : OnCurveP (ptW w P))
    (er : ptW w r = ptW w' r) (eP : ptW w P = ptW w' P)
    (hrows : (goOut P bs r c).rowsHoldW w c.gates.size (goOut P bs r c).gates.size)
    (hrows' : (goOut P bs r c).rowsHoldW w' c.gates.size (goOut P bs r c).gates.size) :
    AgreeOn w w' c.wit.size (goOut P bs r c).wit.size := by
  have s := mulGo_spec P bs r c
  rw [goOut, s.wit]
  exact LadderRows.determ bs _ r ((s.rows_iff_self (Nat.le_refl 1) h.pis_zero w).mp hrows)
    ((s.rows_iff_self (Nat.le_refl 1) h.pis_zero w').mp hrows') hbits ebits hr hP er eP

theorem mulGo_honest_ext (P : Pt) (bs : List Nat) (r : Pt) (c : Composer) (hwf : WF c)
    (hbits : ∀ b ∈ bs, b < c.wit.size ∧ (c.val b = 0 ∨ c.val b = 1))
    (hP : PtAlloc c P) (hr : PtAlloc c r)
    (cP : OnCurveP (ptW c.val P)) (cr : OnCurveP (ptW c.val r))
    {c'' : Composer} (hext : Extends (goOut P bs r c) c'') :
    (goOut P bs r c).rowsHoldW c''.val c.gates.size (goOut P bs r c).gates.size := by
  have s := mulGo_spec P bs r c
  have hx := s.ext.trans hext
  exact s.complete_self hwf.pis_zero hext ⟨fun b hb =>
      ⟨(hbits b hb).1, by rw [hx.val_eq (hbits b hb).1]; exact toF_zero_or_one (hbits b hb).2⟩,
    hP, hr, by rw [hx.ptW_val_eq hP]; exact cP, by rw [hx.ptW_val_eq hr]; exact cr⟩

end Composer

/-! ### bit lists -/

theorem bit_succ_div (v j : ℕ) : bit v (j + 1) = bit (v / 2) j := by
  unfold bit; rw [Nat.pow_succ', Nat.div_div_eq_div_mul]

theorem bit_zero_or_one (v j : Nat) : bit v j = 0 ∨ bit v j = 1 :=
  Nat.le_one_iff_eq_zero_or_eq_one.mp (bit_le_one v j)

theorem toF_bit_zero_or_one (v j : Nat) : toF (bit v j) = 0 ∨ toF (bit v j) = 1 :=
  toF_zero_or_one (bit_zero_or_one v j)

theorem toF_bit_eq_one_iff (v j : ℕ) : toF (bit v j) = 1 ↔ bit v j = 1 := by
  rw [← toF_one]
  exact toF_inj_of_lt (Nat.lt_of_le_of_lt (bit_le_one v j) R_gt_one) R_gt_one

theorem bitsValLE_range (n v : ℕ) :
    bitsValLE ((List.range n).map fun j => decide (bit v j = 1)) = v % 2 ^ n := by
  induction n generalizing v with
  | zero => simp [bitsValLE, Nat.mod_one]
  | succ n ih =>
    rw [List.range_succ_eq_map, List.map_cons, List.map_map, bitsValLE]
    have e : ((fun j => decide (bit v j = 1)) ∘ Nat.succ) = fun j => decide (bit (v / 2) j = 1) := by
      funext j; simp [bit_succ_div]
    rw [e, ih]
    have h0 : (decide (bit v 0 = 1)).toNat = v % 2 := by
      unfold bit
      rcases Nat.mod_two_eq_zero_or_one v with h | h <;> simp [h]
    rw [h0, Nat.pow_succ', Nat.mod_mul]

namespace Composer

/-- the bit wires of a decomposition laid out at `W, W+2, W+4, …` -/
def bitWires (W n : Nat) : List Nat := (List.range n).map fun j => W + 2 * j

theorem mem_bitWires {W n b : Nat} (h : b ∈ bitWires W n) : ∃ j, j < n ∧ b = W + 2 * j := by
  unfold bitWires at h
  rw [List.mem_map] at h
  obtain ⟨j, hj, rfl⟩ := h
  exact ⟨j, List.mem_range.mp hj, rfl⟩

theorem bitsW_bitWires (w : Nat → Nat) (W n v : Nat)
    (hbits : ∀ j, j < n → toF (w (W + 2 * j)) = toF (bit v j)) :
    bitsW w (bitWires W n) = (List.range n).map fun j => decide (bit v j = 1) := by
  unfold bitsW bitWires
  rw [List.map_map]
  apply List.map_congr_left
  intro j hj
  have := hbits j (List.mem_range.mp hj)
  simp only [Function.comp_apply, this, toF_bit_eq_one_iff]

theorem bitsW_reverse (w : Nat → Nat) (bs : List Nat) : bitsW w bs.reverse = (bitsW w bs).reverse := by
  unfold bitsW; rw [List.map_reverse]

/-- the bit wires handed to the ladder, most significant first -/
def mulBits (W n : Nat) : List Nat := (bitWires W n).reverse

theorem mulBits_length (W n : Nat) : (mulBits W n).length = n := by
  unfold mulBits bitWires; simp

theorem mem_mulBits {W n b : Nat} (h : b ∈ mulBits W n) : ∃ j, j < n ∧ b = W + 2 * j :=
  mem_bitWires (List.mem_reverse.mp h)

theorem ptW_zero_one {w : Nat → Nat} (h0 : toF (w 0) = 0) (h1 : toF (w 1) = 1) :
    ptW w (ZERO, ONE) = idF := by
  unfold ptW idF ZERO ONE; simp only [h0, h1]

theorem mulGo_sound_bits (P : Pt) (W n v : Nat) (c : Composer) (h : WF c) (w : Nat → Nat)
    (h0 : toF (w 0) = 0) (h1 : toF (w 1) = 1) (hP : OnCurveP (ptW w P)) (hv : v < 2 ^ n)
    (hbits : ∀ j, j < n → toF (w (W + 2 * j)) = toF (bit v j))
    (hrows : (goOut P (mulBits W n) (ZERO, ONE) c).rowsHoldW w c.gates.size
      (goOut P (mulBits W n) (ZERO, ONE) c).gates.size) :
    ptW w (goRes P (mulBits W n) (ZERO, ONE) c) = smulF v (ptW w P) ∧
    OnCurveP (ptW w (goRes P (mulBits W n) (ZERO, ONE) c)) := by
  have hid := ptW_zero_one h0 h1
  have hb : ∀ b ∈ mulBits W n, toF (w b) = 0 ∨ toF (w b) = 1 := by
    intro b hb
    obtain ⟨j, hj, rfl⟩ := mem_mulBits hb
    rw [hbits j hj]; exact toF_bit_zero_or_one v j
  obtain ⟨e1, e2⟩ := mulGo_sound P _ (ZERO, ONE) c h w hb (by rw [hid]; exact id_on_curveP) hP hrows
  refine ⟨?_, e2⟩
  rw [e1, hid, ladder_is_scalar_mul hP, mulBits, bitsW_reverse, bitsValMSB_reverse,
    bitsW_bitWires w W n v hbits, bitsValLE_range, Nat.mod_eq_of_lt hv]

/-! ### `component_mul_point` : decomposition of the scalar, then the ladder from `(ZERO, ONE)` -/

/-- `component_mul_point` with the number of scalar bits as a parameter; `componentMulPoint` is the
    instance `MUL_POINT_BITS`.  Comparing a projection of the closed 252-bit program with anything
    makes Lean evaluate the whole decomposition, so the lemmas are stated for a variable `n` and
    reach `componentMulPoint` only by rewriting with `componentMulPoint_eq`. -/
def mulPointN (n s : Nat) (P : Pt) : CM Pt := do
  let bits ← componentDecomposition n s
  componentMulPoint.go P bits.reverse (ZERO, ONE)

theorem componentMulPoint_eq (s : Nat) (P : Pt) :
    componentMulPoint s P = mulPointN Generated.MUL_POINT_BITS s P := rfl

/-- state after the decomposition of the scalar -/
def mulDc (n s : Nat) (c : Composer) : Composer := ((componentDecomposition n s).run c).2

theorem mulDc_appendsL (n s : Nat) (c : Composer) :
    AppendsL c (mulDc n s c) (2 * n + 1) (2 * n) := (componentDecomposition_appends n s c).toL

theorem mulDc_wf (n s : Nat) (c : Composer) (h : WF c) : WF (mulDc n s c) :=
  componentDecomposition_wf n s c h

theorem mulPointN_run (n s : Nat) (P : Pt) (c : Composer) :
    (mulPointN n s P).run c =
      (componentMulPoint.go P (mulBits c.wit.size n) (ZERO, ONE)).run (mulDc n s c) := by
  unfold mulPointN mulBits bitWires mulDc
  rw [run_bind', componentDecomposition_fst]

theorem mulOut_appendsL (n s : Nat) (P : Pt) (c : Composer) :
    AppendsL (mulDc n s c) (goOut P (mulBits c.wit.size n) (ZERO, ONE) (mulDc n s c)) (6 * n) (8 * n) := by
  have := goOut_appendsL P (mulBits c.wit.size n) (ZERO, ONE) (mulDc n s c)
  rwa [mulBits_length] at this

theorem mulPointN_fst_eq (n s : Nat) (P : Pt) (c : Composer) :
    ((mulPointN n s P).run c).1 = goRes P (mulBits c.wit.size n) (ZERO, ONE) (mulDc n s c) := by
  rw [mulPointN_run]; rfl

theorem mulPointN_snd (n s : Nat) (P : Pt) (c : Composer) :
    ((mulPointN n s P).run c).2 = goOut P (mulBits c.wit.size n) (ZERO, ONE) (mulDc n s c) := by
  rw [mulPointN_run]; rfl

theorem mulPointN_fst (n s : Nat) (P : Pt) (c : Composer) (hn : 0 < n) :
    ((mulPointN n s P).run c).1 =
      (((mulPointN n s P).run c).2.wit.size - 2, ((mulPointN n s P).run c).2.wit.size - 1) := by
  have hne : mulBits c.wit.size n ≠ [] := fun h => by
    have := mulBits_length c.wit.size n; rw [h] at this; exact absurd this.symm (Nat.ne_of_gt hn)
  rw [mulPointN_fst_eq, goRes_eq_last _ _ _ _ hne, mulPointN_snd]

theorem mulPointN_appendsL (n s : Nat) (P : Pt) (c : Composer) :
    AppendsL c ((mulPointN n s P).run c).2 (2 * n + 1 + 6 * n) (2 * n + 8 * n) := by
  rw [mulPointN_snd]
  exact (mulDc_appendsL n s c).trans (mulOut_appendsL n s P c)

theorem mulPointN_wf (n s : Nat) (P : Pt) (c : Composer) (h : WF c) :
    WF ((mulPointN n s P).run c).2 := by
  rw [mulPointN_snd]; exact goOut_wf _ _ _ _ (mulDc_wf n s c h)

theorem mulDc_sound (n s : Nat) (c : Composer) (hn : n ≤ 254) (h : WF c) (w : Nat → Nat)
    (h0 : toF (w 0) = 0)
    (hrows : (mulDc n s c).rowsHoldW w c.gates.size (mulDc n s c).gates.size) :
    (toF (w s)).val < 2 ^ n ∧
    (∀ j, j < n → toF (w (c.wit.size + 2 * j)) = toF (bit (toF (w s)).val j)) ∧
    (∀ j, j < n → toF (w (c.wit.size + 2 * j + 1)) = toF ((toF (w s)).val % 2 ^ (j + 1))) := by
  have hs := componentDecomposition_sound n s c hn h _ (Extends.refl _) w h0 hrows
  exact ⟨hs.1, componentDecomposition_sound_bits n s c hn h _ (Extends.refl _) w h0 hrows, hs.2.2⟩

theorem mulPointN_sound (n s : Nat) (P : Pt) (c : Composer) (hn : n ≤ 254) (h : WF c)
    (w : Nat → Nat) (h0 : toF (w 0) = 0) (h1 : toF (w 1) = 1) (hP : OnCurveP (ptW w P))
    (hrows : ((mulPointN n s P).run c).2.rowsHoldW w c.gates.size
      ((mulPointN n s P).run c).2.gates.size) :
    (toF (w s)).val < 2 ^ n ∧
    ptW w ((mulPointN n s P).run c).1 = smulF (toF (w s)).val (ptW w P) ∧
    OnCurveP (ptW w ((mulPointN n s P).run c).1) := by
  rw [mulPointN_snd] at hrows
  rw [mulPointN_fst_eq]
  obtain ⟨r1, r2⟩ := ((mulDc_appendsL n s c).rows_split (mulOut_appendsL n s P c).ext w).mp hrows
  obtain ⟨hv, hb, -⟩ := mulDc_sound n s c hn h w h0 r1
  exact ⟨hv, mulGo_sound_bits P c.wit.size n (toF (w s)).val (mulDc n s c) (mulDc_wf n s c h) w h0 h1
    hP hv hb r2⟩

theorem mulPointN_determ (n s : Nat) (P : Pt) (c : Composer) (hn : n ≤ 254) (h : WF c)
    (w w' : Nat → Nat)
    (h0 : toF (w 0) = 0) (h1 : toF (w 1) = 1) (h0' : toF (w' 0) = 0) (h1' : toF (w' 1) = 1)
    (hP : OnCurveP (ptW w P)) (es : toF (w s) = toF (w' s)) (eP : ptW w P = ptW w' P)
    (hrows : ((mulPointN n s P).run c).2.rowsHoldW w c.gates.size
      ((mulPointN n s P).run c).2.gates.size)
    (hrows' : ((mulPointN n s P).run c).2.rowsHoldW w' c.gates.size
      ((mulPointN n s P).run c).2.gates.size) :
    AgreeOn w w' c.wit.size ((mulPointN n s P).run c).2.wit.size := by
  rw [mulPointN_snd] at hrows hrows' ⊢
  have A := mulDc_appendsL n s c
  have B := mulOut_appendsL n s P c
  obtain ⟨r1, r2⟩ := (A.rows_split B.ext w).mp hrows
  obtain ⟨r1', r2'⟩ := (A.rows_split B.ext w').mp hrows'
  obtain ⟨-, hb, ha⟩ := mulDc_sound n s c hn h w h0 r1
  obtain ⟨-, hb', ha'⟩ := mulDc_sound n s c hn h w' h0' r1'
  rw [← es] at hb' ha'
  have hbits : ∀ b ∈ mulBits c.wit.size n, toF (w b) = 0 ∨ toF (w b) = 1 := by
    intro b hm
    obtain ⟨j, hj, rfl⟩ := mem_mulBits hm
    rw [hb j hj]; exact toF_bit_zero_or_one _ j
  have ebits : ∀ b ∈ mulBits c.wit.size n, toF (w b) = toF (w' b) := by
    intro b hm
    obtain ⟨j, hj, rfl⟩ := mem_mulBits hm
    rw [hb j hj, hb' j hj]
  have d2 := mulGo_determ P (mulBits c.wit.size n) (ZERO, ONE) (mulDc n s c) (mulDc_wf n s c h) w w' hbits
    ebits (by rw [ptW_zero_one h0 h1]; exact id_on_curveP) hP
    (by rw [ptW_zero_one h0 h1, ptW_zero_one h0' h1']) eP r2 r2'
  rw [A.wit] at d2
  exact (AgreeOn.pairs n (fun j hj => by rw [hb j hj, hb' j hj])
    (fun j hj => by rw [ha j hj, ha' j hj])).append d2

theorem lt_wit_size_of_val_ne_zero {c : Composer} {i : Nat} (h : c.val i ≠ 0) : i < c.wit.size :=
  Nat.lt_of_not_le fun hn => h (val_of_size_le c hn)

/-- the constants `0`, `1` on the wires `ZERO`, `ONE` of `c` are allocated and are still read in
    any extension -/
theorem zero_one_ext {c c' : Composer} (hx : Extends c c') (hz : c.val 0 = 0) (ho : c.val 1 = 1) :
    PtAlloc c (ZERO, ONE) ∧ toF (c'.val 0) = 0 ∧ toF (c'.val 1) = 1 := by
  have h1 : 1 < c.wit.size := lt_wit_size_of_val_ne_zero (by rw [ho]; exact Nat.one_ne_zero)
  have h0 : 0 < c.wit.size := Nat.lt_trans Nat.zero_lt_one h1
  exact ⟨⟨h0, h1⟩, by rw [hx.val_eq h0, hz]; exact toF_zero, by rw [hx.val_eq h1, ho]; exact toF_one⟩

theorem mulPointN_honest_ext (n s : Nat) (P : Pt) (c : Composer) (hwf : WF c)
    (hs : s < c.wit.size) (hP : PtAlloc c P) (hz : c.val 0 = 0) (ho : c.val 1 = 1)
    (hv : c.val s < 2 ^ n) (cP : OnCurveP (ptW c.val P))
    {c'' : Composer} (hext : Extends ((mulPointN n s P).run c).2 c'') :
    ((mulPointN n s P).run c).2.rowsHoldW c''.val c.gates.size
      ((mulPointN n s P).run c).2.gates.size := by
  rw [mulPointN_snd] at hext ⊢
  have A := mulDc_appendsL n s c
  have B := mulOut_appendsL n s P c
  have xD : Extends (mulDc n s c) c'' := B.ext.trans hext
  rw [A.rows_split B.ext]
  obtain ⟨d1, d2⟩ := componentDecomposition_complete n s c hwf hs hz hv c'' xD
  obtain ⟨a, z0, z1⟩ := zero_one_ext A.ext hz ho
  have a01 : PtAlloc (mulDc n s c) (ZERO, ONE) := a.mono A.ext
  have v01 : ptW (mulDc n s c).val (ZERO, ONE) = idF := ptW_zero_one z0 z1
  refine ⟨(A.rows_ext xD _).mp d1, ?_⟩
  refine mulGo_honest_ext P (mulBits c.wit.size n) (ZERO, ONE) (mulDc n s c) (mulDc_wf n s c hwf) ?_
    (hP.mono A.ext) a01 (by rw [A.ext.ptW_val_eq hP]; exact cP)
    (by rw [v01]; exact id_on_curveP) hext
  intro b hm
  obtain ⟨j, hj, rfl⟩ := mem_mulBits hm
  refine ⟨lt_wit_size A.wit (Nat.mul_lt_mul_of_pos_left hj (by decide)), ?_⟩
  have e : (mulDc n s c).val (c.wit.size + 2 * j) = bit (c.val s) j := d2 j hj
  rw [e]
  exact bit_zero_or_one (c.val s) j

theorem mulPointN_ptW_val (n s : Nat) (P : Pt) (c : Composer) (hn : n ≤ 254) (hwf : WF c)
    (hs : s < c.wit.size) (hP : PtAlloc c P) (hz : c.val 0 = 0) (ho : c.val 1 = 1)
    (hv : c.val s < 2 ^ n) (cP : OnCurveP (ptW c.val P)) :
    ptW ((mulPointN n s P).run c).2.val ((mulPointN n s P).run c).1 =
      smulF (c.val s) (ptW c.val P) := by
  have hx := (mulPointN_appendsL n s P c).ext
  obtain ⟨-, z0, z1⟩ := zero_one_ext hx hz ho
  have hs' := (mulPointN_sound n s P c hn hwf _ z0 z1
    (by rw [hx.ptW_val_eq hP]; exact cP)
    (mulPointN_honest_ext n s P c hwf hs hP hz ho hv cP (Extends.refl _))).2.1
  rw [hs', hx.val_eq hs, hx.ptW_val_eq hP, val_toF_of_lt (hwf.val_lt s)]

/-! ### the instance `n = MUL_POINT_BITS = 252` -/

theorem componentMulPoint_fst (s : Nat) (P : Pt) (c : Composer) :
    ((componentMulPoint s P).run c).1 = (c.wit.size + 2518, c.wit.size + 2519) := by
  rw [componentMulPoint_eq, mulPointN_fst _ s P c (by decide), (mulPointN_appendsL _ s P c).wit,
    Nat.add_sub_assoc (show 2 ≤ 2 * Generated.MUL_POINT_BITS + 8 * Generated.MUL_POINT_BITS by decide),
    Nat.add_sub_assoc (show 1 ≤ 2 * Generated.MUL_POINT_BITS + 8 * Generated.MUL_POINT_BITS by decide)]
  rfl

theorem componentMulPoint_appendsL (s : Nat) (P : Pt) (c : Composer) :
    AppendsL c ((componentMulPoint s P).run c).2 2017 2520 :=
  mulPointN_appendsL Generated.MUL_POINT_BITS s P c

end Composer
end Plonk
