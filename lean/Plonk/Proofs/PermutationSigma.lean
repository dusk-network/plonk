import Mathlib.Data.List.Nodup
import Mathlib.Data.List.Perm.Basic
import Plonk.Model.Prover
/-
  C05 (permutation half), part 2: functional characterisation of the model's `wirePositions`
  and `sigmaMaps` (`compute_sigma_permutations`).
-/
namespace Plonk
namespace Perm
abbrev Pos := Nat × Nat

def wireAt (c : Composer) (p : Pos) : Nat :=
  match p.1 with
  | 0 => (c.gateAt p.2).a
  | 1 => (c.gateAt p.2).b
  | 2 => (c.gateAt p.2).c
  | _ => (c.gateAt p.2).d

def rowPos (i : Nat) : List Pos := [(0, i), (1, i), (2, i), (3, i)]
def allPos (m : Nat) : List Pos := (List.range m).flatMap rowPos

def pushAll (m : Array (List Pos)) (ps : List (Nat × Pos)) : Array (List Pos) :=
  ps.foldl (fun m x => m.modify x.1 (fun l => l ++ [x.2])) m

theorem wirePositions_eq (c : Composer) :
    wirePositions c = pushAll (Array.replicate c.wit.size []) ((allPos c.gates.size).map fun p => (wireAt c p, p)) := by
  unfold wirePositions pushAll allPos
  simp only [Id.run, Std.Legacy.Range.forIn_eq_forIn_range', bind_pure_comp, map_pure, List.forIn_pure_yield_eq_foldl, bind_pure]
  have hsz : ([:c.gates.size] : Std.Legacy.Range).size = c.gates.size := by
    simp [Std.Legacy.Range.size]
  rw [hsz, ← List.range_eq_range', List.foldl_map, List.foldl_flatMap]
  show _ = _
  congr 1


theorem pushAll_size (ps : List (Nat × Pos)) : ∀ m : Array (List Pos), (pushAll m ps).size = m.size := by
  induction ps with
  | nil => intro m; rfl
  | cons x xs ih => intro m; simp only [pushAll, List.foldl_cons] at ih ⊢; rw [ih]; simp

theorem pushAll_getD (ps : List (Nat × Pos)) (w : Nat) : ∀ m : Array (List Pos), w < m.size →
    (pushAll m ps).getD w [] = m.getD w [] ++ (ps.filter (fun x => x.1 == w)).map (·.2) := by
  induction ps with
  | nil => intro m _; simp [pushAll]
  | cons x xs ih =>
    intro m hw
    simp only [pushAll, List.foldl_cons] at ih ⊢
    rw [ih _ (by simpa using hw)]
    by_cases hx : x.1 = w
    · subst hx
      simp [Array.getD_eq_getD_getElem?, Array.getElem_modify, hw]
    · have : (x.1 == w) = false := by simpa using hx
      simp [Array.getD_eq_getD_getElem?, Array.getElem?_modify, hx, this]

/-- positions wired to witness `w`, in scan order -/
def classOf (c : Composer) (w : Nat) : List Pos := (allPos c.gates.size).filter fun q => wireAt c q == w

theorem wirePositions_size (c : Composer) : (wirePositions c).size = c.wit.size := by
  rw [wirePositions_eq, pushAll_size]; simp

theorem wirePositions_getD (c : Composer) (w : Nat) (hw : w < c.wit.size) :
    (wirePositions c).getD w [] = classOf c w := by
  rw [wirePositions_eq, pushAll_getD _ _ _ (by simpa using hw)]
  simp [classOf, List.filter_map, Function.comp_def, hw]

theorem wirePositions_toList (c : Composer) :
    (wirePositions c).toList = (List.range c.wit.size).map (classOf c) := by
  apply List.ext_getElem
  · simp [wirePositions_size]
  · intro i h1 h2
    have hi : i < c.wit.size := by simpa using h2
    have := wirePositions_getD c i hi
    rw [Array.getD_eq_getD_getElem?, Array.getElem?_eq_getElem (by rw [wirePositions_size]; exact hi)] at this
    simpa using this


/-! ### `sigmaMaps` as a fold of cycle writes -/

/-- the identity table -/
def ident (n : Nat) : Array (Array Pos) :=
  (Array.range 4).map fun col => (Array.range n).map fun i => (col, i)

/-- one assignment `sigmas[col][i] = v` -/
def write (s : Array (Array Pos)) (p v : Pos) : Array (Array Pos) :=
  s.modify p.1 (fun a => a.setIfInBounds p.2 v)

/-- the inner loop: every wire of `l` is sent to the next one, cyclically -/
def writeCycle (s : Array (Array Pos)) (l : List Pos) : Array (Array Pos) :=
  (l.zipIdx.map (fun x => (x.2, x.1))).foldl
    (fun s x => write s x.2 (l.getD ((x.1 + 1) % l.length) x.2)) s

theorem sigmaMaps_eq (c : Composer) (n : Nat) :
    sigmaMaps c n = (wirePositions c).toList.foldl writeCycle (ident n) := by
  unfold sigmaMaps
  simp only [Id.run, bind_pure_comp, map_pure, List.forIn_pure_yield_eq_foldl, bind_pure,
    Array.forIn_pure_yield_eq_foldl]
  rw [← Array.foldl_toList]
  rfl

/-- read a table entry (out-of-range positions read as themselves) -/
def readS (s : Array (Array Pos)) (p : Pos) : Pos := (s.getD p.1 #[]).getD p.2 p

/-- four columns of length `n` -/
def Shape (s : Array (Array Pos)) (n : Nat) : Prop := s.size = 4 ∧ ∀ col, col < 4 → (s.getD col #[]).size = n

theorem ident_shape (n : Nat) : Shape (ident n) n := by
  refine ⟨by simp [ident], ?_⟩
  intro col hcol
  simp [ident, Array.getD_eq_getD_getElem?, hcol]

theorem readS_ident (n : Nat) (p : Pos) : readS (ident n) p = p := by
  unfold readS ident
  by_cases h1 : p.1 < 4
  · by_cases h2 : p.2 < n
    · simp [Array.getD_eq_getD_getElem?, h1, h2]
    · simp [Array.getD_eq_getD_getElem?, h1, h2]
  · simp [Array.getD_eq_getD_getElem?, h1]

theorem getD_write (s : Array (Array Pos)) (p v : Pos) (col : Nat) :
    (write s p v).getD col #[] =
      if p.1 = col then (s.getD col #[]).setIfInBounds p.2 v else s.getD col #[] := by
  unfold write
  rw [Array.getD_eq_getD_getElem?, Array.getD_eq_getD_getElem?, Array.getElem?_modify]
  by_cases hc : p.1 = col
  · subst hc
    simp only [if_true]
    cases h : s[p.1]? <;> simp
  · simp [hc]

theorem write_shape {s : Array (Array Pos)} {n : Nat} (h : Shape s n) (p v : Pos) : Shape (write s p v) n := by
  refine ⟨by simp [write, h.1], ?_⟩
  intro col hcol
  rw [getD_write]
  split
  · simpa using h.2 col hcol
  · exact h.2 col hcol

theorem getD_setIfInBounds {α : Type} (a : Array α) (i j : Nat) (v q : α) :
    (a.setIfInBounds i v).getD j q = if i = j ∧ i < a.size then v else a.getD j q := by
  rw [Array.getD_eq_getD_getElem?, Array.getD_eq_getD_getElem?, Array.getElem?_setIfInBounds]
  by_cases h : i = j
  · subst h
    by_cases h2 : i < a.size
    · simp [h2]
    · simp [h2]
  · simp [h]

theorem readS_write {s : Array (Array Pos)} {n : Nat} (h : Shape s n) (p v q : Pos) :
    readS (write s p v) q = if q = p ∧ p.1 < 4 ∧ p.2 < n then v else readS s q := by
  unfold readS
  rw [getD_write]
  by_cases hc : p.1 = q.1
  · rw [if_pos hc, getD_setIfInBounds]
    by_cases hcol : q.1 < 4
    · have hsz := h.2 q.1 hcol
      by_cases hr : p.2 = q.2
      · have : q = p := Prod.ext hc.symm hr.symm
        by_cases hb : p.2 < n
        · rw [if_pos ⟨hr, by rw [hsz]; exact hb⟩, if_pos ⟨this, hc ▸ hcol, hb⟩]
        · rw [if_neg (fun hh => hb (by rw [← hsz]; exact hh.2)), if_neg (fun hh => hb hh.2.2)]
      · have : q ≠ p := fun e => hr (by rw [e])
        rw [if_neg (fun hh => hr hh.1), if_neg (fun hh => this hh.1)]
    · have hsz : (s.getD q.1 #[]).size = 0 := by
        rw [Array.getD_eq_getD_getElem?, Array.getElem?_eq_none (by rw [h.1]; omega)]
        rfl
      rw [if_neg (fun hh => by rw [hsz] at hh; exact Nat.not_lt_zero _ hh.2),
        if_neg (fun hh => hcol (hc ▸ hh.2.1))]
  · have : q ≠ p := fun e => hc (by rw [e])
    rw [if_neg hc, if_neg (fun hh => this hh.1)]

/-- a fold of writes to pairwise distinct targets (out-of-range writes are dropped) -/
theorem foldl_write {n : Nat} (v : Nat × Pos → Pos) : ∀ (items : List (Nat × Pos)) (s : Array (Array Pos)),
    Shape s n → (items.map (·.2)).Nodup →
    Shape (items.foldl (fun s x => write s x.2 (v x)) s) n ∧
    (∀ x ∈ items, x.2.1 < 4 → x.2.2 < n →
      readS (items.foldl (fun s x => write s x.2 (v x)) s) x.2 = v x) ∧
    (∀ q, q ∉ items.map (·.2) → readS (items.foldl (fun s x => write s x.2 (v x)) s) q = readS s q) := by
  intro items
  induction items with
  | nil => intro s hs _; exact ⟨hs, by simp, by simp⟩
  | cons x xs ih =>
    intro s hs hnd
    rw [List.map_cons, List.nodup_cons] at hnd
    obtain ⟨h1, h2, h3⟩ := ih (write s x.2 (v x)) (write_shape hs _ _) hnd.2
    simp only [List.foldl_cons]
    refine ⟨h1, ?_, ?_⟩
    · intro y hy hy1 hy2
      rcases List.mem_cons.mp hy with rfl | hy
      · rw [h3 _ hnd.1, readS_write hs, if_pos ⟨rfl, hy1, hy2⟩]
      · exact h2 y hy hy1 hy2
    · intro q hq
      rw [List.map_cons, List.mem_cons, not_or] at hq
      rw [h3 q hq.2, readS_write hs, if_neg (fun hh => hq.1 hh.1)]

/-- successor of `p` in the cyclic list `l` -/
def nextIn (l : List Pos) (p : Pos) : Pos := l.getD ((l.idxOf p + 1) % l.length) p

theorem writeCycle_spec {n : Nat} {s : Array (Array Pos)} (hs : Shape s n) (l : List Pos)
    (hnd : l.Nodup) :
    Shape (writeCycle s l) n ∧
    (∀ q, q ∈ l → q.1 < 4 → q.2 < n → readS (writeCycle s l) q = nextIn l q) ∧
    (∀ q, q ∉ l → readS (writeCycle s l) q = readS s q) := by
  have hmap : (l.zipIdx.map (fun x => (x.2, x.1))).map (·.2) = l := by
    rw [List.map_map]
    exact List.zipIdx_map_fst 0 l
  obtain ⟨h1, h2, h3⟩ := foldl_write (n := n) (fun x => l.getD ((x.1 + 1) % l.length) x.2)
    (l.zipIdx.map (fun x => (x.2, x.1))) s hs (hmap.symm ▸ hnd)
  refine ⟨h1, fun q hq hq1 hq2 => ?_, fun q hq => h3 q (hmap.symm ▸ hq)⟩
  exact h2 (l.idxOf q, q) (List.mem_map.2 ⟨(q, l.idxOf q), List.mem_zipIdx_iff_getElem?.2 (List.getElem?_idxOf hq), rfl⟩)
    hq1 hq2

/-- the outer loop over pairwise disjoint duplicate-free cycles -/
theorem foldl_writeCycle {n : Nat} : ∀ (L : List (List Pos)) (s : Array (Array Pos)),
    Shape s n → (∀ l ∈ L, l.Nodup) → L.Pairwise List.Disjoint →
    Shape (L.foldl writeCycle s) n ∧
    (∀ l ∈ L, ∀ q ∈ l, q.1 < 4 → q.2 < n → readS (L.foldl writeCycle s) q = nextIn l q) ∧
    (∀ q, (∀ l ∈ L, q ∉ l) → readS (L.foldl writeCycle s) q = readS s q) := by
  intro L
  induction L with
  | nil => intro s hs _ _; exact ⟨hs, by simp, by simp⟩
  | cons l ls ih =>
    intro s hs hnd hpw
    rw [List.pairwise_cons] at hpw
    obtain ⟨w1, w2, w3⟩ := writeCycle_spec hs l (hnd l List.mem_cons_self)
    obtain ⟨h1, h2, h3⟩ := ih (writeCycle s l) w1 (fun l' h => hnd l' (List.mem_cons_of_mem _ h)) hpw.2
    simp only [List.foldl_cons]
    refine ⟨h1, ?_, ?_⟩
    · intro l' hl' q hq hq1 hq2
      rcases List.mem_cons.mp hl' with rfl | hl'
      · rw [h3 q (fun l'' hl'' hq' => hpw.1 l'' hl'' hq hq'), w2 q hq hq1 hq2]
      · exact h2 l' hl' q hq hq1 hq2
    · intro q hq
      rw [h3 q (fun l' hl' => hq l' (List.mem_cons_of_mem _ hl')), w3 q (hq l List.mem_cons_self)]

/-! ### the position set and the classes -/

theorem mem_rowPos (i : Nat) (p : Pos) : p ∈ rowPos i ↔ p.1 < 4 ∧ p.2 = i := by
  obtain ⟨a, b⟩ := p
  simp only [rowPos, List.mem_cons, Prod.mk.injEq, List.not_mem_nil, or_false]
  omega

theorem mem_allPos (m : Nat) (p : Pos) : p ∈ allPos m ↔ p.1 < 4 ∧ p.2 < m := by
  simp only [allPos, List.mem_flatMap, List.mem_range, mem_rowPos]
  constructor
  · rintro ⟨i, hi, h1, h2⟩; exact ⟨h1, h2 ▸ hi⟩
  · rintro ⟨h1, h2⟩; exact ⟨p.2, h2, h1, rfl⟩

theorem allPos_nodup (m : Nat) : (allPos m).Nodup := by
  unfold allPos
  rw [List.nodup_flatMap]
  refine ⟨fun i _ => by simp [rowPos], ?_⟩
  refine List.Pairwise.imp_of_mem ?_ (List.nodup_range (n := m))
  intro a b _ _ hab
  show List.Disjoint (rowPos a) (rowPos b)
  intro p h1 h2
  rw [mem_rowPos] at h1 h2
  exact hab (h1.2.symm.trans h2.2)

theorem mem_classOf (c : Composer) (w : Nat) (p : Pos) :
    p ∈ classOf c w ↔ (p.1 < 4 ∧ p.2 < c.gates.size) ∧ wireAt c p = w := by
  simp [classOf, mem_allPos]

theorem classOf_nodup (c : Composer) (w : Nat) : (classOf c w).Nodup :=
  (allPos_nodup _).filter _

theorem classes_pairwise_disjoint (c : Composer) (ws : List Nat) (hws : ws.Nodup) :
    (ws.map (classOf c)).Pairwise List.Disjoint := by
  rw [List.pairwise_map]
  refine List.Pairwise.imp ?_ hws
  intro a b hab p h1 h2
  rw [mem_classOf] at h1 h2
  exact hab (h1.2.symm.trans h2.2)

/-! ### the permutation as a function -/

/-- `σ` as a function on positions: the next position of the same (allocated) witness,
    cyclically; everything else is fixed -/
def sigmaFn (c : Composer) (p : Pos) : Pos :=
  if (p.1 < 4 ∧ p.2 < c.gates.size) ∧ wireAt c p < c.wit.size then nextIn (classOf c (wireAt c p)) p
  else p

/-- the table of a function -/
def tableOf (f : Pos → Pos) (n : Nat) : Array (Array Pos) :=
  (Array.range 4).map fun col => (Array.range n).map fun i => f (col, i)

theorem table_ext {s : Array (Array Pos)} {n : Nat} (hs : Shape s n) (f : Pos → Pos)
    (h : ∀ p, p.1 < 4 → p.2 < n → readS s p = f p) : s = tableOf f n := by
  apply Array.ext
  · simp [tableOf, hs.1]
  · intro col h1 h2
    have hcol : col < 4 := by rw [← hs.1]; exact h1
    have hsz := hs.2 col hcol
    rw [Array.getD_eq_getD_getElem?, Array.getElem?_eq_getElem h1] at hsz
    simp only [Option.getD_some] at hsz
    apply Array.ext
    · simp [tableOf, hsz]
    · intro i h3 h4
      have hi : i < n := by rw [← hsz]; exact h3
      have := h (col, i) hcol hi
      unfold readS at this
      simp only at this
      have e1 : s.getD col #[] = s[col] := by
        rw [Array.getD_eq_getD_getElem?, Array.getElem?_eq_getElem h1, Option.getD_some]
      rw [e1, Array.getD_eq_getD_getElem?, Array.getElem?_eq_getElem h3, Option.getD_some] at this
      simp [tableOf, this]

/-- generic form: the fold over any duplicate-free list of witnesses -/
theorem foldl_classes (c : Composer) (n : Nat) (ws : List Nat) (hws : ws.Nodup) :
    Shape ((ws.map (classOf c)).foldl writeCycle (ident n)) n ∧
    ∀ p, p.1 < 4 → p.2 < n → readS ((ws.map (classOf c)).foldl writeCycle (ident n)) p =
      if (p.1 < 4 ∧ p.2 < c.gates.size) ∧ wireAt c p ∈ ws then nextIn (classOf c (wireAt c p)) p else p := by
  obtain ⟨h1, h2, h3⟩ := foldl_writeCycle (n := n) (ws.map (classOf c)) (ident n) (ident_shape n)
    (by
      intro l hl
      obtain ⟨w, _, rfl⟩ := List.mem_map.mp hl
      exact classOf_nodup c w)
    (classes_pairwise_disjoint c ws hws)
  refine ⟨h1, ?_⟩
  intro p hp1 hp2
  split
  · next h =>
    exact h2 _ (List.mem_map_of_mem h.2) p ((mem_classOf c _ p).mpr ⟨h.1, rfl⟩) hp1 hp2
  · next h =>
    rw [h3 p, readS_ident]
    intro l hl hp
    obtain ⟨w, hw, rfl⟩ := List.mem_map.mp hl
    rw [mem_classOf] at hp
    exact h ⟨hp.1, hp.2 ▸ hw⟩

/-- `sigmaMaps` is the table of `sigmaFn` (for every table length `n`: writes to rows `≥ n`
    are dropped by the model and never read by the table) -/
theorem sigmaMaps_eq_table (c : Composer) (n : Nat) :
    sigmaMaps c n = tableOf (sigmaFn c) n := by
  rw [sigmaMaps_eq, wirePositions_toList]
  obtain ⟨h1, h2⟩ := foldl_classes c n (List.range c.wit.size) List.nodup_range
  apply table_ext h1
  intro p hp1 hp2
  rw [h2 p hp1 hp2]
  simp only [sigmaFn, List.mem_range]

end Perm
end Plonk
