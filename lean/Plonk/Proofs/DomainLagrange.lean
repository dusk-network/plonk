/-
  `evaluate_all_lagrange_coefficients`: outside the domain the entries are the closed form
  `lagrangeF`, on the domain the indicator vector.
-/
import Plonk.Proofs.DomainBridge

namespace Plonk.PolyC19
open Polynomial

/-! Kernel caveat: the kernel must never be made to unfold `fmul`/`fsub`/`fadd` applied to a
    non-literal and a literal (`fsub x 1` unfolds to `(x + (R − 1)) % R`, and weak-head-normalising
    that peels `R` successors).  `Function.comp` and matcher applications lose the unfolding race
    against `fmul`, so the list fusions below are stated with explicit lambdas instead of `∘`. -/

/-- `List.map_map` with the composition written as a lambda (see the caveat above) -/
theorem map_map' {α β γ : Type} (f : α → β) (g : β → γ) (l : List α) :
    (l.map f).map g = l.map (fun x => g (f x)) := by
  induction l with
  | nil => rfl
  | cons x xs ih => simp [ih]

theorem map_zip_map_self {α β γ : Type} (l : List α) (g : α → β) (f : β × α → γ) :
    ((l.map g).zip l).map f = l.map (fun r => f (g r, r)) := by
  induction l with
  | nil => rfl
  | cons x xs ih => simp [ih]

theorem map_self_zip_map {α β γ : Type} (l : List α) (g : α → β) (f : α × β → γ) :
    (l.zip (l.map g)).map f = l.map (fun r => f (r, g r)) := by
  induction l with
  | nil => rfl
  | cons x xs ih => simp [ih]

theorem lag_entry {d : Domain} (ok : DomainOK d) (tau i : Nat) :
    fmul (fmul (fmul (fsub (fpow tau d.size) 1) d.sizeInv) (toF d.groupGen ^ i).val)
      (binv (fsub tau (toF d.groupGen ^ i).val)) =
    (lagrangeF d.size (toF d.groupGen) (toF tau) i).val := by
  refine eq_val_of_toF (fmul_lt _ _) ?_
  simp only [toF_fmul, toF_fsub, toF_binv, toF_val, toF_fpow _ _ ok.size_lt, toF_one,
    ok.sizeInv_eq]
  unfold lagrangeF
  rw [div_eq_mul_inv, mul_inv]
  ring

/-- `τ` outside the domain: entry `i` is the canonical representative of
    `L_i(τ) = (τ^n − 1)·ω^i / (n·(τ − ω^i))` -/
theorem lagrangeCoeffs_outside {d : Domain} (ok : DomainOK d) (tau : Nat)
    (h : toF tau ^ d.size ≠ 1) :
    d.lagrangeCoeffs tau =
      (List.range d.size).map (fun i => (lagrangeF d.size (toF d.groupGen) (toF tau) i).val) := by
  unfold Domain.lagrangeCoeffs
  have hc : (fpow tau d.size == 1 % R) = false := by
    rw [beq_eq_false_iff_ne]
    intro e
    apply h
    rw [← toF_fpow _ _ ok.size_lt, e]; simp
  simp only [hc, Bool.false_eq_true, if_false]
  rw [batchInversion_eq_map, map_map', map_zip_map_self, elements_eq, map_map']
  apply List.map_congr_left
  intro i _
  exact lag_entry ok tau i

/-- `τ = ω^k` in the domain: the indicator vector of `k` -/
theorem lagrangeCoeffs_inside {d : Domain} (ok : DomainOK d) (tau k : Nat) (hk : k < d.size)
    (h : toF tau = toF d.groupGen ^ k) :
    d.lagrangeCoeffs tau = (List.range d.size).map (fun i => if i = k then 1 else 0) := by
  unfold Domain.lagrangeCoeffs
  have hc : (fpow tau d.size == 1 % R) = true := by
    rw [beq_iff_eq]
    apply (toF_inj_of_lt (fpow_lt _ _) one_mod_R_lt).mp
    rw [toF_fpow _ _ ok.size_lt, h, toF_mod, toF_one,
      FftMath.pow_pow_eq_one ok.prim.pow_eq_one]
  have hfind : d.elements.findIdx? (· == tau % R) = some k := by
    rw [List.findIdx?_eq_some_iff_getElem]
    refine ⟨by rw [elements_length]; exact hk, ?_, ?_⟩
    · rw [elements_getElem, beq_iff_eq]
      exact (eq_val_of_toF (Nat.mod_lt _ R_pos) (by rw [toF_mod, h])).symm
    · intro j hj
      rw [elements_getElem]
      simp only [beq_iff_eq]
      intro e
      have e2 : toF d.groupGen ^ j = toF d.groupGen ^ k := by
        rw [← toF_val (toF d.groupGen ^ j), e, toF_mod, h]
      have := ok.prim.pow_inj (by omega) hk e2
      omega
  simp only [hc, if_true, hfind]
  apply List.map_congr_left
  intro i _
  simp [one_mod_R]

end Plonk.PolyC19
