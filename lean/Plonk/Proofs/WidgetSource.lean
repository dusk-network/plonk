/-
  Tie by TRANSLATION: `Plonk/GeneratedWidgets.lean` is regenerated from the Rust sources
  `src/proof_system/widget/*/{proverkey,verifierkey}.rs` by `tools/rs2lean.py` on every run. The theorems below and in
  `Props/WidgetTie.lean` state that each translated function — the prover's quotient term, the prover's linearisation term and the verifier's
  linearisation scalar of every gate widget — is the model's widget scalar (`rangeScalar`, `logicScalar`, `fixedScalar`,
  `varScalar` of `Plonk/Model/Verifier.lean`, i.e. the separation-challenge-weighted sum of the model's row components
  `rangeComps` / `logicComps` / `fixedComps` / `varComps`), so the three sites of each widget agree with each other and
  with the row semantics all gadget theorems are about. A change of any of these Rust formulas changes the generated
  definition and breaks the corresponding proof.
-/
import Plonk.GeneratedWidgets
import Plonk.Proofs.VerifierAlgebra

namespace Plonk.WidgetSource
open Plonk Plonk.GeneratedWidgets

/-- the evaluations structure with the wire values of row `i` in place of the evaluations at `z` -/
def rowEvals (a b c d aw bw dw ql qr qc : Nat) : Evals :=
  { a := a, b := b, c := c, d := d, aw := aw, bw := bw, dw := dw, qarith := 0, qc := qc, ql := ql, qr := qr,
    s1 := 0, s2 := 0, s3 := 0, z := 0 }

theorem range_delta_eq (x : F) : range_delta x = deltaF x := by
  unfold range_delta deltaF; ring

theorem logic_delta_eq (x : F) : logic_delta x = deltaF x := by
  unfold logic_delta deltaF; ring

theorem logic_delta_xor_and_eq (a b w c qc : F) : logic_delta_xor_and a b w c qc = deltaXorAndF a b w c qc := by
  unfold logic_delta_xor_and deltaXorAndF; ring

/-! ### range -/

theorem range_linearization_source (sep : Nat) (e : Evals) (q : F) :
    range_linearization (A := F) (evaluations_a_eval := toF e.a) (evaluations_b_eval := toF e.b)
      (evaluations_c_eval := toF e.c) (evaluations_d_eval := toF e.d) (evaluations_d_w_eval := toF e.dw)
      (range_separation_challenge := toF sep) (self_q_range_0 := q)
    = q * toF (rangeScalar sep e) := by
  rw [toF_rangeScalar_expanded]
  simp only [range_linearization, range_delta_eq]
  ring1

theorem range_quotient_source (sep a b c d dw : Nat) (q : F) :
    range_quotient_i (A := F) (a_i := toF a) (b_i := toF b) (c_i := toF c) (d_i := toF d) (d_i_w := toF dw)
      (range_separation_challenge := toF sep) (self_q_range_1_index := q)
    = q * toF (rangeScalar sep (rowEvals a b c d 0 0 dw 0 0 0)) := by
  rw [toF_rangeScalar_expanded]
  simp only [range_quotient_i, range_delta_eq, rowEvals]
  ring1

/-! ### logic -/

theorem logic_linearization_source (sep : Nat) (e : Evals) (q : F) :
    logic_linearization (A := F) (evaluations_a_eval := toF e.a) (evaluations_a_w_eval := toF e.aw)
      (evaluations_b_eval := toF e.b) (evaluations_b_w_eval := toF e.bw) (evaluations_c_eval := toF e.c)
      (evaluations_d_eval := toF e.d) (evaluations_d_w_eval := toF e.dw) (evaluations_q_c_eval := toF e.qc)
      (logic_separation_challenge := toF sep) (self_q_logic_0 := q)
    = q * toF (logicScalar sep e) := by
  rw [toF_logicScalar_expanded]
  simp only [logic_linearization, logic_delta_eq, logic_delta_xor_and_eq]
  ring1

theorem logic_quotient_source (sep a aw b bw c d dw qc : Nat) (q : F) :
    logic_quotient_i (A := F) (a_i := toF a) (a_i_w := toF aw) (b_i := toF b) (b_i_w := toF bw) (c_i := toF c)
      (d_i := toF d) (d_i_w := toF dw) (logic_separation_challenge := toF sep) (self_q_c_1_index := toF qc)
      (self_q_logic_1_index := q)
    = q * toF (logicScalar sep (rowEvals a b c d aw bw dw 0 0 qc)) := by
  rw [toF_logicScalar_expanded]
  simp only [logic_quotient_i, logic_delta_eq, logic_delta_xor_and_eq, rowEvals]
  ring1

/-! ### fixed-base scalar multiplication -/

theorem fixed_linearization_source (sep : Nat) (e : Evals) (q : F) :
    fixed_linearization (A := F) (EDWARDS_D := dF) (ecc_separation_challenge := toF sep)
      (evaluations_a_eval := toF e.a) (evaluations_a_w_eval := toF e.aw) (evaluations_b_eval := toF e.b)
      (evaluations_b_w_eval := toF e.bw) (evaluations_c_eval := toF e.c) (evaluations_d_eval := toF e.d)
      (evaluations_d_w_eval := toF e.dw) (evaluations_q_c_eval := toF e.qc) (evaluations_q_l_eval := toF e.ql)
      (evaluations_q_r_eval := toF e.qr) (self_q_fixed_group_add_0 := q)
    = q * toF (fixedScalar sep e) := by
  rw [toF_fixedScalar_expanded]
  simp only [fixed_linearization, fixed_extract_bit, fixed_check_bit_consistency]
  ring1

theorem fixed_quotient_source (sep a aw b bw c d dw ql qr qc : Nat) (q : F) :
    fixed_quotient_i (A := F) (EDWARDS_D := dF) (a_i := toF a) (a_i_w := toF aw) (b_i := toF b) (b_i_w := toF bw)
      (c_i := toF c) (d_i := toF d) (d_i_w := toF dw) (ecc_separation_challenge := toF sep)
      (self_q_c_1_index := toF qc) (self_q_fixed_group_add_1_index := q) (self_q_l_1_index := toF ql)
      (self_q_r_1_index := toF qr)
    = q * toF (fixedScalar sep (rowEvals a b c d aw bw dw ql qr qc)) := by
  rw [toF_fixedScalar_expanded]
  simp only [fixed_quotient_i, fixed_extract_bit, fixed_check_bit_consistency, rowEvals]
  ring1

/-! ### variable-base curve addition -/

theorem var_linearization_source (sep : Nat) (e : Evals) (q : F) :
    var_linearization (A := F) (EDWARDS_D := dF) (curve_add_separation_challenge := toF sep)
      (evaluations_a_eval := toF e.a) (evaluations_a_w_eval := toF e.aw) (evaluations_b_eval := toF e.b)
      (evaluations_b_w_eval := toF e.bw) (evaluations_c_eval := toF e.c) (evaluations_d_eval := toF e.d)
      (evaluations_d_w_eval := toF e.dw) (self_q_variable_group_add_0 := q)
    = q * toF (varScalar sep e) := by
  rw [toF_varScalar_expanded]
  simp only [var_linearization]
  ring1

theorem var_quotient_source (sep a aw b bw c d dw : Nat) (q : F) :
    var_quotient_i (A := F) (EDWARDS_D := dF) (a_i := toF a) (a_i_w := toF aw) (b_i := toF b) (b_i_w := toF bw)
      (c_i := toF c) (curve_add_separation_challenge := toF sep) (d_i := toF d) (d_i_w := toF dw)
      (self_q_variable_group_add_1_index := q)
    = q * toF (varScalar sep (rowEvals a b c d aw bw dw 0 0 0)) := by
  rw [toF_varScalar_expanded]
  simp only [var_quotient_i, rowEvals]
  ring1

/-! ### permutation -/

/-- the scalar on `[z]` in the model's `linearizationTerms` (copied text; `linearizationTerms_perm` ties the copy) -/
def permZScalar (e : Evals) (ch : Challenges) (l1 : Nat) : Nat :=
  let K1 := Generated.K1; let K2 := Generated.K2; let K3 := Generated.K3
  let bz := fmul ch.beta ch.z
  let x := fmul (fmul (fmul (fadd (fadd e.a bz) ch.gamma)
                            (fadd (fadd e.b (fmul (fmul ch.beta K1) ch.z)) ch.gamma))
                      (fadd (fadd e.c (fmul (fmul ch.beta K2) ch.z)) ch.gamma))
                (fmul (fadd (fadd e.d (fmul (fmul ch.beta K3) ch.z)) ch.gamma) ch.alpha)
  let r := fmul l1 (fsq ch.alpha)
  fadd (fadd x r) ch.u

/-- the scalar on `[s_sigma_4]` in the model's `linearizationTerms` -/
def permS4Scalar (e : Evals) (ch : Challenges) : Nat :=
  fneg (fmul (fmul (fmul (fadd (fadd e.a (fmul ch.beta e.s1)) ch.gamma)
                         (fadd (fadd e.b (fmul ch.beta e.s2)) ch.gamma))
                   (fadd (fadd e.c (fmul ch.beta e.s3)) ch.gamma))
             (fmul (fmul ch.beta e.z) ch.alpha))

theorem linearizationTerms_perm (k : VKey) (p : ProofM) (ch : Challenges) (zh l1 : Nat) :
    (linearizationTerms k p ch zh l1)[10]? = some (permZScalar p.ev ch l1, p.zC) ∧
    (linearizationTerms k p ch zh l1)[11]? = some (permS4Scalar p.ev ch, k.s4) :=
  ⟨rfl, rfl⟩

/-- the three permutation terms of the prover's quotient numerator at row `i` (copied text of the model's
    `quotientEvals`: `idp + cpp + (z − 1)·l1α²`) -/
def permQuotTerm (a b c d z zw x s1 s2 s3 s4 alpha beta gamma l1a2 : Nat) : Nat :=
  let idp := fmul (fmul (fmul (fmul (fmul (fadd (fadd a (fmul beta x)) gamma)
                (fadd (fadd b (fmul (fmul beta Generated.K1) x)) gamma))
                (fadd (fadd c (fmul (fmul beta Generated.K2) x)) gamma))
                (fadd (fadd d (fmul (fmul beta Generated.K3) x)) gamma)) z) alpha
  let cpp := fneg (fmul (fmul (fmul (fmul (fmul (fadd (fadd a (fmul beta s1)) gamma)
                (fadd (fadd b (fmul beta s2)) gamma)) (fadd (fadd c (fmul beta s3)) gamma))
                (fadd (fadd d (fmul beta s4)) gamma)) zw) alpha)
  fadd (fadd idp cpp) (fmul (fsub z 1) l1a2)

/-! ### `proof.rs`: order of the widget terms, quotient terms, `r_0` -/

/-- the four quotient terms `−z_h, z^n·(−z_h), z^{2n}·(−z_h), z^{3n}·(−z_h)` on `t_low … t_fourth` -/
def quotientScalars (zh : Nat) : List Nat :=
  let zhNeg := fneg zh
  let zPowN := fadd zh 1
  let zN := fmul zPowN zhNeg
  let z2N := fmul (fsq zPowN) zhNeg
  let z3N := fmul z2N zPowN
  [zhNeg, zN, z2N, z3N]

theorem linearizationTerms_quotient (k : VKey) (p : ProofM) (ch : Challenges) (zh l1 : Nat) :
    (linearizationTerms k p ch zh l1).drop 12
      = [((quotientScalars zh).getD 0 0, p.tLow), ((quotientScalars zh).getD 1 0, p.tMid),
         ((quotientScalars zh).getD 2 0, p.tHigh), ((quotientScalars zh).getD 3 0, p.tFourth)] :=
  rfl

/-- `r_0` of `Proof::verify` and of `Proof::verify_legacy` is the model's `r0Eval` -/
theorem verify_r0_source (e : Evals) (ch : Challenges) (l1 pi : Nat) :
    verify_r0 (A := F) (alpha := toF ch.alpha) (beta := toF ch.beta) (gamma := toF ch.gamma) (l1_eval := toF l1)
      (pi_eval := toF pi) (self_evaluations_a_eval := toF e.a) (self_evaluations_b_eval := toF e.b)
      (self_evaluations_c_eval := toF e.c) (self_evaluations_d_eval := toF e.d)
      (self_evaluations_s_sigma_1_eval := toF e.s1) (self_evaluations_s_sigma_2_eval := toF e.s2)
      (self_evaluations_s_sigma_3_eval := toF e.s3) (self_evaluations_z_eval := toF e.z)
    = toF (r0Eval e ch l1 pi) ∧
    verify_legacy_r0 (A := F) (alpha := toF ch.alpha) (beta := toF ch.beta) (gamma := toF ch.gamma) (l1_eval := toF l1)
      (pi_eval := toF pi) (self_evaluations_a_eval := toF e.a) (self_evaluations_b_eval := toF e.b)
      (self_evaluations_c_eval := toF e.c) (self_evaluations_d_eval := toF e.d)
      (self_evaluations_s_sigma_1_eval := toF e.s1) (self_evaluations_s_sigma_2_eval := toF e.s2)
      (self_evaluations_s_sigma_3_eval := toF e.s3) (self_evaluations_z_eval := toF e.z)
    = toF (r0Eval e ch l1 pi) := by
  constructor <;>
    simp only [verify_r0, verify_legacy_r0, r0Eval, toF_fmul, toF_fadd, toF_fsub, toF_fsq]

end Plonk.WidgetSource
