/-
  Prover-side codecs (`Plonk/Model/Codec.lean`): `evalsFromBytes`, raw commit key, `PKeyRaw`,
  `ProverM` — round trips, well-formedness, work bounds.
-/
import Plonk.Proofs.CodecRoundtrip
import Plonk.Proofs.FftDomain
import Mathlib.Data.List.DropRight

set_option Elab.async false

namespace Plonk

theorem Domain.new?_size {m : Nat} {d : Domain} (h : Domain.new? m = some d) : d.size = nextPow2' m := by
  unfold Domain.new? at h
  simp only at h
  split at h
  · cases h
  · have h := Option.some.inj h
    subst h; rfl

theorem Domain.new?_size_lt {m : Nat} {d : Domain} (h : Domain.new? m = some d) : d.size < 2 ^ 32 := by
  obtain ⟨wf, hl⟩ := Domain.new?_wf m d h
  rw [wf.size_eq]
  exact Nat.pow_lt_pow_right (by norm_num) hl

theorem nextPow2'_idem (m : Nat) : nextPow2' (nextPow2' m) = nextPow2' m := by
  obtain ⟨j, hj, e⟩ := nextPow2'_pow m
  rw [e]
  exact nextPow2'_pow_self j hj

/-- a domain built by `Domain.new?` is the domain of its own size -/
theorem Domain.new?_idem {m : Nat} {d : Domain} (h : Domain.new? m = some d) : Domain.new? d.size = some d := by
  rw [Domain.new?_size h]
  unfold Domain.new? at h ⊢
  simp only [nextPow2'_idem] at h ⊢
  exact h

theorem Domain.toBytes_length (d : Domain) : d.toBytes.length = 172 := by
  unfold Domain.toBytes
  simp only [List.length_append, natToBytesLE_length, scalarBytesLE_length]

theorem scalarBytesLE_mod (x : Nat) : scalarBytesLE (x % R) = scalarBytesLE x := by
  unfold scalarBytesLE; rw [Nat.mod_mod]

theorem Domain.toBytes_scalars (d : Domain) : (d.toBytes.drop 12).take 160 =
    [d.size % R, d.sizeInv % R, d.groupGen % R, d.groupGenInv % R, d.generatorInv % R].flatMap scalarBytesLE ++ [] := by
  unfold Domain.toBytes
  have e : natToBytesLE d.size 8 ++ natToBytesLE d.logSize 4 ++ scalarBytesLE (d.size % R) ++ scalarBytesLE d.sizeInv ++
      scalarBytesLE d.groupGen ++ scalarBytesLE d.groupGenInv ++ scalarBytesLE d.generatorInv =
      (natToBytesLE d.size 8 ++ natToBytesLE d.logSize 4) ++ (scalarBytesLE (d.size % R) ++ (scalarBytesLE d.sizeInv ++
      (scalarBytesLE d.groupGen ++ (scalarBytesLE d.groupGenInv ++ scalarBytesLE d.generatorInv)))) := by
    simp only [List.append_assoc]
  rw [e, List.drop_left' (by simp)]
  simp only [List.flatMap_cons, List.flatMap_nil, List.append_nil, scalarBytesLE_mod]
  apply List.take_of_length_le
  simp

theorem Domain.toBytes_size {d : Domain} (h : d.size < 2 ^ 64) : bytesToNatLE (d.toBytes.take 8) = d.size := by
  unfold Domain.toBytes
  simp only [List.append_assoc]
  rw [List.take_left' (natToBytesLE_length _ _)]
  exact bytesToNatLE_natToBytesLE (lt_of_lt_of_eq h (by norm_num))

theorem DOMAIN_SIZE_eq : DOMAIN_SIZE = 172 := by decide

theorem evalsFromBytes_eq (bs : List Nat) : evalsFromBytes bs =
    if bs.length < 172 then .error .invalidData else
    (readScalars 5 ((bs.drop 12).take 160)).elim (.error .invalidData) fun _ =>
    if nextPow2' (bytesToNatLE (bs.take 8)) != bytesToNatLE (bs.take 8) then .error .invalidData else
    (Domain.new? (bytesToNatLE (bs.take 8))).elim (.error .domain) fun d =>
    if d.toBytes != bs.take 172 then .error .invalidData else
    if (bs.drop 172).length != bytesToNatLE (bs.take 8) * 32 then .error .invalidData else
    (readScalars (bytesToNatLE (bs.take 8)) (bs.drop 172)).elim (.error .invalidData) fun q => .ok (d, q.1) := by
  unfold evalsFromBytes
  simp only [DOMAIN_SIZE_eq]
  cases readScalars 5 _ with
  | none => rfl
  | some x =>
    cases Domain.new? _ with
    | none => rfl
    | some d =>
      dsimp only [Option.elim_some]
      cases readScalars _ (List.drop 172 bs) with
      | none => rfl
      | some q => rfl

/-- `evalsFromBytes` succeeds exactly when every step does: the five scalars of the serialized domain
    decode, `size` is a power of two, the serialized domain is `Domain.new? size`, and the payload is
    exactly `size` canonical scalars -/
theorem evalsFromBytes_eq_ok {bs : List Nat} {d : Domain} {ev : List Nat} : evalsFromBytes bs = .ok (d, ev) ↔
    ¬ bs.length < 172 ∧ (∃ a b, readScalars 5 ((bs.drop 12).take 160) = some (a, b)) ∧
    nextPow2' (bytesToNatLE (bs.take 8)) = bytesToNatLE (bs.take 8) ∧
    Domain.new? (bytesToNatLE (bs.take 8)) = some d ∧ d.toBytes = bs.take 172 ∧
    (bs.drop 172).length = bytesToNatLE (bs.take 8) * 32 ∧
    ∃ r, readScalars (bytesToNatLE (bs.take 8)) (bs.drop 172) = some (ev, r) := by
  rw [evalsFromBytes_eq]
  simp only [Except.ite_error_eq_ok, Option.elim_error_eq_ok, Except.ok.injEq, Prod.mk.injEq, bne_iff_ne, ne_eq,
    not_not, Prod.exists, exists_and_right]
  constructor
  · rintro ⟨h1, h2, h3, d', h4, h5, h6, ev', ⟨r, h7⟩, rfl, rfl⟩; exact ⟨h1, h2, h3, h4, h5, h6, r, h7⟩
  · rintro ⟨h1, h2, h3, h4, h5, h6, r, h7⟩; exact ⟨h1, h2, h3, d, h4, h5, h6, ev, ⟨r, h7⟩, rfl, rfl⟩

theorem evalsFromBytes_evalsToBytes {d : Domain} {ev : List Nat} (hd : Domain.new? d.size = some d)
    (hl : ev.length = d.size) (hev : ∀ e ∈ ev, e < R) :
    evalsFromBytes (evalsToBytes d ev) = .ok (d, ev) := by
  have hsz : d.size < 2 ^ 64 := lt_trans (Domain.new?_size_lt hd) (by norm_num)
  have hdl := Domain.toBytes_length d
  unfold evalsToBytes
  have t8 : (d.toBytes ++ ev.flatMap scalarBytesLE).take 8 = d.toBytes.take 8 := by
    rw [List.take_append_of_le_length (by omega)]
  have tsc : ((d.toBytes ++ ev.flatMap scalarBytesLE).drop 12).take 160 = (d.toBytes.drop 12).take 160 := by
    rw [List.drop_append_of_le_length (by omega), List.take_append_of_le_length (by simp [hdl])]
  rw [evalsFromBytes_eq_ok, t8, Domain.toBytes_size hsz, List.take_left' hdl, List.drop_left' hdl, tsc,
    Domain.toBytes_scalars, length_flatMap_const scalarBytesLE_length, hl]
  refine ⟨by rw [List.length_append, hdl]; omega, ⟨_, _, readScalars_encode
    [d.size % R, d.sizeInv % R, d.groupGen % R, d.groupGenInv % R, d.generatorInv % R] [] ?_⟩,
    (Domain.new?_size hd).symm, hd, rfl, Nat.mul_comm _ _, [], ?_⟩
  · intro x hx
    simp only [List.mem_cons, List.not_mem_nil, or_false] at hx
    rcases hx with rfl | rfl | rfl | rfl | rfl <;> exact Nat.mod_lt _ (by decide +kernel)
  · have := readScalars_encode ev [] hev
    rwa [List.append_nil, hl] at this

/-- what `evalsFromBytes` accepts: the serialized domain is exactly `Domain.new? size`, `size` is a
    power of two, the input has exactly `172 + 32·size` bytes, the payload is `size` canonical scalars -/
theorem evalsFromBytes_wf {bs : List Nat} {d : Domain} {ev : List Nat} (h : evalsFromBytes bs = .ok (d, ev)) :
    Domain.new? (bytesToNatLE (bs.take 8)) = some d ∧ d.size = bytesToNatLE (bs.take 8) ∧
    nextPow2' d.size = d.size ∧ (∃ j, j < 32 ∧ d.size = 2 ^ j) ∧
    d.toBytes = bs.take 172 ∧ bs.length = 172 + 32 * d.size ∧
    ev.length = d.size ∧ (∀ e ∈ ev, e < R) ∧ (AllBytes bs → evalsToBytes d ev = bs) := by
  obtain ⟨hlen, -, hnp, hd, hdom, hbl, r, hrs⟩ := evalsFromBytes_eq_ok.mp h
  have hsz : d.size = bytesToNatLE (bs.take 8) := by rw [Domain.new?_size hd, hnp]
  obtain ⟨wf, hlg⟩ := Domain.new?_wf _ _ hd
  obtain ⟨i1, i2, -, i4, i5⟩ := readScalars_decode hrs
  rw [List.length_drop] at hbl i2
  refine ⟨hd, hsz, by rw [hsz]; exact hnp, ⟨d.logSize, hlg, wf.size_eq⟩, hdom, by omega, by rw [i1, hsz], i4, ?_⟩
  intro hb
  have hr : r = [] := List.eq_nil_of_length_eq_zero (by omega)
  have := i5 (hb.drop 172)
  rw [hr, List.append_nil] at this
  unfold evalsToBytes
  rw [hdom, this, List.take_append_drop]

theorem commitKeyFromRaw_go_succ (k : Nat) (r : List Nat) (acc : List G1) :
    commitKeyFromRaw.go (k + 1) r acc =
      match G1.fromRawChecked (r.take 97) with
      | some p => commitKeyFromRaw.go k (r.drop 97) (p :: acc)
      | none => .error .pointMalformed := by
  rw [commitKeyFromRaw.go]
  cases G1.fromRawChecked (r.take 97) <;> rfl

/-- on input that is long enough, the loop of the raw commit-key decoder is the fixed-width reader of
    97-byte points (on shorter input `G1.fromRawChecked` would still be tried on a truncated chunk) -/
theorem commitKeyFromRaw_go_eq (k : Nat) (r : List Nat) (acc : List G1) (h : 97 * k ≤ r.length) :
    commitKeyFromRaw.go k r acc =
      (readItems 97 G1.fromRawChecked k r).elim (.error .pointMalformed) fun q => .ok (acc.reverse ++ q.1) := by
  induction k generalizing r acc with
  | zero => simp [commitKeyFromRaw.go, readItems]
  | succ k ih =>
    rw [commitKeyFromRaw_go_succ, readItems, if_neg (by omega)]
    cases G1.fromRawChecked (r.take 97) with
    | none => rfl
    | some p =>
      rw [Option.bind_some]
      dsimp only
      rw [ih _ _ (by rw [List.length_drop]; omega)]
      cases readItems 97 G1.fromRawChecked k (r.drop 97) with
      | none => rfl
      | some q => simp

theorem commitKeyToRaw_length (ck : List G1) : (commitKeyToRaw ck).length = 8 + 97 * ck.length := by
  unfold commitKeyToRaw
  rw [List.length_append, natToBytesLE_length, length_flatMap_const G1.toRaw_length]

/-- the raw commit-key decoder accepts exactly a header announcing a non-zero count that matches the
    input length (and fits `usize`), followed by that many raw points -/
theorem commitKeyFromRaw_eq_ok {bs : List Nat} {ck : List G1} : commitKeyFromRaw bs = .ok ck ↔
    ¬ bs.length < 8 ∧ bytesToNatLE (bs.take 8) ≠ 0 ∧ 8 + bytesToNatLE (bs.take 8) * 97 ≤ USIZE_MAX ∧
    bs.length = 8 + bytesToNatLE (bs.take 8) * 97 ∧
    commitKeyFromRaw.go (bytesToNatLE (bs.take 8)) (bs.drop 8) [] = .ok ck := by
  unfold commitKeyFromRaw
  simp only [Except.ite_error_eq_ok, beq_iff_eq, bne_iff_ne, ne_eq, not_not, Bool.or_eq_true, decide_eq_true_eq,
    not_or, not_lt]
  constructor
  · rintro ⟨h1, h2, ⟨-, h3⟩, h4, h5⟩; exact ⟨h1, h2, h3, h4, h5⟩
  · rintro ⟨h1, h2, h3, h4, h5⟩; exact ⟨h1, h2, ⟨by omega, h3⟩, h4, h5⟩

/-- raw commit-key round trip (non-empty key whose encoding fits `usize`) -/
theorem commitKeyFromRaw_toRaw {ck : List G1} (hne : ck ≠ []) (hfit : 8 + ck.length * 97 ≤ USIZE_MAX)
    (h : ∀ p ∈ ck, p.Valid ∧ p.torsionFree = true) :
    commitKeyFromRaw (commitKeyToRaw ck) = .ok ck := by
  have hlen : ck.length ≠ 0 := by rwa [Ne, List.length_eq_zero_iff]
  have hl := commitKeyToRaw_length ck
  have t8 : (commitKeyToRaw ck).take 8 = natToBytesLE ck.length 8 := List.take_left' (natToBytesLE_length _ _)
  have d8 : (commitKeyToRaw ck).drop 8 = ck.flatMap G1.toRaw ++ [] := by
    rw [List.append_nil]; exact List.drop_left' (natToBytesLE_length _ _)
  have hv : bytesToNatLE (natToBytesLE ck.length 8) = ck.length :=
    bytesToNatLE_natToBytesLE (by rw [USIZE_MAX_eq] at hfit; norm_num; omega)
  rw [commitKeyFromRaw_eq_ok, t8, hv, d8,
    commitKeyFromRaw_go_eq _ _ _ (by rw [List.append_nil, length_flatMap_const G1.toRaw_length]),
    readItems_encode G1.toRaw_length (fun _ hp => G1.fromRawChecked_toRaw hp.1 hp.2) ck [] h]
  exact ⟨by omega, hlen, hfit, by omega, rfl⟩

/-- what the raw commit-key decoder accepts: a non-empty key, exactly `8 + 97·len` bytes, every point
    reduced, on the curve and torsion free; and the encoding is canonical -/
theorem commitKeyFromRaw_wf {bs : List Nat} {ck : List G1} (h : commitKeyFromRaw bs = .ok ck) :
    ck ≠ [] ∧ 97 * ck.length + 8 = bs.length ∧ ck.length = bytesToNatLE (bs.take 8) ∧
    (∀ p ∈ ck, p.Valid ∧ p.torsionFree = true) ∧ (AllBytes bs → commitKeyToRaw ck = bs) := by
  obtain ⟨hlen, hz, -, hl, h⟩ := commitKeyFromRaw_eq_ok.mp h
  have hdl : 97 * bytesToNatLE (bs.take 8) = (bs.drop 8).length := by rw [List.length_drop]; omega
  rw [commitKeyFromRaw_go_eq _ _ _ hdl.le, Option.elim_error_eq_ok] at h
  obtain ⟨⟨ps, r⟩, hrd, h⟩ := h
  obtain rfl : ps = ck := by simpa using h
  obtain ⟨e2, e5, -, e3, e4⟩ := readItems_decode (enc := G1.toRaw) (Good := fun p => p.Valid ∧ p.torsionFree = true)
    (fun _ _ hp => ⟨(G1.fromRawChecked_wf hp).2.2.2.2.2.1, (G1.fromRawChecked_wf hp).2.2.2.2.2.2⟩)
    (fun _ _ hb hl hp => G1.fromRawChecked_canonical hb hl hp) hrd
  refine ⟨?_, by omega, e2, e3, ?_⟩
  · intro hnil; rw [hnil] at e2; exact hz e2.symm
  · intro hb
    have hr : r = [] := List.eq_nil_of_length_eq_zero (by omega)
    have hl8 : (bs.take 8).length = 8 := by simp; omega
    have e0 : natToBytesLE (bytesToNatLE (bs.take 8)) 8 = bs.take 8 := by
      have := natToBytesLE_bytesToNatLE (hb.take 8); rwa [hl8] at this
    have := e4 (hb.drop 8)
    rw [hr, List.append_nil] at this
    unfold commitKeyToRaw
    rw [this, e2, e0, List.take_append_drop]

theorem Poly.trim_length_le (p : Poly) : (Poly.trim p).length ≤ p.length := by
  unfold Poly.trim
  rw [List.length_reverse]
  exact le_trans (List.dropWhile_sublist _).length_le (by rw [List.length_reverse])

theorem Poly.trim_trim (p : Poly) : Poly.trim (Poly.trim p) = Poly.trim p := by
  unfold Poly.trim
  rw [List.reverse_reverse, List.dropWhile_idempotent]

theorem Poly.mem_of_mem_trim {p : Poly} {c : Nat} (h : c ∈ Poly.trim p) : c ∈ p := by
  unfold Poly.trim at h
  rw [List.mem_reverse] at h
  exact List.mem_reverse.mp (List.dropWhile_subset _ h)

theorem u64le?_eq_some {bs : List Nat} {n : Nat} {r : List Nat} (h : u64le? bs = some (n, r)) :
    n = bytesToNatLE (bs.take 8) ∧ r = bs.drop 8 ∧ r.length + 8 = bs.length := by
  unfold u64le? at h
  split at h
  · cases h
  · simp only [Option.some.injEq, Prod.mk.injEq] at h
    refine ⟨h.1.symm, h.2.symm, ?_⟩
    rw [← h.2, List.length_drop]; omega

/-- the polynomial reader of `PKeyRaw.fromBytes` (same code, named) -/
def pkReadPoly (n : Nat) (r : List Nat) : Except DecErr (Poly × List Nat) :=
  match u64le? r with
  | none => .error .invalidData
  | some (len, r) =>
    if len > n then .error .invalidData else
    let sz := len * 32
    if sz == 0 then .ok ([], r) else
    if r.length < sz then .error .notEnoughBytes else
    match readScalars len (r.take sz) with
    | some (cs, _) => .ok (Poly.trim cs, r.drop sz)
    | none => .error .invalidData

/-- the evaluation-vector reader of `PKeyRaw.fromBytes` (same code, named) -/
def pkReadEvals (evSize : Nat) (d8 : Domain) (r : List Nat) : Except DecErr (List Nat × List Nat) :=
  if r.length < evSize then .error .notEnoughBytes else
  match evalsFromBytes (r.take evSize) with
  | .error e => .error e
  | .ok (d, ev) => if d != d8 then .error .invalidData else .ok (ev, r.drop evSize)

theorem Domain.beq_iff (a b : Domain) : (a == b) = true ↔ a = b := by
  cases a; cases b
  simp [BEq.beq, instBEqDomain.beq]

/-- a polynomial that was read: at most `n` canonical coefficients, backed by the bytes consumed -/
theorem pkReadPoly_ok {n : Nat} {r r' : List Nat} {p : Poly} (h : pkReadPoly n r = .ok (p, r')) :
    (p.length ≤ n ∧ (∀ c ∈ p, c < R) ∧ Poly.trim p = p) ∧ r'.length + 32 * p.length + 8 ≤ r.length := by
  unfold pkReadPoly at h
  split at h
  · cases h
  · next len r1 hu =>
    obtain ⟨-, hr1, hr1l⟩ := u64le?_eq_some hu
    split at h
    · cases h
    · next hle =>
      simp only at h
      split at h
      · have h := Except.ok.inj h
        simp only [Prod.mk.injEq] at h
        obtain ⟨rfl, rfl⟩ := h
        exact ⟨⟨by simp, by simp, rfl⟩, by simp; omega⟩
      · split at h
        · cases h
        · next hlen =>
          split at h
          · next cs x hrs =>
            have h := Except.ok.inj h
            simp only [Prod.mk.injEq] at h
            obtain ⟨rfl, rfl⟩ := h
            obtain ⟨i1, _, _, i4, _⟩ := readScalars_decode hrs
            have t1 := Poly.trim_length_le cs
            refine ⟨⟨by omega, fun c hc => i4 c (Poly.mem_of_mem_trim hc), Poly.trim_trim cs⟩, ?_⟩
            rw [List.length_drop]; omega
          · cases h

/-- an evaluation vector that was read: `d8.size` canonical scalars over the domain `d8`, backed by the
    bytes consumed -/
theorem pkReadEvals_ok {evSize : Nat} {d8 : Domain} {r r' ev : List Nat}
    (h : pkReadEvals evSize d8 r = .ok (ev, r')) :
    (ev.length = d8.size ∧ ∀ c ∈ ev, c < R) ∧ r'.length + 32 * ev.length + 172 ≤ r.length := by
  unfold pkReadEvals at h
  split at h
  · cases h
  · next hlen =>
    split at h
    · cases h
    · next d ev' hev =>
      split at h
      · cases h
      · next hd =>
        have h := Except.ok.inj h
        simp only [Prod.mk.injEq] at h
        obtain ⟨rfl, rfl⟩ := h
        have hd : d = d8 := by
          rw [← Domain.beq_iff]
          have : (d != d8) = false := by simpa using hd
          simpa [bne] using this
        subst hd
        obtain ⟨_, _, _, _, _, w6, w7, w8, _⟩ := evalsFromBytes_wf hev
        refine ⟨⟨w7, w8⟩, ?_⟩
        rw [List.length_take] at w6
        rw [List.length_drop, w7]; omega

theorem PKeyRaw_go_succ (rp : List Nat → Except DecErr (Poly × List Nat))
    (re : List Nat → Except DecErr (List Nat × List Nat)) (k : Nat) (r : List Nat) (ps : Array Poly)
    (es : Array (List Nat)) :
    PKeyRaw.fromBytes.go rp re (k + 1) r ps es =
      match rp r with
      | .error e => .error e
      | .ok (p, r) =>
        match re r with
        | .error e => .error e
        | .ok (ev, r) => PKeyRaw.fromBytes.go rp re k r (ps.push p) (es.push ev) := by
  rw [PKeyRaw.fromBytes.go]
  cases rp r with
  | error e => rfl
  | ok q =>
    obtain ⟨p, r1⟩ := q
    simp only
    cases re r1 with
    | error e => rfl
    | ok w => rfl

/-- the 15-fold loop of `PKeyRaw.fromBytes`: every item read satisfies the reader's guarantee, and
    the sum of the decoded lengths is backed by consumed input -/
theorem PKeyRaw_go_ok {rp : List Nat → Except DecErr (Poly × List Nat)}
    {re : List Nat → Except DecErr (List Nat × List Nat)} {PP : Poly → Prop} {PE : List Nat → Prop}
    (hP : ∀ r p r', rp r = .ok (p, r') → PP p ∧ r'.length + 32 * p.length + 8 ≤ r.length)
    (hE : ∀ r e r', re r = .ok (e, r') → PE e ∧ r'.length + 32 * e.length + 172 ≤ r.length)
    {k : Nat} {r r' : List Nat} {ps ps' : Array Poly} {es es' : Array (List Nat)}
    (h : PKeyRaw.fromBytes.go rp re k r ps es = .ok (ps', es', r')) :
    ∃ lp le, ps'.toList = ps.toList ++ lp ∧ es'.toList = es.toList ++ le ∧ lp.length = k ∧ le.length = k ∧
      (∀ p ∈ lp, PP p) ∧ (∀ e ∈ le, PE e) ∧
      r'.length + 32 * ((lp.map List.length).sum + (le.map List.length).sum) + 180 * k ≤ r.length := by
  induction k generalizing r ps es with
  | zero =>
    simp only [PKeyRaw.fromBytes.go, Except.ok.injEq, Prod.mk.injEq] at h
    obtain ⟨rfl, rfl, rfl⟩ := h
    exact ⟨[], [], by simp, by simp, rfl, rfl, by simp, by simp, by simp⟩
  | succ k ih =>
    rw [PKeyRaw_go_succ] at h
    split at h
    · cases h
    · next p r1 hp =>
      split at h
      · cases h
      · next ev r2 he =>
        obtain ⟨lp, le, e1, e2, l1, l2, a1, a2, bd⟩ := ih h
        obtain ⟨pp, b1⟩ := hP _ _ _ hp
        obtain ⟨pe, b2⟩ := hE _ _ _ he
        refine ⟨p :: lp, ev :: le, by simp [e1], by simp [e2], by simp [l1], by simp [l2], ?_, ?_, ?_⟩
        · intro q hq
          rcases List.mem_cons.mp hq with rfl | hq
          · exact pp
          · exact a1 q hq
        · intro q hq
          rcases List.mem_cons.mp hq with rfl | hq
          · exact pe
          · exact a2 q hq
        · simp only [List.map_cons, List.sum_cons]
          omega

/-- well-formed prover key over the extended domain `d8` -/
structure PKeyRaw.WF (k : PKeyRaw) (d8 : Domain) : Prop where
  n_lt : k.n * 8 < 2 ^ 64
  dom : Domain.new? (k.n * 8) = some d8
  pow2 : nextPow2' (k.n * 8) = k.n * 8
  size8 : d8.size = k.n * 8
  npolys : k.polys.size = 15
  nevals : k.evals.size = 15
  polys : ∀ p ∈ k.polys.toList, p.length ≤ k.n ∧ ∀ c ∈ p, c < R
  trimmed : ∀ p ∈ k.polys.toList, Poly.trim p = p
  evals : ∀ e ∈ k.evals.toList, e.length = k.n * 8 ∧ ∀ c ∈ e, c < R
  lin : d8.matchesLinearOverCoset k.lin = true
  vh : d8.matchesVanishingOverCoset k.n k.vh = true
  lin_len : k.lin.length = k.n * 8
  vh_len : k.vh.length = k.n * 8
  lin_lt : ∀ c ∈ k.lin, c < R
  vh_lt : ∀ c ∈ k.vh, c < R

/-- the total number of scalars held by a prover key -/
def PKeyRaw.cells (k : PKeyRaw) : Nat :=
  (k.polys.toList.map List.length).sum + (k.evals.toList.map List.length).sum + k.lin.length + k.vh.length

/-- `PKeyRaw.fromBytes` as a chain of steps, with the two readers named -/
theorem PKeyRaw.fromBytes_eq (bs : List Nat) : PKeyRaw.fromBytes bs =
    (u64le? bs).elim (.error .invalidData) fun hn =>
    (u64le? hn.2).elim (.error .invalidData) fun he =>
    if hn.1 * 8 > USIZE_MAX then .error .invalidData else
    if nextPow2' (hn.1 * 8) != hn.1 * 8 then .error .invalidData else
    (Domain.new? (hn.1 * 8)).elim (.error .domain) fun d8 =>
    (PKeyRaw.fromBytes.go (pkReadPoly hn.1) (pkReadEvals he.1 d8) 15 he.2 #[] #[]).bind fun items =>
    (pkReadEvals he.1 d8 items.2.2).bind fun lin =>
    if !d8.matchesLinearOverCoset lin.1 then .error .invalidData else
    (pkReadEvals he.1 d8 lin.2).bind fun vh =>
    if !d8.matchesVanishingOverCoset hn.1 vh.1 then .error .invalidData else
    .ok { n := hn.1, polys := items.1, evals := items.2.1, lin := lin.1, vh := vh.1 } := by
  unfold PKeyRaw.fromBytes
  cases u64le? bs with
  | none => rfl
  | some hn =>
    obtain ⟨n, r1⟩ := hn
    dsimp only [Option.elim_some]
    cases u64le? r1 with
    | none => rfl
    | some he =>
      obtain ⟨evSize, r2⟩ := he
      dsimp only [Option.elim_some]
      cases Domain.new? (n * 8) with
      | none => rfl
      | some d8 =>
        dsimp only [Option.elim_some]
        -- the local readers of the model, folded into their named copies
        show (if n * 8 > USIZE_MAX then _ else if (nextPow2' (n * 8) != n * 8) = true then _ else
          match PKeyRaw.fromBytes.go (pkReadPoly n) (pkReadEvals evSize d8) 15 r2 #[] #[] with
          | .error e => Except.error e
          | .ok (ps, es, r) =>
            match pkReadEvals evSize d8 r with
            | .error e => Except.error e
            | .ok (lin, r) =>
              if !d8.matchesLinearOverCoset lin then Except.error DecErr.invalidData else
              match pkReadEvals evSize d8 r with
              | .error e => Except.error e
              | .ok (vh, _) =>
                if !d8.matchesVanishingOverCoset n vh then Except.error DecErr.invalidData else
                Except.ok ({ n := n, polys := ps, evals := es, lin := lin, vh := vh } : PKeyRaw)) = _
        cases PKeyRaw.fromBytes.go (pkReadPoly n) (pkReadEvals evSize d8) 15 r2 #[] #[] with
        | error e => rfl
        | ok items =>
          obtain ⟨ps, es, r3⟩ := items
          dsimp only [Except.bind]
          cases pkReadEvals evSize d8 r3 with
          | error e => rfl
          | ok lin =>
            obtain ⟨lin, r4⟩ := lin
            dsimp only [Except.bind]
            cases pkReadEvals evSize d8 r4 with
            | error e => rfl
            | ok vh => rfl

private theorem cells_bound {r1 r2 r3 r4 r5 s l v b : Nat} (bd : r3 + 32 * s + 180 * 15 ≤ r2) (bl : r4 + 32 * l + 172 ≤ r3)
    (bv : r5 + 32 * v + 172 ≤ r4) (h1 : r1 + 8 = b) (h2 : r2 + 8 = r1) : 32 * (s + l + v) ≤ b := by
  omega

/-- what `PKeyRaw.fromBytes` accepts, and the work bound: every decoded scalar is backed by 32 input
    bytes that were present -/
theorem PKeyRaw.fromBytes_wf {bs : List Nat} {k : PKeyRaw} (h : PKeyRaw.fromBytes bs = .ok k) :
    (∃ d8, k.WF d8) ∧ 32 * k.cells ≤ bs.length := by
  rw [PKeyRaw.fromBytes_eq] at h
  simp only [Except.ite_error_eq_ok, Except.bind_eq_ok, Option.elim_error_eq_ok, Except.ok.injEq, Prod.exists] at h
  obtain ⟨n, r1, hu1, evSize, r2, hu2, hfit, hnp, d8, hd8, ps, es, r3, hgo, lin, r4, hlin, hml, vh, r5, hvh, hmv,
    rfl⟩ := h
  obtain ⟨lp, le, e1, e2, l1, l2, a1, a2, bd⟩ :=
    PKeyRaw_go_ok (PP := fun p => p.length ≤ n ∧ (∀ c ∈ p, c < R) ∧ Poly.trim p = p)
      (PE := fun e => e.length = d8.size ∧ ∀ c ∈ e, c < R)
      (fun r p r' hr => pkReadPoly_ok hr) (fun r e r' hr => pkReadEvals_ok hr) hgo
  obtain ⟨⟨ll1, ll2⟩, bl⟩ := pkReadEvals_ok hlin
  obtain ⟨⟨lv1, lv2⟩, bv⟩ := pkReadEvals_ok hvh
  simp only [List.nil_append] at e1 e2
  have hnp : nextPow2' (n * 8) = n * 8 := by simpa using hnp
  have hs8 : d8.size = n * 8 := by rw [Domain.new?_size hd8, hnp]
  have hr1 := (u64le?_eq_some hu1).2.2
  have hr2 := (u64le?_eq_some hu2).2.2
  constructor
  · refine ⟨d8, ?_⟩
    rw [USIZE_MAX_eq] at hfit
    exact {
      n_lt := Nat.lt_succ_of_le (Nat.not_lt.mp hfit)
      dom := hd8, pow2 := hnp, size8 := hs8
      npolys := by show ps.size = 15; rw [← Array.length_toList, e1, l1]
      nevals := by show es.size = 15; rw [← Array.length_toList, e2, l2]
      polys := fun p hp => have := a1 p (e1 ▸ hp); ⟨this.1, this.2.1⟩
      trimmed := fun p hp => (a1 p (e1 ▸ hp)).2.2
      evals := fun e he => have := a2 e (e2 ▸ he); ⟨by rw [this.1, hs8], this.2⟩
      lin := by simpa using hml
      vh := by simpa using hmv
      lin_len := by show lin.length = n * 8; rw [ll1, hs8]
      vh_len := by show vh.length = n * 8; rw [lv1, hs8]
      lin_lt := ll2, vh_lt := lv2 }
  · show 32 * ((ps.toList.map List.length).sum + (es.toList.map List.length).sum +
      lin.length + vh.length) ≤ bs.length
    rw [e1, e2]; exact cells_bound bd bl bv hr1 hr2

/-- `ProverM.fromBytes` after the six header words: the length checks, the three field decoders and
    the checks of `Prover::new`, as a chain of steps on the announced lengths and the payload `r` -/
def ProverM.fromFrame (labelLen pkLen ckLen vkLen size constraints : Nat) (r : List Nat) : Except DecErr ProverM :=
  if labelLen + pkLen > USIZE_MAX then .error .notEnoughBytes else
  if labelLen + pkLen + ckLen > USIZE_MAX then .error .notEnoughBytes else
  if labelLen + pkLen + ckLen + vkLen > USIZE_MAX then .error .notEnoughBytes else
  if r.length < labelLen + pkLen + ckLen + vkLen then .error .notEnoughBytes else
  if constraints > 2 ^ 63 || nextPow2' constraints != size then .error .invalidData else
  (PKeyRaw.fromBytes ((r.drop labelLen).take pkLen)).bind fun key =>
  if key.n != size then .error .invalidData else
  (commitKeyFromRaw (((r.drop labelLen).drop pkLen).take ckLen)).bind fun ck =>
  (VKey.fromBytes? ((((r.drop labelLen).drop pkLen).drop ckLen).take vkLen)).elim (.error .invalidData) fun vk =>
  (Domain.new? constraints).elim (.error .domain) fun d =>
  (Domain.new? (d.size * 8)).elim (.error .domain) fun d8 =>
  if key.vh.length != d8.size || key.vh.any (· == 0) then .error .invalidData else
  .ok { label := r.take labelLen, key := key, ck := ck, vk := vk, size := size, constraints := constraints }

theorem ProverM.fromBytes_eq (bs : List Nat) : ProverM.fromBytes bs =
    if bs.length < 48 then .error .notEnoughBytes else
    ProverM.fromFrame (bytesToNatBE (bs.take 8)) (bytesToNatBE ((bs.drop 8).take 8))
      (bytesToNatBE (((bs.drop 8).drop 8).take 8)) (bytesToNatBE ((((bs.drop 8).drop 8).drop 8).take 8))
      (bytesToNatBE (((((bs.drop 8).drop 8).drop 8).drop 8).take 8))
      (bytesToNatBE ((((((bs.drop 8).drop 8).drop 8).drop 8).drop 8).take 8))
      ((((((bs.drop 8).drop 8).drop 8).drop 8).drop 8).drop 8) := by
  unfold ProverM.fromBytes ProverM.fromFrame
  dsimp only
  -- each field decoder is replaced by its result before comparing: `rfl` would unfold them
  cases PKeyRaw.fromBytes _ with
  | error e => rfl
  | ok key =>
    cases commitKeyFromRaw _ with
    | error e => rfl
    | ok ck =>
      cases VKey.fromBytes? _ with
      | none => rfl
      | some vk =>
        cases Domain.new? _ with
        | none => rfl
        | some d =>
          dsimp only [Option.elim_some, Except.bind]
          cases Domain.new? _ with
          | none => rfl
          | some d8 => rfl

/-- the work bound of the prover's framed decoder, about variables (`omega` among the decoder's hypotheses is slow) -/
theorem prover_bytes_bound {a l b pk c ck vk r n : Nat} (ha : a ≤ l) (hb : b ≤ pk) (hc : c + 8 ≤ ck)
    (hr : l + pk + ck + vk ≤ r) (hn : r ≤ n) : a + b + c ≤ n := by
  omega

theorem commitKeyFromCompressed_go_succ (f : Nat) (r : List Nat) (acc : List G1) :
    commitKeyFromCompressed.go (f + 1) r acc =
      if r.isEmpty then .ok acc.reverse else
      match G1.fromCompressed? (r.take 48) with
      | some p => commitKeyFromCompressed.go f (r.drop 48) (p :: acc)
      | none => .error .invalidData := by
  rw [commitKeyFromCompressed.go]
  split
  · rfl
  · cases G1.fromCompressed? (r.take 48) <;> rfl

theorem commitKeyFromCompressed_go_ok {f : Nat} {r : List Nat} {acc ck : List G1}
    (h : commitKeyFromCompressed.go f r acc = .ok ck) :
    ∃ ps, ck = acc.reverse ++ ps ∧ (∀ p ∈ ps, p.Valid ∧ p.torsionFree = true) ∧ 48 * ps.length ≤ r.length := by
  induction f generalizing r acc with
  | zero =>
    simp only [commitKeyFromCompressed.go, Except.ok.injEq] at h
    exact ⟨[], by simp [h], by simp, by simp⟩
  | succ f ih =>
    rw [commitKeyFromCompressed_go_succ] at h
    split at h
    · simp only [Except.ok.injEq] at h
      exact ⟨[], by simp [h], by simp, by simp⟩
    · split at h
      · next p hp =>
        obtain ⟨ps, e1, e2, e3⟩ := ih h
        have hl := G1.fromCompressed?_length hp
        rw [List.length_take] at hl
        rw [List.length_drop] at e3
        refine ⟨p :: ps, by simp [e1], ?_, by simp only [List.length_cons]; omega⟩
        intro q hq
        rcases List.mem_cons.mp hq with rfl | hq
        · exact G1.fromCompressed_wf hp
        · exact e2 q hq
      · cases h

theorem commitKeyFromCompressed_go_encode (ck : List G1) (acc : List G1) (f : Nat) (hf : ck.length < f)
    (h : ∀ p ∈ ck, p.Valid ∧ p.torsionFree = true) :
    commitKeyFromCompressed.go f (ck.flatMap G1.toCompressed) acc = .ok (acc.reverse ++ ck) := by
  induction ck generalizing acc f with
  | nil =>
    match f, hf with
    | f + 1, _ => rw [commitKeyFromCompressed_go_succ]; simp
  | cons p ps ih =>
    match f, hf with
    | f + 1, hf =>
      rw [commitKeyFromCompressed_go_succ, List.flatMap_cons]
      have hl := G1.toCompressed_length p
      have hne : ¬ (p.toCompressed ++ ps.flatMap G1.toCompressed).isEmpty = true := by
        rw [List.isEmpty_iff]; intro hnil
        have := congrArg List.length hnil
        rw [List.length_append, hl] at this; simp at this
      rw [if_neg hne, List.take_left' hl, List.drop_left' hl,
        G1.fromCompressed_toCompressed (h p (by simp)).1 (h p (by simp)).2]
      simp only
      rw [ih _ f (by simp at hf; omega) (fun q hq => h q (List.mem_cons_of_mem _ hq))]
      simp

/-- public-parameter round trip (non-empty commit key; `G2` round trip as hypothesis) -/
theorem ppFromBytes_ppToBytes {ok : OpeningKeyM} {ck : List G1} (hok : OpeningKeyM.fromBytes? ok.toBytes = some ok)
    (hne : ck ≠ []) (h : ∀ p ∈ ck, p.Valid ∧ p.torsionFree = true) :
    ppFromBytes (ppToBytes ok ck) = .ok (ok, ck) := by
  have hlen : ck.length ≠ 0 := by rwa [Ne, List.length_eq_zero_iff]
  have hl := OpeningKeyM.toBytes_length ok
  unfold ppFromBytes ppToBytes
  rw [if_neg (by rw [List.length_append, hl, length_flatMap_const G1.toCompressed_length]; omega), List.take_left' hl,
    List.drop_left' hl, hok]
  simp only
  unfold commitKeyFromCompressed
  rw [commitKeyFromCompressed_go_encode ck [] _ (by rw [length_flatMap_const G1.toCompressed_length]; omega) h]
  simp

end Plonk
