/-
  C19 (FFT half), domain level: `foldMod`, `resize`, `distributePowers` specifications; well-formed
  domains (every `Domain.new?` result is one); `Domain.fft/ifft/cosetFft/cosetIfft` in terms of the
  field-level DFT, for every thread count.
-/
import Plonk.Proofs.FftSerial

namespace Plonk
open Finset FftMath Polynomial

/-! ### small list facts -/

theorem seqF_map_mod (v : List Nat) : seqF (v.map (· % R)) = seqF v := by
  funext j
  rw [seqF, seqF, toF_getD_map _ (by rw [Nat.zero_mod, toF_zero]), toF_mod]

theorem map_mod_lt (v : List Nat) : Reduced (v.map (· % R)) :=
  reduced_map (fun _ => Nat.mod_lt _ R_pos) v

theorem map_mod_of_lt (v : List Nat) (h : Reduced v) : v.map (· % R) = v := by
  induction v with
  | nil => rfl
  | cons x v ih =>
    rw [List.map_cons, ih (fun y hy => h y (List.mem_cons_of_mem _ hy)),
      Nat.mod_eq_of_lt (h x (by simp))]

theorem mem_lt_of_getD_lt (v : List Nat) (h : ∀ i, v.getD i 0 < R) : Reduced v := by
  intro x hx
  obtain ⟨i, hi, rfl⟩ := List.getElem_of_mem hx
  rw [← getD_eq_getElem' _ i hi]; exact h i

/-! ### `resize` -/

@[simp] theorem resize_length (v : List Nat) (n : Nat) : (resize v n).length = n := by
  rw [resize, List.length_take, List.length_append, List.length_replicate]; omega

theorem resize_getD (v : List Nat) (n i : Nat) :
    (resize v n).getD i 0 = if i < n then v.getD i 0 else 0 := by
  unfold resize
  simp only [List.getD_eq_getElem?_getD, List.getElem?_take]
  split
  · rw [List.getElem?_append]
    split
    · rfl
    · next h =>
      rw [List.getElem?_eq_none (Nat.le_of_not_lt h)]
      by_cases h2 : i - v.length < n - v.length
      · simp [h2]
      · simp [h2]
  · rfl

theorem resize_mem_lt (v : List Nat) (n : Nat) (h : Reduced v) : Reduced (resize v n) := by
  apply mem_lt_of_getD_lt
  intro i
  rw [resize_getD]
  split
  · exact getD_lt_R v h i
  · exact R_pos

theorem resize_self (v : List Nat) : resize v v.length = v := by
  unfold resize; simp

theorem seqF_resize (v : List Nat) (n : Nat) (hn : v.length ≤ n) : seqF (resize v n) = seqF v := by
  funext j
  unfold seqF
  rw [resize_getD]
  split
  · rfl
  · next h => rw [getD_of_le v j (Nat.le_trans hn (Nat.le_of_not_lt h))]

/-! ### `foldMod` -/

@[simp] theorem foldMod_length (v : List Nat) (n : Nat) : (foldMod v n).length = n := by
  rw [foldMod, List.length_map, List.length_range]

/-- `toF_foldl_fadd` over `List.range c`: the list sum over `List.range c` is by definition the
    `Finset.range c` sum -/
theorem toF_foldl_fadd_range (g : Nat → Nat) (c : Nat) : ∀ a,
    toF ((List.range c).foldl (fun acc k => fadd acc (g k)) a) = toF a + ∑ k ∈ range c, toF (g k) :=
  fun a => toF_foldl_fadd g (List.range c) a

theorem foldl_fadd_lt (g : Nat → Nat) (c : Nat) (a : Nat) (ha : a < R) :
    (List.range c).foldl (fun acc k => fadd acc (g k)) a < R := by
  cases c with
  | zero => simpa using ha
  | succ c =>
    rw [List.range_succ, List.foldl_append]
    simp only [List.foldl_cons, List.foldl_nil]
    exact fadd_lt _ _

theorem foldMod_getD (v : List Nat) (n i : Nat) (hi : i < n) :
    (foldMod v n).getD i 0
      = (List.range ((v.length + n - 1 - i) / n)).foldl
          (fun acc k => fadd acc (v.getD (i + k * n) 0)) 0 := by
  unfold foldMod
  rw [getD_map_range _ _ _ hi]

theorem foldMod_mem_lt (v : List Nat) (n : Nat) : Reduced (foldMod v n) := by
  apply mem_lt_of_getD_lt
  intro i
  by_cases hi : i < n
  · rw [foldMod_getD v n i hi]; exact foldl_fadd_lt _ _ _ R_pos
  · rw [getD_of_le _ _ (by rw [foldMod_length]; exact Nat.le_of_not_lt hi)]; exact R_pos

/-- **`foldMod` spec**: entry `i` is the sum of the coefficients `i, i+n, i+2n, …` -/
theorem toF_foldMod_getD (v : List Nat) (n i : Nat) (hi : i < n) :
    toF ((foldMod v n).getD i 0) = foldN n v.length (seqF v) i := by
  rw [foldMod_getD v n i hi, toF_foldl_fadd_range]
  unfold foldN
  rw [toF_zero, zero_add]
  apply sum_subset (range_subset_range.mpr (foldCount_le _ _ _ hi))
  intro k _ hk
  have := foldCount_bound v.length n i k hi (Nat.le_of_not_lt fun h => hk (mem_range.mpr h))
  exact seqF_of_le v _ this

/-- for inputs not longer than the domain, `foldMod` is reduction plus zero padding -/
theorem foldMod_eq_resize (v : List Nat) (n : Nat) (hlen : v.length ≤ n) :
    foldMod v n = resize (v.map (· % R)) n := by
  apply list_ext_toF (foldMod_mem_lt v n) (resize_mem_lt _ n (map_mod_lt v))
    (by rw [foldMod_length, resize_length])
  intro i hi
  rw [foldMod_length] at hi
  rw [toF_foldMod_getD v n i hi]
  have : toF ((resize (v.map (· % R)) n).getD i 0) = seqF (resize (v.map (· % R)) n) i := rfl
  rw [this, seqF_resize _ _ (by rw [List.length_map]; exact hlen), seqF_map_mod]
  -- only the term `k = 0` of the fold survives: `i + k·n ≥ n ≥ v.length` for `k ≥ 1`
  unfold foldN
  rw [sum_eq_single 0, Nat.zero_mul, Nat.add_zero]
  · intro k _ hk
    have : n ≤ k * n := Nat.le_mul_of_pos_left _ (Nat.pos_of_ne_zero hk)
    exact seqF_of_le v _ (by omega)
  · intro h0
    exact seqF_of_le v _ (by rw [mem_range] at h0; omega)

/-- `dft` after `foldMod` is evaluation of the long polynomial on the subgroup -/
theorem toF_dft_foldMod (ω : Nat) (v : List Nat) (n i : Nat) (hi : i < n) (hn : n ≤ 2 ^ 256)
    (hω : toF ω ^ n = 1) :
    toF ((dft ω (foldMod v n)).getD i 0) = (polyN v.length (seqF v)).eval (toF ω ^ i) := by
  rw [toF_dft_getD_of_length ω _ (foldMod_length _ n) i hi hn]
  rw [dftN_congr _ _ _ (foldN n v.length (seqF v)) _
    (fun j hj => by show toF _ = _; rw [toF_foldMod_getD v n j hj])]
  rw [dftN_fold hω]
  congr 1
  apply polyN_extend
  · exact Nat.le_mul_of_pos_left _ (by omega)
  · intro j hj; exact seqF_of_le v j hj

/-! ### `distributePowers` -/

theorem distributePowers_eq (v : List Nat) (g : Nat) :
    Domain.distributePowers v g = v.zipIdx.map fun ci => fmul ci.1 (geom (1 % R) g ci.2) :=
  foldl_emit_beside (fun c w => fmul c w) (fmul · g) (geom (1 % R) g) (fun _ => rfl) v

@[simp] theorem distributePowers_length (v : List Nat) (g : Nat) :
    (Domain.distributePowers v g).length = v.length := by
  rw [distributePowers_eq, List.length_map, List.length_zipIdx]

/-- **`distributePowers` spec**: coefficient `j` is multiplied by `g^j` -/
theorem toF_distributePowers_getD (v : List Nat) (g j : Nat) :
    toF ((Domain.distributePowers v g).getD j 0) = toF (v.getD j 0) * toF g ^ j := by
  rw [distributePowers_eq]
  by_cases hj : j < v.length
  · simp [List.getD_eq_getElem?_getD, hj, toF_geom]
  · simp [List.getD_eq_getElem?_getD, Nat.le_of_not_lt hj]

theorem distributePowers_mem_lt (v : List Nat) (g : Nat) :
    Reduced (Domain.distributePowers v g) := by
  rw [distributePowers_eq]
  intro x hx
  obtain ⟨_, _, rfl⟩ := List.mem_map.mp hx
  exact fmul_lt _ _

theorem seqF_distributePowers (v : List Nat) (g : Nat) :
    seqF (Domain.distributePowers v g) = fun j => seqF v j * toF g ^ j := by
  funext j; exact toF_distributePowers_getD v g j

/-! ### well-formed domains -/

/-- what `EvaluationDomain::new` guarantees about its fields -/
structure Domain.WF (d : Domain) : Prop where
  size_eq : d.size = 2 ^ d.logSize
  prim : IsPrimitiveRoot (toF d.groupGen) d.size
  genInv : toF d.groupGenInv = (toF d.groupGen)⁻¹
  sizeInv : toF d.sizeInv = ((d.size : ℕ) : F)⁻¹
  generatorInv : toF d.generatorInv = (toF GENERATOR)⁻¹

theorem Domain.WF.size_pos {d : Domain} (h : d.WF) : 0 < d.size := by
  rw [h.size_eq]; exact Nat.two_pow_pos _

theorem Domain.WF.size_lt {d : Domain} (h : d.WF) : d.size < 2 ^ 256 :=
  order_lt_of_primitive h.size_pos h.prim

theorem Domain.WF.size_ne_zero {d : Domain} (h : d.WF) : ((d.size : ℕ) : F) ≠ 0 :=
  natCast_ne_zero_of_primitive h.size_pos h.prim

theorem Domain.WF.primInv {d : Domain} (h : d.WF) : IsPrimitiveRoot (toF d.groupGenInv) d.size := by
  rw [h.genInv]; exact h.prim.inv

theorem Domain.WF.logSize_le {d : Domain} (h : d.WF) : d.logSize ≤ 256 := by
  have := h.size_lt
  rw [h.size_eq] at this
  exact ((Nat.pow_lt_pow_iff_right (by decide)).mp this).le

/-- `z_powers`: the vanishing polynomial at `z` is `zⁿ − 1`, so the quotient scalars of
    `linearization_eval` are `−zh, −zh·zⁿ, −zh·z²ⁿ, −zh·z³ⁿ` -/
theorem toF_evaluateVanishing {d : Domain} (hn : d.size < 2 ^ 256) (z : Nat) :
    toF (d.evaluateVanishing z) = toF z ^ d.size - 1 := by
  unfold Domain.evaluateVanishing
  rw [toF_fsub, toF_fpow _ _ hn, toF_one]

theorem generator_ne_zero : toF GENERATOR ≠ 0 := by
  rw [Ne, toF_eq_zero_iff]; decide +kernel

/-- the coset shift as a field element: the closed forms of `DomainPi` are stated with `(7 : F)`,
    the transforms below with `toF GENERATOR` -/
theorem toF_GENERATOR : toF GENERATOR = 7 := by
  unfold GENERATOR; exact toF_ofNat 7

/-! ### `Domain.new?` produces well-formed domains -/

/-- the doubling loop from `2^j` with fuel `f` stops at the exponent `⌈log₂ n⌉`, kept between `j`
    and `j + f` -/
theorem nextPow2'_go_eq (n : Nat) : ∀ f j : Nat,
    nextPow2'.go n f (2 ^ j) = 2 ^ max j (min (j + f) (Nat.clog 2 n))
  | 0, j => by rw [nextPow2'.go, Nat.add_zero, Nat.max_eq_left (Nat.min_le_left ..)]
  | f + 1, j => by
    have hc := Nat.clog_le_iff_le_pow (b := 2) (by decide) (x := n) (y := j)
    unfold nextPow2'.go
    split
    next h => congr 1; have := hc.mpr h; omega
    next h =>
      rw [← Nat.pow_succ', nextPow2'_go_eq n f (j + 1)]
      congr 1; have := mt hc.mp h; omega

theorem nextPow2'_eq (n : Nat) : nextPow2' n = 2 ^ min 64 (Nat.clog 2 n) := by
  rw [nextPow2', ← Nat.pow_zero 2, nextPow2'_go_eq, Nat.zero_add, Nat.zero_max]

theorem nextPow2'_pow (n : Nat) : ∃ j, j ≤ 64 ∧ nextPow2' n = 2 ^ j :=
  ⟨_, Nat.min_le_left .., nextPow2'_eq n⟩

theorem nextPow2'_pow_self (j : Nat) (hj : j ≤ 64) : nextPow2' (2 ^ j) = 2 ^ j := by
  rw [nextPow2'_eq, Nat.clog_pow 2 j (by decide), Nat.min_eq_right hj]

theorem nextPow2'_mono {n n' : Nat} (h : n ≤ n') : nextPow2' n ≤ nextPow2' n' := by
  rw [nextPow2'_eq, nextPow2'_eq]
  exact Nat.pow_le_pow_right (by decide) (by have := Nat.clog_mono_right 2 h; omega)

theorem log2_go (f : Nat) : ∀ (j k : Nat), j ≤ f → log2.go f (2 ^ j) k = k + j := by
  induction f with
  | zero => intro j k hj; have : j = 0 := by omega
            subst this; rfl
  | succ f ih =>
    intro j k hj
    unfold log2.go
    cases j with
    | zero => simp
    | succ j =>
      have h1 : ¬ 2 ^ (j + 1) ≤ 1 := by
        have : 0 < 2 ^ j := Nat.two_pow_pos _
        rw [Nat.pow_succ]; omega
      rw [if_neg h1]
      have h2 : 2 ^ (j + 1) / 2 = 2 ^ j := by rw [Nat.pow_succ]; omega
      rw [h2, ih j (k + 1) (by omega)]; omega

theorem log2_pow (j : Nat) (hj : j ≤ 64) : log2 (2 ^ j) = j := by
  unfold log2; rw [log2_go 64 j 0 hj]; omega

theorem toF_fsq_iter (g : Nat) (c : Nat) :
    toF ((List.range c).foldl (fun g _ => fsq g) g) = toF g ^ 2 ^ c := by
  induction c with
  | zero => simp
  | succ c ih =>
    rw [List.range_succ, List.foldl_append]
    simp only [List.foldl_cons, List.foldl_nil, toF_fsq, ih]
    rw [← pow_two, ← pow_mul, Nat.pow_succ]

theorem root_of_unity_primitive : IsPrimitiveRoot (toF ROOT_OF_UNITY) (2 ^ 32) := by
  have h1 : fpow ROOT_OF_UNITY (2 ^ 32) = 1 := by decide +kernel
  have h2 : fpow ROOT_OF_UNITY (2 ^ 31) = R - 1 := by decide +kernel
  have e1 : toF ROOT_OF_UNITY ^ 2 ^ 32 = 1 := by
    rw [← toF_fpow _ _ (Nat.pow_lt_pow_right (by decide) (by decide)), h1, toF_one]
  have e2 : toF ROOT_OF_UNITY ^ 2 ^ 31 = -1 := by
    rw [← toF_fpow _ _ (Nat.pow_lt_pow_right (by decide) (by decide)), h2, toF_R_sub_one]
  have hne : ¬ toF ROOT_OF_UNITY ^ 2 ^ 31 = 1 := by
    rw [e2]
    intro h
    have h2 : toF (R - 1) = toF 1 := by rw [toF_R_sub_one, toF_one]; exact h
    have := (toF_inj_of_lt (by have := R_pos; omega) R_gt_one).mp h2
    revert this; decide +kernel
  have := orderOf_eq_prime_pow (p := 2) (n := 31) hne e1
  rw [← this]
  exact IsPrimitiveRoot.orderOf _

/-- the inversion of `Domain.new?`: the size is `nextPow2' m = 2^j` with `j < 32`, and every field
    is computed from `j` -/
theorem Domain.new?_inv (m : Nat) (d : Domain) (h : Domain.new? m = some d) :
    ∃ j, j < 32 ∧ nextPow2' m = 2 ^ j ∧
      d = { size := 2 ^ j, logSize := j, sizeInv := finv (2 ^ j % R),
            groupGen := (List.range (32 - j)).foldl (fun g _ => fsq g) ROOT_OF_UNITY,
            groupGenInv := finv ((List.range (32 - j)).foldl (fun g _ => fsq g) ROOT_OF_UNITY),
            generatorInv := finv GENERATOR } := by
  obtain ⟨j, hj, hp⟩ := nextPow2'_pow m
  unfold Domain.new? at h
  simp only [hp, log2_pow j hj] at h
  split at h
  · simp at h
  · next hlt =>
    simp only [TWO_ADACITY, ge_iff_le, Nat.not_le] at hlt
    injection h with h
    exact ⟨j, hlt, hp, h.symm⟩

/-- **every domain built by `Domain.new?` is well formed**, with `logSize < 32` -/
theorem Domain.new?_wf (m : Nat) (d : Domain) (h : Domain.new? m = some d) :
    d.WF ∧ d.logSize < 32 := by
  obtain ⟨j, hlt, -, rfl⟩ := Domain.new?_inv m d h
  refine ⟨⟨rfl, ?_, ?_, ?_, ?_⟩, hlt⟩
  · show IsPrimitiveRoot (toF ((List.range (32 - j)).foldl (fun g _ => fsq g) ROOT_OF_UNITY)) (2 ^ j)
    rw [toF_fsq_iter]
    exact IsPrimitiveRoot.pow (Nat.two_pow_pos 32) root_of_unity_primitive
      (by rw [← pow_add]; congr 1; omega)
  · dsimp only
    rw [toF_finv]
  · dsimp only
    rw [toF_finv, toF_mod]; rfl
  · dsimp only
    rw [toF_finv]

/-- the domain is at least as large as requested -/
theorem Domain.new?_size_ge (m : Nat) (d : Domain) (h : Domain.new? m = some d) : m ≤ d.size := by
  obtain ⟨j, hlt, hp, rfl⟩ := Domain.new?_inv m d h
  show m ≤ 2 ^ j
  rw [nextPow2'_eq] at hp
  have := Nat.pow_right_injective (le_refl 2) hp
  rw [← hp, Nat.min_eq_right (by omega)]
  exact Nat.le_pow_clog (by decide) m

theorem Domain.new?_WF (m : Nat) (d : Domain) (h : Domain.new? m = some d) : d.WF :=
  (Domain.new?_wf m d h).1

/-! ### the four transforms -/

section transforms
variable {d : Domain} (hd : d.WF) {threads : Nat} (ht : 1 ≤ threads)
include hd ht

/-- `Domain.fft` is the model's direct evaluation `dft` of the folded input -/
theorem Domain.fft_eq_dft (v : List Nat) :
    d.fft v threads = dft d.groupGen (foldMod (v.map (· % R)) d.size) := by
  unfold Domain.fft
  exact bestFft_eq_dft d.logSize d.groupGen threads _ ht (by rw [foldMod_length, hd.size_eq])
    (foldMod_mem_lt _ _) (by rw [← hd.size_eq]; exact hd.prim)

theorem Domain.fft_length (v : List Nat) : (d.fft v threads).length = d.size := by
  rw [Domain.fft_eq_dft hd ht]; simp

theorem Domain.fft_mem_lt (v : List Nat) : Reduced (d.fft v threads) := by
  rw [Domain.fft_eq_dft hd ht]; exact dft_mem_lt _ _

/-- `Domain.fft` evaluates the coefficient polynomial (of any length) on the subgroup -/
theorem Domain.toF_fft_getD (v : List Nat) (i : Nat) (hi : i < d.size) :
    toF ((d.fft v threads).getD i 0) = (polyN v.length (seqF v)).eval (toF d.groupGen ^ i) := by
  rw [Domain.fft_eq_dft hd ht, toF_dft_foldMod _ _ _ _ hi hd.size_lt.le hd.prim.pow_eq_one,
    List.length_map, seqF_map_mod]

/-- `Domain.ifft` is `1/n` times the model's `dft` with the inverse root of the resized input -/
theorem Domain.ifft_eq_dft (e : List Nat) :
    d.ifft e threads
      = (dft d.groupGenInv (resize (e.map (· % R)) d.size)).map (fmul · d.sizeInv) := by
  unfold Domain.ifft
  rw [bestFft_eq_dft d.logSize d.groupGenInv threads _ ht (by rw [resize_length, hd.size_eq])
    (resize_mem_lt _ _ (map_mod_lt e)) (by rw [← hd.size_eq]; exact hd.primInv)]

theorem Domain.ifft_length (e : List Nat) : (d.ifft e threads).length = d.size := by
  rw [Domain.ifft_eq_dft hd ht]; simp

theorem Domain.ifft_mem_lt (e : List Nat) : Reduced (d.ifft e threads) := by
  rw [Domain.ifft_eq_dft hd ht]
  intro x hx
  rw [List.mem_map] at hx
  obtain ⟨y, _, rfl⟩ := hx
  exact fmul_lt _ _

/-- `Domain.ifft` is the inverse DFT of (the first `n` entries of) its input -/
theorem Domain.toF_ifft_getD (e : List Nat) (j : Nat) (hj : j < d.size) :
    toF ((d.ifft e threads).getD j 0)
      = ((d.size : ℕ) : F)⁻¹ *
          dftN (toF d.groupGen)⁻¹ d.size (seqF (resize e d.size)) j := by
  rw [Domain.ifft_eq_dft hd ht,
    toF_getD_map (fmul · d.sizeInv) (by rw [toF_fmul, toF_zero, zero_mul]), toF_fmul, hd.sizeInv,
    toF_dft_getD_of_length _ _ (resize_length _ _) j hj hd.size_lt.le, hd.genInv, mul_comm]
  congr 1
  apply dftN_congr
  intro l hl
  unfold seqF
  rw [resize_getD, resize_getD, if_pos hl, if_pos hl]
  exact congrFun (seqF_map_mod e) l

/-- interpolation: the polynomial whose coefficients `Domain.ifft` returns takes the given values
    on the subgroup -/
theorem Domain.eval_ifft (e : List Nat) (he : e.length = d.size) (i : Nat) (hi : i < d.size) :
    (polyN d.size (seqF (d.ifft e threads))).eval (toF d.groupGen ^ i) = toF (e.getD i 0) := by
  rw [← dftN_eq_eval]
  rw [dftN_congr _ _ _ (fun j => ((d.size : ℕ) : F)⁻¹ * dftN (toF d.groupGen)⁻¹ d.size (seqF e) j) _
    (fun j hj => by
      show toF _ = _
      rw [Domain.toF_ifft_getD hd ht e j hj, seqF_resize e _ (by omega)])]
  exact dftN_idftN hd.prim hd.size_ne_zero (seqF e) hi

/-- `ifft ∘ fft` is the identity on coefficient vectors that fit the domain -/
theorem Domain.ifft_fft {t1 : Nat} (ht1 : 1 ≤ t1) (v : List Nat) (hlen : v.length ≤ d.size) :
    d.ifft (d.fft v t1) threads = resize (v.map (· % R)) d.size := by
  apply list_ext_toF (Domain.ifft_mem_lt hd ht _) (resize_mem_lt _ _ (map_mod_lt v))
    (by rw [Domain.ifft_length hd ht, resize_length])
  intro j hj
  rw [Domain.ifft_length hd ht] at hj
  rw [Domain.toF_ifft_getD hd ht _ j hj,
    seqF_resize _ _ (by rw [Domain.fft_length hd ht1])]
  rw [dftN_congr _ _ _ (fun i => dftN (toF d.groupGen) d.size
      (seqF (resize (v.map (· % R)) d.size)) i) _
    (fun i hi => by
      show toF _ = _
      rw [Domain.fft_eq_dft hd ht1, foldMod_eq_resize _ _ (by rw [List.length_map]; exact hlen),
        toF_dft_getD_of_length _ _ (resize_length _ _) i hi hd.size_lt.le,
        map_mod_of_lt _ (map_mod_lt v)])]
  exact idftN_dftN hd.prim hd.size_ne_zero _ hj

/-- `fft ∘ ifft` is the identity on value vectors of the domain's size -/
theorem Domain.fft_ifft {t1 : Nat} (ht1 : 1 ≤ t1) (e : List Nat) (he : e.length = d.size) :
    d.fft (d.ifft e t1) threads = e.map (· % R) := by
  apply list_ext_toF (Domain.fft_mem_lt hd ht _) (map_mod_lt e)
    (by rw [Domain.fft_length hd ht, List.length_map, he])
  intro i hi
  rw [Domain.fft_length hd ht] at hi
  rw [Domain.toF_fft_getD hd ht _ i hi, Domain.ifft_length hd ht1, Domain.eval_ifft hd ht1 e he i hi]
  exact (congrFun (seqF_map_mod e) i).symm

/-- `Domain.cosetFft` evaluates the coefficient polynomial (of any length) on the coset -/
theorem Domain.toF_cosetFft_getD (v : List Nat) (i : Nat) (hi : i < d.size) :
    toF ((d.cosetFft v threads).getD i 0)
      = (polyN v.length (seqF v)).eval (toF GENERATOR * toF d.groupGen ^ i) := by
  unfold Domain.cosetFft
  rw [Domain.toF_fft_getD hd ht _ i hi, distributePowers_length, seqF_distributePowers,
    eval_polyN_scale]

theorem Domain.cosetFft_length (v : List Nat) : (d.cosetFft v threads).length = d.size := by
  unfold Domain.cosetFft; exact Domain.fft_length hd ht _

theorem Domain.cosetIfft_length (e : List Nat) : (d.cosetIfft e threads).length = d.size := by
  unfold Domain.cosetIfft; rw [distributePowers_length, Domain.ifft_length hd ht]

/-- coset interpolation: the polynomial whose coefficients `Domain.cosetIfft` returns takes the
    given values on the coset -/
theorem Domain.eval_cosetIfft (e : List Nat) (he : e.length = d.size) (i : Nat) (hi : i < d.size) :
    (polyN d.size (seqF (d.cosetIfft e threads))).eval (toF GENERATOR * toF d.groupGen ^ i)
      = toF (e.getD i 0) := by
  unfold Domain.cosetIfft
  rw [seqF_distributePowers, eval_polyN_scale, hd.generatorInv, ← mul_assoc,
    inv_mul_cancel₀ generator_ne_zero, one_mul]
  exact Domain.eval_ifft hd ht e he i hi

end transforms

/-- scaling by the powers of `a` and then by the powers of `b` with `a·b = 1` is the identity on
    canonical vectors -/
theorem distributePowers_cancel (x : List Nat) (hx : Reduced x) (a b : Nat)
    (hab : toF a * toF b = 1) :
    Domain.distributePowers (Domain.distributePowers x a) b = x := by
  apply list_ext_toF (distributePowers_mem_lt _ _) hx
    (by rw [distributePowers_length, distributePowers_length])
  intro j _
  rw [toF_distributePowers_getD, toF_distributePowers_getD, mul_assoc, ← mul_pow, hab, one_pow,
    mul_one]

theorem distributePowers_resize (w : List Nat) (g n : Nat) :
    Domain.distributePowers (resize w n) g = resize (Domain.distributePowers w g) n := by
  apply list_ext_toF (distributePowers_mem_lt _ _)
    (resize_mem_lt _ _ (distributePowers_mem_lt _ _))
    (by rw [distributePowers_length, resize_length, resize_length])
  intro j hj
  have hj' : j < n := by rwa [distributePowers_length, resize_length] at hj
  rw [toF_distributePowers_getD, resize_getD, resize_getD, if_pos hj', if_pos hj',
    toF_distributePowers_getD]

section coset
variable {d : Domain} (hd : d.WF) {threads : Nat} (ht : 1 ≤ threads)
include hd ht

/-- `cosetIfft ∘ cosetFft` is the identity on coefficient vectors that fit the domain -/
theorem Domain.cosetIfft_cosetFft {t1 : Nat} (ht1 : 1 ≤ t1) (v : List Nat)
    (hlen : v.length ≤ d.size) :
    d.cosetIfft (d.cosetFft v t1) threads = resize (v.map (· % R)) d.size := by
  unfold Domain.cosetIfft Domain.cosetFft
  rw [Domain.ifft_fft hd ht ht1 _ (by rw [distributePowers_length]; exact hlen),
    map_mod_of_lt _ (distributePowers_mem_lt _ _),
    distributePowers_resize _ _ _]
  have h1 : Domain.distributePowers v GENERATOR
      = Domain.distributePowers (v.map (· % R)) GENERATOR := by
    apply list_ext_toF (distributePowers_mem_lt _ _) (distributePowers_mem_lt _ _)
      (by rw [distributePowers_length, distributePowers_length, List.length_map])
    intro j _
    rw [toF_distributePowers_getD, toF_distributePowers_getD]
    congr 1
    exact (congrFun (seqF_map_mod v) j).symm
  rw [h1, distributePowers_cancel _ (map_mod_lt v) _ _
    (by rw [hd.generatorInv, mul_inv_cancel₀ generator_ne_zero])]

/-- `cosetFft ∘ cosetIfft` is the identity on value vectors of the domain's size -/
theorem Domain.cosetFft_cosetIfft {t1 : Nat} (ht1 : 1 ≤ t1) (e : List Nat)
    (he : e.length = d.size) :
    d.cosetFft (d.cosetIfft e t1) threads = e.map (· % R) := by
  unfold Domain.cosetIfft Domain.cosetFft
  rw [distributePowers_cancel _ (Domain.ifft_mem_lt hd ht1 e) _ _
    (by rw [hd.generatorInv, inv_mul_cancel₀ generator_ne_zero])]
  exact Domain.fft_ifft hd ht ht1 e he

end coset

/-! ### thread independence of the four transforms -/

/-- the thread count is irrelevant (no well-formedness needed beyond `logSize ≤ 256`) -/
theorem Domain.threads_irrelevant (d : Domain) (hlog : d.logSize ≤ 256) (v : List Nat)
    (threads : Nat) (ht : 1 ≤ threads) :
    d.fft v threads = d.fft v 1 ∧ d.ifft v threads = d.ifft v 1 ∧
    d.cosetFft v threads = d.cosetFft v 1 ∧ d.cosetIfft v threads = d.cosetIfft v 1 := by
  have h1 : ∀ w, d.fft w threads = d.fft w 1 := by
    intro w
    unfold Domain.fft
    rw [bestFft_eq_serialFft _ _ _ _ ht hlog, bestFft_eq_serialFft _ _ _ _ (Nat.le_refl 1) hlog]
  have h2 : ∀ w, d.ifft w threads = d.ifft w 1 := by
    intro w
    unfold Domain.ifft
    rw [bestFft_eq_serialFft _ _ _ _ ht hlog, bestFft_eq_serialFft _ _ _ _ (Nat.le_refl 1) hlog]
  refine ⟨h1 v, h2 v, ?_, ?_⟩
  · unfold Domain.cosetFft; exact h1 _
  · unfold Domain.cosetIfft; rw [h2]

end Plonk
