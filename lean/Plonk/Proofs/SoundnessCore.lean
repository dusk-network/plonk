/-
  C02 (soundness), algebraic core, math level — no model code in this file, arbitrary field `K`.

  An accumulator with `z(ω⁰) = 1` and `z(ω^(i+1))·den_i = z(ω^i)·num_i` (all `den_i ≠ 0`) forces
  `∏ num_i = ∏ den_i`.  Schwartz–Zippel with the explicit bad set `idBad P T n`, the roots of
  `P − T·(Xⁿ − 1)`.  `g + α·p + α²·l = 0` with `α` outside a set of at most two elements forces
  `g = p = l = 0`.  The grand-product check at ONE pair `(β, γ)` outside the explicit bad sets
  `badBeta` (of `PermutationProduct`) and `gammaBad`.
-/
import Mathlib.Algebra.Polynomial.Roots
import Mathlib.Algebra.Polynomial.BigOperators
import Mathlib.Tactic.Ring
import Mathlib.Tactic.LinearCombination
import Mathlib.Tactic.FieldSimp
import Plonk.Proofs.QuotientNum
import Plonk.Proofs.PermutationProduct

namespace Plonk.Sound
open Polynomial Plonk.Quot

section telescope
variable {K : Type*} [Field K]

/-- the cyclic-next-row form (`(i+1) mod n`), as `numerator_at_root_poly` produces it -/
theorem accumulator_telescopes_cyclic {n : ℕ} (z num den : ℕ → K)
    (hden : ∀ i < n, den i ≠ 0) (hz0 : z 0 = 1)
    (hstep : ∀ i < n, num i * z i - den i * z ((i + 1) % n) = 0) :
    ∏ i ∈ Finset.range n, num i = ∏ i ∈ Finset.range n, den i := by
  rcases n.eq_zero_or_pos with rfl | hn
  · rfl
  · exact ((Complete.cyclic_steps_iff hn num den z hden).mp ⟨hz0, hstep⟩).2

theorem accumulator_telescopes {ω : K} {n : ℕ} (hω : ω ^ n = 1) (z : K → K) (num den : ℕ → K)
    (hden : ∀ i < n, den i ≠ 0) (hz0 : z (ω ^ 0) = 1)
    (hstep : ∀ i < n, z (ω ^ (i + 1)) * den i = z (ω ^ i) * num i) :
    ∏ i ∈ Finset.range n, num i = ∏ i ∈ Finset.range n, den i :=
  accumulator_telescopes_cyclic (fun i => z (ω ^ i)) num den hden hz0 fun i hi => by
    rw [← pow_eq_pow_mod (i + 1) hω]
    linear_combination -(hstep i hi)

/-- **Polynomial form.** If the two permutation identities
    `Z(ωX)·Den(X) − Z(X)·Num(X)` and `(Z(X) − 1)·L₁(X)` vanish on the domain `⟨ω⟩` and `Den` has no
    zero on the domain, then `∏ Num(ω^i) = ∏ Den(ω^i)`. -/
theorem accumulator_telescopes_poly {ω : K} {n : ℕ} (hω : IsPrimitiveRoot ω n) (hn : (n : K) ≠ 0)
    (Z Num Den : K[X]) (hden : ∀ i < n, Den.eval (ω ^ i) ≠ 0)
    (h1 : ∀ i < n, (shiftP ω Z * Den - Z * Num).eval (ω ^ i) = 0)
    (h2 : ∀ i < n, ((Z - 1) * L1P n).eval (ω ^ i) = 0) :
    ∏ i ∈ Finset.range n, Num.eval (ω ^ i) = ∏ i ∈ Finset.range n, Den.eval (ω ^ i) := by
  have hn0 : 0 < n := Nat.pos_of_ne_zero (fun h => hn (by rw [h, Nat.cast_zero]))
  apply accumulator_telescopes hω.pow_eq_one (fun x => Z.eval x) _ _ hden
  · have := h2 0 hn0
    rw [eval_mul, eval_L1P_root hω hn hn0, if_pos rfl, mul_one, eval_sub, eval_one] at this
    exact sub_eq_zero.mp this
  · intro i hi
    have := h1 i hi
    rw [eval_sub, eval_mul, eval_mul, eval_shiftP, ← pow_succ'] at this
    exact sub_eq_zero.mp this

end telescope

section sz
variable {K : Type*} [Field K]

variable [DecidableEq K]

/-- the explicit bad set of evaluation challenges: the roots of `P − T·(Xⁿ − 1)` -/
noncomputable def idBad (P T : K[X]) (n : ℕ) : Finset K := (P - T * (X ^ n - 1)).roots.toFinset

/-- `|idBad| ≤ max (deg P) (deg T + n)` -/
theorem idBad_card_le (P T : K[X]) (n : ℕ) :
    (idBad P T n).card ≤ max P.natDegree (T.natDegree + n) := by
  unfold idBad
  refine (Multiset.toFinset_card_le _).trans ((card_roots' _).trans ?_)
  refine (natDegree_sub_le _ _).trans (max_le_max (le_refl _) ?_)
  exact natDegree_mul_le.trans (Nat.add_le_add_left (natDegree_X_pow_sub_one n).le _)

theorem idBad_card_le_of_le (P T : K[X]) (n dP dT : ℕ) (hP : P.natDegree ≤ dP)
    (hT : T.natDegree ≤ dT) : (idBad P T n).card ≤ max dP (dT + n) :=
  (idBad_card_le P T n).trans (max_le_max hP (Nat.add_le_add_right hT n))

/-- Schwartz–Zippel with explicit bad set: the identity
    `P(z) = T(z)·Z_H(z)` at one point outside the roots of `P − T·Z_H` is a polynomial identity -/
theorem identity_at_point_lifts (P T : K[X]) (n : ℕ) (z : K)
    (h : P.eval z = T.eval z * (z ^ n - 1)) (hz : z ∉ idBad P T n) : P = T * (X ^ n - 1) := by
  by_contra hne
  apply hz
  have h0 : P - T * (X ^ n - 1) ≠ 0 := sub_ne_zero.mpr hne
  rw [idBad, Multiset.mem_toFinset, mem_roots h0, IsRoot, eval_sub, eval_mul, eval_sub, eval_pow,
    eval_X, eval_one, h, sub_self]

theorem identity_at_point_vanishes {ω : K} {n : ℕ} (hω : ω ^ n = 1) (P T : K[X]) (z : K)
    (h : P.eval z = T.eval z * (z ^ n - 1)) (hz : z ∉ idBad P T n) :
    ∀ i : ℕ, P.eval (ω ^ i) = 0 := by
  intro i
  rw [identity_at_point_lifts P T n z h hz, eval_mul, eval_sub, eval_pow, eval_X, eval_one,
    pow_pow_eq_one hω, sub_self, mul_zero]

end sz

section alpha
variable {K : Type*} [Field K]

/-- the polynomial `g + p·X + l·X²` in the challenge `α` -/
noncomputable def alphaPoly (g p l : K) : K[X] := C g + C p * X + C l * X ^ 2

theorem eval_alphaPoly (g p l α : K) : (alphaPoly g p l).eval α = g + α * p + α ^ 2 * l := by
  simp only [alphaPoly, eval_add, eval_mul, eval_C, eval_X, eval_pow]; ring

theorem natDegree_alphaPoly_le (g p l : K) : (alphaPoly g p l).natDegree ≤ 2 := by
  unfold alphaPoly
  refine (natDegree_add_le _ _).trans (max_le ((natDegree_add_le _ _).trans (max_le ?_ ?_)) ?_)
  · rw [natDegree_C]; omega
  · exact (natDegree_C_mul_le _ _).trans (by rw [natDegree_X]; omega)
  · exact (natDegree_C_mul_le _ _).trans (by rw [natDegree_X_pow])

theorem alphaPoly_eq_zero_iff (g p l : K) : alphaPoly g p l = 0 ↔ g = 0 ∧ p = 0 ∧ l = 0 := by
  constructor
  · intro h
    have c0 := congrArg (fun f => f.coeff 0) h
    have c1 := congrArg (fun f => f.coeff 1) h
    have c2 := congrArg (fun f => f.coeff 2) h
    simp [alphaPoly, coeff_X, coeff_X_pow] at c0 c1 c2
    exact ⟨c0, c1, c2⟩
  · rintro ⟨rfl, rfl, rfl⟩; simp [alphaPoly]

variable [DecidableEq K]

/-- the explicit bad set of one row: the (at most two) roots of `g + p·X + l·X²` -/
noncomputable def alphaBad (g p l : K) : Finset K := (alphaPoly g p l).roots.toFinset

theorem alphaBad_card_le (g p l : K) : (alphaBad g p l).card ≤ 2 :=
  (Multiset.toFinset_card_le _).trans ((card_roots' _).trans (natDegree_alphaPoly_le g p l))

/-- separation by `α`: outside the bad set, the `α`-weighted sum vanishes only if
    each of the three summands vanishes -/
theorem alpha_separation (g p l α : K) (hα : α ∉ alphaBad g p l)
    (h : g + α * p + α ^ 2 * l = 0) : g = 0 ∧ p = 0 ∧ l = 0 := by
  rw [← alphaPoly_eq_zero_iff]
  by_contra hne
  apply hα
  rw [alphaBad, Multiset.mem_toFinset, mem_roots hne, IsRoot, eval_alphaPoly]
  exact h

/-- the union over the rows `i < n` -/
noncomputable def alphaBadRows (n : ℕ) (g p l : ℕ → K) : Finset K :=
  (Finset.range n).biUnion fun i => alphaBad (g i) (p i) (l i)

theorem alphaBadRows_card_le (n : ℕ) (g p l : ℕ → K) : (alphaBadRows n g p l).card ≤ 2 * n := by
  unfold alphaBadRows
  refine Finset.card_biUnion_le.trans ?_
  calc ∑ i ∈ Finset.range n, (alphaBad (g i) (p i) (l i)).card
      ≤ ∑ _i ∈ Finset.range n, 2 := Finset.sum_le_sum (fun i _ => alphaBad_card_le _ _ _)
    _ = 2 * n := by simp [mul_comm]

theorem alpha_separation_rows (n : ℕ) (g p l : ℕ → K) (α : K) (hα : α ∉ alphaBadRows n g p l)
    (h : ∀ i < n, g i + α * p i + α ^ 2 * l i = 0) : ∀ i < n, g i = 0 ∧ p i = 0 ∧ l i = 0 := by
  intro i hi
  refine alpha_separation _ _ _ α (fun hm => hα ?_) (h i hi)
  exact Finset.mem_biUnion.mpr ⟨i, Finset.mem_range.mpr hi, hm⟩

end alpha

section gamma
open Plonk.Perm
variable {K : Type} [Field K] [DecidableEq K] {ι : Type}

/-- the explicit bad set of `γ` (for a fixed `β`): the roots of the difference of the two sides,
    and the values that make a factor of the `σ` side vanish -/
noncomputable def gammaBad (S : Finset ι) (val idl : ι → K) (σ : ι → ι) (β : K) : Finset K :=
  (sidePoly S val idl β - sidePoly S val (fun p => idl (σ p)) β).roots.toFinset ∪
    S.image fun p => -(val p + β * idl (σ p))

theorem gammaBad_card_le (S : Finset ι) (val idl : ι → K) (σ : ι → ι) (β : K) :
    (gammaBad S val idl σ β).card ≤ S.card + S.card := by
  unfold gammaBad
  refine (Finset.card_union_le _ _).trans (Nat.add_le_add ?_ Finset.card_image_le)
  refine (Multiset.toFinset_card_le _).trans ((card_roots' _).trans ?_)
  exact (natDegree_sub_le _ _).trans
    (max_le (sidePoly_natDegree_le _ _ _ _) (sidePoly_natDegree_le _ _ _ _))

/-- the values of `γ` that make a factor `val p + β·id(σ p) + γ` of a denominator vanish: the second
    part of `gammaBad`, and the whole bad set of `γ` (for a fixed `β`) of the honest prover -/
def _root_.Plonk.Complete.denBad (S : Finset ι) (val idl : ι → K) (σ : ι → ι) (β : K) : Finset K :=
  S.image fun p => -(val p + β * idl (σ p))

theorem notMem_denBad_of_notMem_gammaBad {S : Finset ι} {val idl : ι → K} {σ : ι → ι} {β γ : K}
    (h : γ ∉ gammaBad S val idl σ β) : γ ∉ Complete.denBad S val idl σ β :=
  fun hm => h (Finset.mem_union_right _ hm)

/-- `γ` is outside `denBad` iff no factor of the `σ` side vanishes -/
theorem notMem_denBad_iff (S : Finset ι) (val idl : ι → K) (σ : ι → ι) (β γ : K) :
    γ ∉ Complete.denBad S val idl σ β ↔ ∀ p ∈ S, val p + β * idl (σ p) + γ ≠ 0 := by
  simp only [Complete.denBad, Finset.mem_image, not_exists, not_and, ne_eq, add_eq_zero_iff_neg_eq]

/-- **soundness of the grand-product check at one `(β, γ)`**: `β` outside `badBeta` (at most `|S|²`
    values), `γ` outside `gammaBad` (at most `2|S|` values) -/
theorem perm_product_sound_at (S : Finset ι) (val idl : ι → K) (σ : ι → ι)
    (hσ : ∀ p ∈ S, σ p ∈ S) (hinj : Set.InjOn idl (S : Set ι)) (β γ : K)
    (hβ : β ∉ badBeta S val idl σ) (hγ : γ ∉ gammaBad S val idl σ β)
    (h : ∏ p ∈ S, (val p + β * idl p + γ) = ∏ p ∈ S, (val p + β * idl (σ p) + γ)) :
    ∀ p ∈ S, val (σ p) = val p := by
  apply sound_of_sidePoly_eq S val idl σ hσ hinj β hβ
  by_contra hne
  apply hγ
  unfold gammaBad
  refine Finset.mem_union_left _ ?_
  rw [Multiset.mem_toFinset, mem_roots (sub_ne_zero.mpr hne), IsRoot, eval_sub, sidePoly_eval,
    sidePoly_eval, h, sub_self]

end gamma

end Plonk.Sound
