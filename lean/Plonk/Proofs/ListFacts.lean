/-
  Facts about lists shared by the proofs on compressed circuit descriptions: prefixes, strictly increasing
  lists, and the first-occurrence dictionary behind `dictInsert` and `dictInsertPoly`.
-/
namespace Plonk

theorem prefix_getElem? {α} {t t' : List α} (h : t <+: t') {i : Nat} {k : α} (hk : t[i]? = some k) :
    t'[i]? = some k := by
  obtain ⟨s, rfl⟩ := h
  rw [List.getElem?_append_left (List.getElem?_eq_some_iff.1 hk).1]
  exact hk

/-- what holds of all members and of the default holds of `getD` -/
theorem getD_of_forall {α : Type} {P : α → Prop} {l : List α} {d : α} (hl : ∀ x ∈ l, P x) (hd : P d) (i : Nat) :
    P (l.getD i d) := by
  rw [List.getD_eq_getElem?_getD]
  cases h : l[i]? with
  | none => exact hd
  | some v => exact hl v (List.mem_of_getElem? h)

/-- strictly increasing = every element below its successor (the form `validate_indices` checks) -/
theorem pairwise_lt_iff_chain : ∀ (l : List Nat),
    l.Pairwise (· < ·) ↔ (l.zip l.tail).all (fun (a, b) => decide (a < b)) = true
  | [] => ⟨fun _ => rfl, fun _ => List.Pairwise.nil⟩
  | [_] => ⟨fun _ => rfl, fun _ => List.pairwise_singleton _ _⟩
  | a :: b :: t => by
    have ih := pairwise_lt_iff_chain (b :: t)
    rw [List.tail_cons] at ih
    rw [List.tail_cons, List.zip_cons_cons, List.all_cons, Bool.and_eq_true, decide_eq_true_eq, ← ih,
      List.pairwise_cons]
    constructor
    · exact fun h => ⟨h.1 b List.mem_cons_self, h.2⟩
    · refine fun h => ⟨fun x hx => ?_, h.2⟩
      rcases List.mem_cons.1 hx with rfl | hx
      · exact h.1
      · exact Nat.lt_trans h.1 ((List.pairwise_cons.1 h.2).1 x hx)

/-- an invariant of the step is an invariant of the fold -/
theorem foldl_inv {α β : Type} (P : β → Prop) (f : β → α → β) (h : ∀ b a, P b → P (f b a)) :
    ∀ (l : List α) (b : β), P b → P (l.foldl f b)
  | [], _, hb => hb
  | a :: l, b, hb => foldl_inv P f h l (f b a) (h b a hb)

/-- a strictly increasing list inside `[lo, n)` has at most `n - lo` entries -/
theorem pairwise_lt_length_le : ∀ (l : List Nat) (lo n : Nat), l.Pairwise (· < ·) → (∀ x ∈ l, lo ≤ x ∧ x < n) →
    l.length ≤ n - lo
  | [], _, _, _, _ => Nat.zero_le _
  | a :: t, lo, n, hp, hb => by
    obtain ⟨h1, h2⟩ := List.pairwise_cons.1 hp
    have ha := hb a (by simp)
    have := pairwise_lt_length_le t (a + 1) n h2 (fun x hx => ⟨h1 x hx, (hb x (List.mem_cons_of_mem _ hx)).2⟩)
    rw [List.length_cons]; omega

/-- `entry(k).or_insert(len)` on a table `index ↦ key`: the table after the call and the index of `k` in it -/
def orInsert {α : Type} [BEq α] (tbl : List α) (k : α) : List α × Nat :=
  match tbl.findIdx? (· == k) with
  | some i => (tbl, i)
  | none => (tbl ++ [k], tbl.length)

/-- the index returned is the first index of `k` in the returned table, which extends the old one by at most `k` -/
theorem orInsert_spec {α : Type} [BEq α] [LawfulBEq α] (tbl : List α) (k : α) :
    (orInsert tbl k).1[(orInsert tbl k).2]? = some k ∧ tbl <+: (orInsert tbl k).1 ∧
    (orInsert tbl k).1.length ≤ tbl.length + 1 ∧ (∀ j, j < (orInsert tbl k).2 → (orInsert tbl k).1[j]? ≠ some k) ∧
    (∀ p ∈ (orInsert tbl k).1, p ∈ tbl ∨ p = k) := by
  unfold orInsert
  cases hf : tbl.findIdx? (· == k) with
  | some i =>
    obtain ⟨hlt, hp, hmin⟩ := List.findIdx?_eq_some_iff_getElem.1 hf
    refine ⟨?_, List.prefix_refl _, Nat.le_succ _, fun j hj hc => ?_, fun p hp => Or.inl hp⟩
    · exact (List.getElem?_eq_getElem hlt).trans (congrArg some (eq_of_beq hp))
    · obtain ⟨hjl, e⟩ := List.getElem?_eq_some_iff.1 hc
      exact hmin j hj (e ▸ beq_self_eq_true k)
  | none =>
    refine ⟨?_, List.prefix_append _ _, Nat.le_of_eq (List.length_append ..), fun j hj hc => ?_, fun p hp => ?_⟩
    · exact List.getElem?_concat_length ..
    · rw [List.getElem?_append_left hj] at hc
      exact Bool.false_ne_true
        ((List.findIdx?_eq_none_iff.1 hf _ (List.mem_of_getElem? hc)).symm.trans (beq_self_eq_true k))
    · rcases List.mem_append.1 hp with hp | hp
      · exact Or.inl hp
      · exact Or.inr (List.mem_singleton.1 hp)
/-- inserting the keys `xs` one after the other adds at most `xs.length` entries -/
theorem foldl_orInsert_length_le {α : Type} [BEq α] [LawfulBEq α] : ∀ (xs tbl : List α),
    (xs.foldl (fun t x => (orInsert t x).1) tbl).length ≤ tbl.length + xs.length
  | [], _ => Nat.le_refl _
  | x :: xs, tbl => by
    have h1 := foldl_orInsert_length_le xs (orInsert tbl x).1
    have h2 := (orInsert_spec tbl x).2.2.1
    rw [List.foldl_cons, List.length_cons]
    omega

/-- what holds of the table and of the keys holds of the table after inserting them -/
theorem foldl_orInsert_forall {α : Type} [BEq α] [LawfulBEq α] {P : α → Prop} : ∀ (xs tbl : List α),
    (∀ x ∈ tbl, P x) → (∀ x ∈ xs, P x) → ∀ x ∈ xs.foldl (fun t x => (orInsert t x).1) tbl, P x
  | [], _, ht, _ => ht
  | k :: xs, tbl, ht, hx =>
    foldl_orInsert_forall xs (orInsert tbl k).1
      (fun y hy => ((orInsert_spec tbl k).2.2.2.2 y hy).elim (ht y) (· ▸ hx k List.mem_cons_self))
      (fun y hy => hx y (List.mem_cons_of_mem _ hy))

end Plonk
