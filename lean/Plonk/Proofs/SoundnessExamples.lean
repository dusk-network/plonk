/-
  C02 (soundness) — concrete data for the non-vacuity examples of `Plonk/Props/C02.lean`.
-/
import Mathlib.RingTheory.RootsOfUnity.PrimitiveRoots
import Plonk.Proofs.SoundnessCore
import Plonk.Proofs.SoundnessOpen
import Plonk.Proofs.QuotientExamples

namespace Plonk.Sound
open Polynomial Plonk Plonk.Quot

theorem neg_one_sq_F : (-1 : F) ^ 2 = 1 := by ring

theorem neg_one_primitive : IsPrimitiveRoot (-1 : F) 2 := by
  refine IsPrimitiveRoot.mk_of_lt _ (by omega) neg_one_sq_F ?_
  intro l hl0 hl2
  have : l = 1 := by omega
  subst this
  rw [pow_one]
  exact neg_one_ne_one_F

theorem natCast_two_ne_zero_F : ((2 : ℕ) : F) ≠ 0 := by
  simpa using two_ne_zero_F

/-- the accumulator `Z = 2 − X` over the domain `{1, −1}`: `Z(1) = 1`, `Z(−1) = 3` -/
noncomputable def exZ : F[X] := C 2 - X
noncomputable def exNum : F[X] := C 2 + X
noncomputable def exDen : F[X] := C 2 - X

theorem pow_neg_one_cases (i : ℕ) (hi : i < 2) : ((-1 : F) ^ i = 1 ∧ i = 0) ∨ ((-1 : F) ^ i = -1 ∧ i = 1) := by
  interval_cases i
  · left; simp
  · right; simp

theorem ex_telescope_hyps :
    (∀ i < 2, exDen.eval ((-1 : F) ^ i) ≠ 0) ∧
    (∀ i < 2, (shiftP (-1) exZ * exDen - exZ * exNum).eval ((-1 : F) ^ i) = 0) ∧
    (∀ i < 2, ((exZ - 1) * L1P 2).eval ((-1 : F) ^ i) = 0) := by
  have hZ (x : F) : exZ.eval x = 2 - x := by simp only [exZ, eval_sub, eval_C, eval_X]
  have hD (x : F) : exDen.eval x = 2 - x := hZ x
  have hN (x : F) : exNum.eval x = 2 + x := by simp only [exNum, eval_add, eval_C, eval_X]
  refine ⟨fun i hi => ?_, fun i _ => ?_, fun i hi => ?_⟩
  · rw [hD]
    rcases pow_neg_one_cases i hi with ⟨h, -⟩ | ⟨h, -⟩ <;> rw [h]
    · norm_num
    · exact fun h0 => three_ne_zero_F (by linear_combination h0)
  · rw [eval_sub, eval_mul, eval_mul, eval_shiftP, hZ, hZ, hD, hN]
    ring
  · rw [eval_mul, eval_L1P_root neg_one_primitive natCast_two_ne_zero_F hi]
    rcases Nat.eq_zero_or_pos i with rfl | h
    · rw [if_pos rfl, mul_one, eval_sub, hZ, eval_one, pow_zero]
      ring
    · rw [if_neg (Nat.ne_of_gt h), mul_zero]

/-- a bad set of cardinality `≤ 0` is empty -/
theorem aggBad_one_empty (δ : ℕ → F) : aggBad 1 δ = ∅ := by
  have := aggBad_card_le 1 δ
  exact Finset.card_eq_zero.mp (by omega)

end Plonk.Sound
