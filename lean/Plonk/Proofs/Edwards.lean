/-
  The JubJub twisted Edwards curve `-x² + y² = 1 + d·x²·y²` over `F = ZMod R`: `d` is a
  non-square and `-1` a square (Euler's criterion evaluated by the kernel), hence the addition
  law `addF` is complete and closed on curve points; and the bridge from the model's `Nat`
  functions of `Plonk/Model/Jubjub.lean` (`onCurve`, `edDen`, `edAdd?`, `edAddOrId`, `edNeg`)
  to `addF`.
-/
import Mathlib.Tactic.LinearCombination
import Mathlib.Tactic.FieldSimp
import Mathlib.Tactic.Ring
import Mathlib.NumberTheory.LegendreSymbol.Basic
import Plonk.Proofs.FieldBridge
import Plonk.Model.Jubjub

namespace Plonk

/-! ### Constants -/

/-- the Edwards parameter `d` in the field -/
def dF : F := toF EDWARDS_D

theorem toF_EDWARDS_D : toF EDWARDS_D = dF := rfl

theorem R_div_two_lt : R / 2 < 2^256 := by decide +kernel

theorem dF_ne_zero : dF ≠ 0 := by
  unfold dF
  rw [Ne, toF_eq_zero_of_lt (by decide +kernel)]; decide +kernel

/-- Euler: `d^((r-1)/2) = -1`, evaluated by the kernel -/
theorem dF_pow_half : dF ^ (R / 2) = -1 := by
  have h := toF_fpow EDWARDS_D (R / 2) R_div_two_lt
  have e : fpow EDWARDS_D (R / 2) = R - 1 := by decide +kernel
  rw [e, toF_R_sub_one] at h
  exact h.symm

/-- `d` is not a square in `F` -/
theorem d_nonresidue : ¬ IsSquare (toF EDWARDS_D) := by
  rw [toF_EDWARDS_D, ZMod.euler_criterion R dF_ne_zero, dF_pow_half]
  exact neg_one_ne_one_F

theorem dF_not_sq (t : F) : t * t ≠ dF := by
  intro h; exact d_nonresidue ⟨t, h.symm⟩

/-- `-1` is a square in `F` (`r ≡ 1 mod 4`) -/
theorem neg_one_is_square : IsSquare (-1 : F) := by
  rw [ZMod.exists_sq_eq_neg_one_iff]
  decide +kernel

/-! ### The curve -/

/-- `-x² + y² = 1 + d x² y²`, in the form of the model's `onCurve` -/
def OnCurveF (x y : F) : Prop := y^2 - x^2 - dF * x^2 * y^2 = 1

theorem onCurve_iff (p : Pt) : onCurve p = true ↔ OnCurveF (toF p.1) (toF p.2) := by
  unfold onCurve OnCurveF
  simp only [beq_iff_eq]
  rw [one_mod_R, ← toF_inj_of_lt (fsub_lt _ _) R_gt_one]
  simp only [toF_fsub, toF_fmul, toF_fsq, toF_one, toF_EDWARDS_D, sq]

/-! ### Completeness -/

/-- `u² = d·v²` with `d` a non-square forces `v = 0` -/
theorem eq_zero_of_sq_eq_nonsquare_mul_sq {K : Type*} [Field K] {d u v : K}
    (hd : ∀ t : K, t * t ≠ d) (h : u * u = d * (v * v)) : v = 0 := by
  by_contra hv
  refine hd (u / v) ?_
  rw [div_mul_div_comm, div_eq_iff (mul_ne_zero hv hv)]
  linear_combination h

theorem edwards_denominators_ne_zero {K : Type*} [Field K]
    (d i : K) (h2ne : (2:K) ≠ 0) (hi : i * i = -1) (hd : ∀ t : K, t * t ≠ d)
    (x1 y1 x2 y2 : K)
    (h1 : y1^2 - x1^2 - d * x1^2 * y1^2 = 1)
    (h2 : y2^2 - x2^2 - d * x2^2 * y2^2 = 1) :
    1 + d * x1 * x2 * y1 * y2 ≠ 0 ∧ 1 - d * x1 * x2 * y1 * y2 ≠ 0 := by
  -- assume `e² = 1` for `e = d x1 x2 y1 y2`
  suffices key : (1 + d * x1 * x2 * y1 * y2) * (1 - d * x1 * x2 * y1 * y2) ≠ 0 from
    ⟨left_ne_zero_of_mul key, right_ne_zero_of_mul key⟩
  intro h
  have hε : (d * x1 * x2 * y1 * y2)^2 = 1 := by linear_combination -h
  -- then `(j x1 + e y1)² = d (x1 y1 (j x2 + y2))²` for both square roots `j = ±i` of `-1`; `d` is
  -- not a square, so `x1 y1 (±i x2 + y2) = 0`, hence `x1 y1 y2 = 0` and `e = 0`
  have aux : ∀ j : K, j * j = -1 → x1 * y1 * (j * x2 + y2) = 0 := fun j hj =>
    eq_zero_of_sq_eq_nonsquare_mul_sq (u := j * x1 + d * x1 * x2 * y1 * y2 * y1) hd (by
      linear_combination h1 - d * (x1 * y1) * (x1 * y1) * h2 + (y1 * y1 - 1) * hε
        + (x1 * x1 - d * (x1 * y1) * (x1 * y1) * (x2 * x2)) * hj)
  have h3 : x1 * y1 * y2 = 0 :=
    (mul_eq_zero.mp (show 2 * (x1 * y1 * y2) = 0 by
      linear_combination aux i hi + aux (-i) (by rw [neg_mul_neg]; exact hi))).resolve_left h2ne
  exact one_ne_zero (α := K)
    (by linear_combination -hε + d * x2 * (d * x2) * (x1 * y1 * y2) * h3)

/-- The addition law is complete on JubJub: the denominators never vanish on curve points. -/
theorem add_complete {x1 y1 x2 y2 : F} (h1 : OnCurveF x1 y1) (h2 : OnCurveF x2 y2) :
    1 + dF * x1 * x2 * y1 * y2 ≠ 0 ∧ 1 - dF * x1 * x2 * y1 * y2 ≠ 0 := by
  obtain ⟨i, hi⟩ := neg_one_is_square
  exact edwards_denominators_ne_zero dF i two_ne_zero_F hi.symm dF_not_sq x1 y1 x2 y2 h1 h2

/-! ### Points and the addition law -/

/-- affine points over the field -/
abbrev PtF := F × F

/-- field interpretation of a model point -/
def toFP (p : Pt) : PtF := (toF p.1, toF p.2)

@[simp] theorem toFP_fst (p : Pt) : (toFP p).1 = toF p.1 := rfl
@[simp] theorem toFP_snd (p : Pt) : (toFP p).2 = toF p.2 := rfl

def OnCurveP (p : PtF) : Prop := OnCurveF p.1 p.2

theorem onCurve_iff_P (p : Pt) : onCurve p = true ↔ OnCurveP (toFP p) := onCurve_iff p

/-- the (unified, complete) twisted Edwards addition law with `a = -1` -/
def addF (p q : PtF) : PtF :=
  ((p.1 * q.2 + p.2 * q.1) / (1 + dF * p.1 * q.1 * p.2 * q.2),
   (p.2 * q.2 + p.1 * q.1) / (1 - dF * p.1 * q.1 * p.2 * q.2))

def negF (p : PtF) : PtF := (-p.1, p.2)

def idF : PtF := (0, 1)

theorem toFP_id : toFP Pt.id = idF := by simp [toFP, Pt.id, idF]

theorem toFP_edNeg (p : Pt) : toFP (edNeg p) = negF (toFP p) := by
  simp [toFP, edNeg, negF]

theorem id_on_curveP : OnCurveP idF := by unfold OnCurveP OnCurveF idF; ring

theorem neg_on_curveP {p : PtF} (h : OnCurveP p) : OnCurveP (negF p) := by
  unfold OnCurveP OnCurveF negF at *; rwa [neg_sq]

theorem add_completeP {p q : PtF} (hp : OnCurveP p) (hq : OnCurveP q) :
    1 + dF * p.1 * q.1 * p.2 * q.2 ≠ 0 ∧ 1 - dF * p.1 * q.1 * p.2 * q.2 ≠ 0 :=
  add_complete hp hq

/-- polynomial form of closure: numerators and denominators of the sum satisfy the homogenised
    curve equation.  With `uₖ = yₖ² − xₖ²`, `aₖ = d·xₖ²·yₖ²`, `e = d·x₁x₂y₁y₂` the left side is
    identically `G(u₁, u₂) = u₁u₂(1 + e²) − a₁u₂² − a₂u₁²` and the right side is
    `G(1 + a₁, 1 + a₂)`; the curve equations say `uₖ = 1 + aₖ`. -/
theorem add_on_curve_poly {x1 y1 x2 y2 : F} (h1 : OnCurveF x1 y1) (h2 : OnCurveF x2 y2) :
    (y1 * y2 + x1 * x2) * (1 + dF * x1 * x2 * y1 * y2)
        * ((y1 * y2 + x1 * x2) * (1 + dF * x1 * x2 * y1 * y2))
      - (x1 * y2 + y1 * x2) * (1 - dF * x1 * x2 * y1 * y2)
        * ((x1 * y2 + y1 * x2) * (1 - dF * x1 * x2 * y1 * y2))
      - dF * ((x1 * y2 + y1 * x2) * (y1 * y2 + x1 * x2))
        * ((x1 * y2 + y1 * x2) * (y1 * y2 + x1 * x2))
      = (1 + dF * x1 * x2 * y1 * y2) * (1 - dF * x1 * x2 * y1 * y2)
        * ((1 + dF * x1 * x2 * y1 * y2) * (1 - dF * x1 * x2 * y1 * y2)) := by
  unfold OnCurveF at h1 h2
  linear_combination
    ((y2 * y2 - x2 * x2) * (1 + dF * (x1 * y1) * (x2 * y2) * (dF * (x1 * y1) * (x2 * y2)))
      - dF * (x2 * y2) * (x2 * y2)
        * (y1 * y1 - x1 * x1 + 1 + dF * (x1 * y1) * (x1 * y1))) * h1
    + ((1 + dF * (x1 * y1) * (x1 * y1))
        * (1 + dF * (x1 * y1) * (x2 * y2) * (dF * (x1 * y1) * (x2 * y2)))
      - dF * (x1 * y1) * (x1 * y1)
        * (y2 * y2 - x2 * x2 + 1 + dF * (x2 * y2) * (x2 * y2))) * h2

theorem onCurve_of_homogeneous {A B Nx Ny : F} (hA : A ≠ 0) (hB : B ≠ 0)
    (key : Ny * A * (Ny * A) - Nx * B * (Nx * B) - dF * (Nx * Ny) * (Nx * Ny)
      = A * B * (A * B)) :
    OnCurveF (Nx / A) (Ny / B) := by
  unfold OnCurveF
  field_simp
  linear_combination key

/-- closure: the sum of two curve points is a curve point -/
theorem add_on_curve {x1 y1 x2 y2 : F} (h1 : OnCurveF x1 y1) (h2 : OnCurveF x2 y2) :
    OnCurveF ((x1 * y2 + y1 * x2) / (1 + dF * x1 * x2 * y1 * y2))
             ((y1 * y2 + x1 * x2) / (1 - dF * x1 * x2 * y1 * y2)) := by
  obtain ⟨hA, hB⟩ := add_complete h1 h2
  have key := add_on_curve_poly h1 h2
  exact onCurve_of_homogeneous hA hB key

theorem add_on_curveP {p q : PtF} (hp : OnCurveP p) (hq : OnCurveP q) : OnCurveP (addF p q) :=
  add_on_curve hp hq

/-! ### Bridge to the model's `edDen`, `edAdd?`, `edAddOrId` -/

theorem fdiv_lt (a b : Nat) : fdiv a b < R := by unfold fdiv; exact fmul_lt _ _

theorem toF_edDen_fst (p q : Pt) :
    toF (edDen p q).1 = 1 + dF * toF p.1 * toF q.1 * toF p.2 * toF q.2 := by
  simp only [edDen, toF_fadd, toF_fmul, toF_one, toF_EDWARDS_D]; ring

theorem toF_edDen_snd (p q : Pt) :
    toF (edDen p q).2 = 1 - dF * toF p.1 * toF q.1 * toF p.2 * toF q.2 := by
  simp only [edDen, toF_fsub, toF_fmul, toF_one, toF_EDWARDS_D]; ring

theorem edDen_fst_lt (p q : Pt) : (edDen p q).1 < R := by unfold edDen; exact fadd_lt _ _
theorem edDen_snd_lt (p q : Pt) : (edDen p q).2 < R := by unfold edDen; exact fsub_lt _ _

theorem edAdd?_def (p q : Pt) : edAdd? p q =
    if (edDen p q).1 = 0 ∨ (edDen p q).2 = 0 then none
    else some (fdiv (fadd (fmul p.1 q.2) (fmul p.2 q.1)) (edDen p q).1,
               fdiv (fadd (fmul p.2 q.2) (fmul p.1 q.1)) (edDen p q).2) := by
  unfold edAdd?
  simp only [Bool.or_eq_true, beq_iff_eq]

/-- `edAdd?` fails exactly at a pole of the addition law -/
theorem edAdd?_eq_none_iff (p q : Pt) :
    edAdd? p q = none ↔
      (1 + dF * toF p.1 * toF q.1 * toF p.2 * toF q.2 = 0 ∨
       1 - dF * toF p.1 * toF q.1 * toF p.2 * toF q.2 = 0) := by
  rw [edAdd?_def, ← toF_edDen_fst, ← toF_edDen_snd,
    ← eq_zero_iff_toF (edDen_fst_lt p q), ← eq_zero_iff_toF (edDen_snd_lt p q)]
  split <;> simp_all

/-- `edAdd?` succeeds exactly off the poles, with the (reduced) value of the addition law -/
theorem edAdd?_eq_some_iff (p q s : Pt) :
    edAdd? p q = some s ↔
      1 + dF * toF p.1 * toF q.1 * toF p.2 * toF q.2 ≠ 0 ∧
      1 - dF * toF p.1 * toF q.1 * toF p.2 * toF q.2 ≠ 0 ∧
      s.1 < R ∧ s.2 < R ∧
      toF s.1 = (toF p.1 * toF q.2 + toF p.2 * toF q.1)
                  / (1 + dF * toF p.1 * toF q.1 * toF p.2 * toF q.2) ∧
      toF s.2 = (toF p.2 * toF q.2 + toF p.1 * toF q.1)
                  / (1 - dF * toF p.1 * toF q.1 * toF p.2 * toF q.2) := by
  rw [edAdd?_def, ← toF_edDen_fst, ← toF_edDen_snd]
  split
  · next h =>
    rw [eq_zero_iff_toF (edDen_fst_lt p q), eq_zero_iff_toF (edDen_snd_lt p q)] at h
    constructor
    · intro h'; cases h'
    · rintro ⟨h1, h2, -⟩; rcases h with h | h <;> contradiction
  · next h =>
    rw [eq_zero_iff_toF (edDen_fst_lt p q), eq_zero_iff_toF (edDen_snd_lt p q), not_or] at h
    constructor
    · intro h'
      injection h' with h'
      subst h'
      refine ⟨h.1, h.2, fdiv_lt _ _, fdiv_lt _ _, ?_, ?_⟩ <;> simp
    · rintro ⟨-, -, hs1, hs2, e1, e2⟩
      rw [Option.some.injEq]
      apply Prod.ext
      · rw [← toF_inj_of_lt (fdiv_lt _ _) hs1, e1]; simp
      · rw [← toF_inj_of_lt (fdiv_lt _ _) hs2, e2]; simp

/-- statement for reduced results, in point form -/
theorem edAdd?_eq_some_iff' (p q s : Pt) (hs1 : s.1 < R) (hs2 : s.2 < R) :
    edAdd? p q = some s ↔
      1 + dF * toF p.1 * toF q.1 * toF p.2 * toF q.2 ≠ 0 ∧
      1 - dF * toF p.1 * toF q.1 * toF p.2 * toF q.2 ≠ 0 ∧
      toFP s = addF (toFP p) (toFP q) := by
  rw [edAdd?_eq_some_iff]
  simp only [toFP, addF, Prod.mk.injEq, hs1, hs2, true_and]

/-- on curve points the host-side addition never takes the identity fallback -/
theorem edAdd?_on_curve (p q : Pt) (hp : onCurve p = true) (hq : onCurve q = true) :
    edAdd? p q = some (edAddOrId p q) := by
  rw [onCurve_iff] at hp hq
  obtain ⟨hA, hB⟩ := add_complete hp hq
  unfold edAddOrId
  cases h : edAdd? p q with
  | none =>
    rw [edAdd?_eq_none_iff] at h
    rcases h with h | h <;> contradiction
  | some s => rfl

theorem edAddOrId_lt (p q : Pt) : (edAddOrId p q).1 < R ∧ (edAddOrId p q).2 < R := by
  unfold edAddOrId
  cases h : edAdd? p q with
  | none => simp only [Option.getD_none, Pt.id]; exact ⟨R_pos, R_gt_one⟩
  | some s =>
    rw [edAdd?_eq_some_iff] at h
    exact ⟨h.2.2.1, h.2.2.2.1⟩

/-- on curve points `edAddOrId` is the addition law -/
theorem toFP_edAddOrId (p q : Pt) (hp : onCurve p = true) (hq : onCurve q = true) :
    toFP (edAddOrId p q) = addF (toFP p) (toFP q) := by
  have h := edAdd?_on_curve p q hp hq
  rw [edAdd?_eq_some_iff' _ _ _ (edAddOrId_lt p q).1 (edAddOrId_lt p q).2] at h
  exact h.2.2

theorem edAddOrId_on_curve (p q : Pt) (hp : onCurve p = true) (hq : onCurve q = true) :
    onCurve (edAddOrId p q) = true := by
  rw [onCurve_iff_P, toFP_edAddOrId p q hp hq]
  rw [onCurve_iff_P] at hp hq
  exact add_on_curveP hp hq

theorem edNeg_on_curve (p : Pt) (hp : onCurve p = true) : onCurve (edNeg p) = true := by
  rw [onCurve_iff_P] at *
  rw [toFP_edNeg]; exact neg_on_curveP hp

theorem id_on_curve_model : onCurve Pt.id = true := by
  rw [onCurve_iff_P, toFP_id]; exact id_on_curveP

end Plonk
