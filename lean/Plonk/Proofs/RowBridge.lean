/-
  Row semantics in the field: each Boolean row check of the model is the conjunction of the
  corresponding polynomial identities over `F = ZMod R`.
-/
import Mathlib.Tactic.Ring
import Plonk.Proofs.FieldBridge
import Plonk.Model.System

namespace Plonk

/-- a relation `e = 0` with `e = x - y` is the equation `x = y`; the hypothesis is closed by `ring` -/
theorem eq_zero_iff_of_eq_sub {e x y : F} (h : e = x - y) : e = 0 ↔ x = y := by
  rw [h, sub_eq_zero]

/-- the same with `e = y - x` -/
theorem eq_zero_iff_of_eq_sub' {e x y : F} (h : e = y - x) : e = 0 ↔ x = y := by
  rw [h, sub_eq_zero, eq_comm]

def deltaF (x : F) : F := x * (x - 1) * (x - 2) * (x - 3)

/-- `deltaF x = 0` says `x ∈ {0, 1, 2, 3}` -/
theorem exists_lt_four_of_deltaF_eq_zero {x : F} (h : deltaF x = 0) : ∃ q : ℕ, q < 4 ∧ x = (q : F) := by
  unfold deltaF at h
  rcases mul_eq_zero.mp h with h | h
  · rcases mul_eq_zero.mp h with h | h
    · rcases mul_eq_zero.mp h with h | h
      · exact ⟨0, by decide, by simpa using h⟩
      · exact ⟨1, by decide, by simpa using sub_eq_zero.mp h⟩
    · exact ⟨2, by decide, by simpa using sub_eq_zero.mp h⟩
  · exact ⟨3, by decide, by simpa using sub_eq_zero.mp h⟩

theorem deltaF_of_lt {q : ℕ} (hq : q < 4) : deltaF ((q : ℕ) : F) = 0 := by
  unfold deltaF
  match q, hq with
  | 0, _ | 1, _ | 2, _ | 3, _ => simp

@[simp] theorem deltaF_zero : deltaF 0 = 0 := by simp [deltaF]

@[simp] theorem toF_delta (f : Nat) : toF (delta f) = deltaF (toF f) := by
  unfold delta deltaF; simp

theorem delta_lt (f : Nat) : delta f < R := by unfold delta; exact fmul_lt _ _

/-- the arithmetic part of a row in the field: `(q_M·a·b + q_L·a + q_R·b + q_O·c + q_F·d + q_C)·q_arith + PI` -/
def arithF (g : Gate) (a b c d pi : F) : F :=
  (a * b * toF g.qm + a * toF g.ql + b * toF g.qr + c * toF g.qo + d * toF g.qf + toF g.qc) * toF g.qarith + pi

@[simp] theorem toF_arithVal (g : Gate) (a b c d pi : Nat) :
    toF (arithVal g a b c d pi) = arithF g (toF a) (toF b) (toF c) (toF d) (toF pi) := by
  unfold arithVal arithF; simp

theorem arithVal_lt (g : Gate) (a b c d pi : Nat) : arithVal g a b c d pi < R := by
  unfold arithVal; exact fadd_lt _ _

theorem arithVal_beq_zero (g : Gate) (a b c d pi : Nat) :
    (arithVal g a b c d pi == 0) = true ↔ arithF g (toF a) (toF b) (toF c) (toF d) (toF pi) = 0 := by
  rw [beq_zero_iff (arithVal_lt ..), toF_arithVal]

theorem arithVal_eq_zero (g : Gate) (a b c d pi : Nat) :
    arithVal g a b c d pi = 0 ↔ arithF g (toF a) (toF b) (toF c) (toF d) (toF pi) = 0 := by
  rw [eq_zero_iff_toF (arithVal_lt ..), toF_arithVal]

theorem allZero_iff (l : List Nat) (h : ∀ x ∈ l, x < R) :
    allZero l = true ↔ ∀ x ∈ l, toF x = 0 := by
  unfold allZero
  rw [List.all_eq_true]
  constructor
  · intro hx x hm; exact (beq_zero_iff (h x hm)).mp (hx x hm)
  · intro hx x hm; exact (beq_zero_iff (h x hm)).mpr (hx x hm)

theorem rangeComps_zero_iff (a b c d dn : Nat) :
    allZero (rangeComps a b c d dn) = true ↔
      deltaF (toF c - 4 * toF d) = 0 ∧ deltaF (toF b - 4 * toF c) = 0 ∧
      deltaF (toF a - 4 * toF b) = 0 ∧ deltaF (toF dn - 4 * toF a) = 0 := by
  rw [allZero_iff]
  · simp only [rangeComps, List.mem_cons, List.mem_nil_iff, or_false, forall_eq_or_imp, forall_eq,
      toF_delta, toF_fsub, toF_fmul, toF_four]
  · intro x hx
    simp only [rangeComps, List.mem_cons, List.mem_nil_iff, or_false] at hx
    rcases hx with h | h | h | h <;> (rw [h]; exact delta_lt _)

/-- A gate with only the arithmetic selector family: the row check is the arithmetic identity. -/
theorem rowHolds_arith (g : Gate) (hr : g.qrange = 0) (hl : g.qlogic = 0) (hf : g.qfixed = 0)
    (hv : g.qvar = 0) (a b c d an bn dn pi : Nat) :
    rowHolds g a b c d an bn dn pi = true ↔
      arithF g (toF a) (toF b) (toF c) (toF d) (toF pi) = 0 := by
  unfold rowHolds; simp [hr, hl, hf, hv, arithVal_eq_zero]

/-- A pure range gate (`Constraint.range`): arithmetic part is trivial when `qarith = 0`, `pi = 0`. -/
theorem rowHolds_range (g : Gate) (hr : g.qrange = 1) (ha : g.qarith = 0) (hl : g.qlogic = 0)
    (hf : g.qfixed = 0) (hv : g.qvar = 0) (a b c d an bn dn : Nat) :
    rowHolds g a b c d an bn dn 0 = true ↔
      deltaF (toF c - 4 * toF d) = 0 ∧ deltaF (toF b - 4 * toF c) = 0 ∧
      deltaF (toF a - 4 * toF b) = 0 ∧ deltaF (toF dn - 4 * toF a) = 0 := by
  unfold rowHolds
  have h0 : arithVal g a b c d 0 = 0 := by
    rw [arithVal_eq_zero]; unfold arithF; simp [ha]
  simp [hr, hl, hf, hv, h0, rangeComps_zero_iff]

end Plonk
