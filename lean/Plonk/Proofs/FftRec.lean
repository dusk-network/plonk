/-
  C19 (FFT half): bridge from the model's `dft` (lists of `Nat` mod `R`) to the field-level `dftN`,
  and correctness of the radix-2 recursion `fftRec` (decimation in time).
-/
import Plonk.Model.FFT
import Plonk.Proofs.FieldBridge
import Plonk.Proofs.FftMath
import Plonk.Proofs.PolyBridge

namespace Plonk
open Finset FftMath

/-! ### list helpers -/

/-- a list of model values read as a sequence of field elements (zero past the end) -/
def seqF (v : List Nat) : ℕ → F := fun j => toF (v.getD j 0)

theorem toPoly_eq_polyN (p : List Nat) : toPoly p = polyN p.length (seqF p) := toPoly_eq_sum p

theorem getD_map_range (f : Nat → Nat) (n i : Nat) (h : i < n) :
    ((List.range n).map f).getD i 0 = f i := by
  simp [List.getD_eq_getElem?_getD, h]

theorem getD_of_le (v : List Nat) (i : Nat) (h : v.length ≤ i) : v.getD i 0 = 0 :=
  List.getD_eq_default v 0 h

theorem getD_eq_getElem' (v : List Nat) (i : Nat) (h : i < v.length) : v.getD i 0 = v[i] :=
  List.getD_eq_getElem v 0 h

theorem getD_lt_R (v : List Nat) (hv : Reduced v) (i : Nat) : v.getD i 0 < R := by
  by_cases h : i < v.length
  · rw [getD_eq_getElem' v i h]; exact hv _ (List.getElem_mem h)
  · rw [getD_of_le v i (Nat.le_of_not_lt h)]; exact R_pos

theorem list_ext_getD (l₁ l₂ : List Nat) (hl : l₁.length = l₂.length)
    (h : ∀ i, i < l₁.length → l₁.getD i 0 = l₂.getD i 0) : l₁ = l₂ := by
  apply List.ext_getElem hl
  intro i h1 h2
  rw [← getD_eq_getElem' l₁ i h1, ← getD_eq_getElem' l₂ i h2]
  exact h i h1

/-- lists of canonical representatives with the same length and the same entries in the field
    are equal -/
theorem list_ext_toF {l₁ l₂ : List Nat} (h₁ : Reduced l₁) (h₂ : Reduced l₂)
    (hl : l₁.length = l₂.length)
    (h : ∀ i, i < l₁.length → toF (l₁.getD i 0) = toF (l₂.getD i 0)) : l₁ = l₂ :=
  list_ext_getD l₁ l₂ hl fun i hi =>
    (toF_inj_of_lt (getD_lt_R l₁ h₁ i) (getD_lt_R l₂ h₂ i)).mp (h i hi)

theorem getD_append' (l₁ l₂ : List Nat) (i : Nat) :
    (l₁ ++ l₂).getD i 0 = if i < l₁.length then l₁.getD i 0 else l₂.getD (i - l₁.length) 0 := by
  simp only [List.getD_eq_getElem?_getD, List.getElem?_append]
  split <;> rfl

theorem seqF_of_le (v : List Nat) (i : Nat) (h : v.length ≤ i) : seqF v i = 0 := by
  unfold seqF; rw [getD_of_le v i h]; simp

/-! ### `evaluate'` and `dft` -/

theorem toF_evaluate' (p : List Nat) (z : Nat) :
    toF (dft.Poly.evaluate' p z) = ∑ j ∈ range p.length, seqF p j * toF z ^ j := by
  rw [evaluate'_spec, toPoly_eq_sum, Polynomial.eval_finsetSum]
  exact sum_congr rfl fun j _ => by
    rw [Polynomial.eval_mul, Polynomial.eval_C, Polynomial.eval_pow, Polynomial.eval_X, seqF]

theorem evaluate'_lt (p : List Nat) (z : Nat) : dft.Poly.evaluate' p z < R :=
  evaluate_fold_lt z p 0 _ R_pos

@[simp] theorem dft_length (ω : Nat) (v : List Nat) : (dft ω v).length = v.length := by
  simp [dft]

theorem dft_getD (ω : Nat) (v : List Nat) (i : Nat) (hi : i < v.length) :
    (dft ω v).getD i 0 = dft.Poly.evaluate' v (fpow ω i) := by
  unfold dft; rw [getD_map_range _ _ _ hi]

theorem dft_getD_lt (ω : Nat) (v : List Nat) (i : Nat) : (dft ω v).getD i 0 < R := by
  by_cases hi : i < v.length
  · rw [dft_getD ω v i hi]; exact evaluate'_lt _ _
  · rw [getD_of_le _ _ (by rw [dft_length]; exact Nat.le_of_not_lt hi)]; exact R_pos

theorem dft_mem_lt (ω : Nat) (v : List Nat) : Reduced (dft ω v) := by
  intro x hx
  obtain ⟨i, hi, rfl⟩ := List.getElem_of_mem hx
  rw [← getD_eq_getElem' _ i hi]; exact dft_getD_lt ω v i

/-- **bridge**: the `toF`-image of the model's `dft` is the field-level DFT (the bound on the
    length is the range in which the model's `fpow` is exponentiation) -/
theorem toF_dft_getD (ω : Nat) (v : List Nat) (i : Nat) (hi : i < v.length)
    (hlen : v.length ≤ 2 ^ 256) :
    toF ((dft ω v).getD i 0) = dftN (toF ω) v.length (seqF v) i := by
  rw [dft_getD ω v i hi, toF_evaluate', toF_fpow _ _ (Nat.lt_of_lt_of_le hi hlen)]
  unfold dftN
  apply sum_congr rfl; intro j _
  rw [pow_mul]

/-- the same for a list whose length is known as `n` -/
theorem toF_dft_getD_of_length (ω : Nat) (v : List Nat) {n : Nat} (h : v.length = n) (i : Nat)
    (hi : i < n) (hn : n ≤ 2 ^ 256) :
    toF ((dft ω v).getD i 0) = dftN (toF ω) n (seqF v) i := by
  subst h; exact toF_dft_getD ω v i hi hn

/-- the same with `Fin`-indexed vectors -/
theorem toF_dft_getD_fin (ω : Nat) (v : List Nat) (hlen : v.length ≤ 2 ^ 256) (i : Fin v.length) :
    toF ((dft ω v).getD i 0) = dftF (toF ω) (fun j : Fin v.length => seqF v j) i := by
  rw [toF_dft_getD ω v i i.2 hlen, dftF_eq_dftN]

/-! ### roots of unity in `F` -/

theorem R_lt_two_pow : R < 2 ^ 256 := by decide +kernel

/-- a primitive `n`-th root of unity in `F` has `n ∣ R − 1`; in particular `n < 2^256` -/
theorem order_lt_of_primitive {ζ : F} {n : ℕ} (hn : 0 < n) (h : IsPrimitiveRoot ζ n) :
    n < 2 ^ 256 := by
  have hz : ζ ≠ 0 := h.ne_zero hn.ne'
  have h1 : ζ ^ (R - 1) = 1 := ZMod.pow_card_sub_one_eq_one hz
  have h2 : n ∣ R - 1 := h.dvd_of_pow_eq_one _ h1
  have h3 : n ≤ R - 1 := Nat.le_of_dvd (by have := R_gt_one; omega) h2
  have := R_lt_two_pow
  omega

/-! ### the recursion -/

/-- the combination step of `fftRec`: `e[i] ± ω^i·o[i]` -/
def butterflyList (ω h : Nat) (e o : List Nat) : List Nat :=
  ((List.range h).map fun i => fadd (e.getD i 0) (fmul (fpow ω i) (o.getD i 0))) ++
  ((List.range h).map fun i => fsub (e.getD i 0) (fmul (fpow ω i) (o.getD i 0)))

theorem butterflyList_length (ω h : Nat) (e o : List Nat) :
    (butterflyList ω h e o).length = h + h := by
  simp [butterflyList]

theorem butterflyList_mem_lt (ω h : Nat) (e o : List Nat) : Reduced (butterflyList ω h e o) := by
  intro x hx
  rcases List.mem_append.mp hx with hx | hx
  · obtain ⟨i, _, rfl⟩ := List.mem_map.mp hx; exact fadd_lt _ _
  · obtain ⟨i, _, rfl⟩ := List.mem_map.mp hx; exact fsub_lt _ _

theorem butterflyList_getD_lo (ω : Nat) {h i : Nat} (e o : List Nat) (hi : i < h) :
    (butterflyList ω h e o).getD i 0 = fadd (e.getD i 0) (fmul (fpow ω i) (o.getD i 0)) := by
  rw [butterflyList, getD_append', List.length_map, List.length_range, if_pos hi,
    getD_map_range _ _ _ hi]

theorem butterflyList_getD_hi (ω : Nat) {h i : Nat} (e o : List Nat) (hi : i < h) :
    (butterflyList ω h e o).getD (i + h) 0
      = fsub (e.getD i 0) (fmul (fpow ω i) (o.getD i 0)) := by
  rw [butterflyList, getD_append', List.length_map, List.length_range,
    if_neg (Nat.not_lt.mpr (Nat.le_add_left h i)),
    Nat.add_sub_cancel, getD_map_range _ _ _ hi]

theorem fftRec_succ (k ω : Nat) (v : List Nat) :
    fftRec (k + 1) ω v = butterflyList ω (v.length / 2)
      (fftRec k (fsq ω) ((List.range (v.length / 2)).map fun i => v.getD (2 * i) 0))
      (fftRec k (fsq ω) ((List.range (v.length / 2)).map fun i => v.getD (2 * i + 1) 0)) := by
  rw [fftRec, butterflyList]
  congr 1 <;>
    exact List.map_congr_left fun i hi => by rw [getD_map_range _ _ _ (List.mem_range.mp hi)]

theorem map_range_mem_lt (v : List Nat) (hv : Reduced v) (g : Nat → Nat) (n : Nat) :
    Reduced ((List.range n).map (fun i => v.getD (g i) 0)) :=
  reduced_map (fun i => getD_lt_R v hv (g i)) _

/-- the transform, with the squared root, of the subsequence `v[b], v[2+b], v[4+b], …` -/
theorem toF_dft_half (ω : Nat) (v : List Nat) (b j : Nat) (hj : j < v.length / 2)
    (hlen : v.length ≤ 2 ^ 256) :
    toF ((dft (fsq ω) ((List.range (v.length / 2)).map fun i => v.getD (2 * i + b) 0)).getD j 0)
      = dftN (toF ω ^ 2) (v.length / 2) (fun l => seqF v (2 * l + b)) j := by
  rw [toF_dft_getD_of_length _ _ (by rw [List.length_map, List.length_range]) j hj
      (Nat.le_trans (Nat.div_le_self _ _) hlen), toF_fsq, ← pow_two]
  apply dftN_congr
  intro l hl
  rw [seqF, getD_map_range _ _ _ hl, seqF]

/-- **the radix-2 recursion computes the DFT** -/
theorem fftRec_eq_dft (k : Nat) : ∀ (ω : Nat) (v : List Nat), v.length = 2 ^ k →
    (∀ x ∈ v, x < R) → IsPrimitiveRoot (toF ω) (2 ^ k) → fftRec k ω v = dft ω v := by
  induction k with
  | zero =>
    intro ω v hlen hv _
    match v, hlen with
    | [x], _ =>
      have hx : x < R := hv x (by simp)
      show [x] = dft ω [x]
      apply list_ext_getD _ _ (by simp)
      intro i hi
      have hi0 : i = 0 := by simpa using hi
      subst hi0
      apply (toF_inj_of_lt (getD_lt_R _ hv 0) (dft_getD_lt _ _ _)).mp
      rw [toF_dft_getD ω [x] 0 (by simp) (by simp)]
      simp [dftN, seqF]
  | succ k ih =>
    intro ω v hlen hv hprim
    have hpos : 0 < 2 ^ k := Nat.two_pow_pos _
    have hlen2 : v.length = 2 * 2 ^ k := by rw [hlen, Nat.pow_succ, Nat.mul_comm]
    have hhalf : v.length / 2 = 2 ^ k := by rw [hlen2, Nat.mul_div_cancel_left _ (by decide)]
    have hprim2 : IsPrimitiveRoot (toF ω) (2 * 2 ^ k) := by rwa [← hlen2, hlen]
    have hsq : IsPrimitiveRoot (toF (fsq ω)) (2 ^ k) := by
      rw [toF_fsq, ← pow_two]; exact isPrimitiveRoot_sq hprim2
    have hbound : 2 * 2 ^ k < 2 ^ 256 := order_lt_of_primitive (Nat.mul_pos (by decide) hpos) hprim2
    have hvl : v.length ≤ 2 ^ 256 := hlen2 ▸ hbound.le
    have hk : 2 ^ k < 2 ^ 256 := by omega
    -- field-level values of the two half-size transforms
    have half : ∀ b j, j < 2 ^ k →
        toF ((fftRec k (fsq ω) ((List.range (2 ^ k)).map fun i => v.getD (2 * i + b) 0)).getD
          j 0) = dftN (toF ω ^ 2) (2 ^ k) (fun l => seqF v (2 * l + b)) j := by
      intro b j hj
      rw [ih (fsq ω) _ (by rw [List.length_map, List.length_range]) (map_range_mem_lt v hv _ _) hsq,
        ← hhalf, toF_dft_half ω v b j (hhalf ▸ hj) hvl]
    have he := half 0
    simp only [Nat.add_zero] at he
    apply list_ext_toF (by rw [fftRec_succ]; exact butterflyList_mem_lt _ _ _ _) (dft_mem_lt _ _)
    · rw [fftRec_succ, butterflyList_length, dft_length, hhalf, hlen2, two_mul]
    · intro i hi
      rw [fftRec_succ, butterflyList_length, hhalf] at hi
      rw [toF_dft_getD ω v i (by rw [hlen2, two_mul]; exact hi) hvl, hlen2, fftRec_succ, hhalf]
      by_cases hlt : i < 2 ^ k
      · rw [butterflyList_getD_lo ω _ _ hlt, toF_fadd, toF_fmul, toF_fpow _ _ (lt_trans hlt hk),
          (dftN_butterfly hpos hprim2 (seqF v) i).1, he i hlt, half 1 i hlt]
      · obtain ⟨i', rfl⟩ : ∃ i', i = i' + 2 ^ k :=
          ⟨i - 2 ^ k, (Nat.sub_add_cancel (Nat.le_of_not_lt hlt)).symm⟩
        have hlt' : i' < 2 ^ k := Nat.lt_of_add_lt_add_right hi
        rw [butterflyList_getD_hi ω _ _ hlt', toF_fsub, toF_fmul, toF_fpow _ _ (lt_trans hlt' hk),
          (dftN_butterfly hpos hprim2 (seqF v) i').2, he i' hlt', half 1 i' hlt']

end Plonk
