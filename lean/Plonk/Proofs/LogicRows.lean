/-
  C10 (logic gadget), math level: the five components of the logic widget over `F = ZMod R`,
  the quad table of `delta_xor_and`, and the three-accumulator chain (soundness and
  completeness). No composer glue.
-/
import Mathlib.Tactic.Ring
import Mathlib.Tactic.IntervalCases
import Mathlib.Tactic.NormNum
import Plonk.Proofs.RowBridge
import Plonk.Model.Composer

namespace Plonk

/-- field-level `delta_xor_and(a, b, w, c, q_c)` -/
def deltaXorAndF (a b w c qc : F) : F :=
  let ab := a + b
  let f := w * (w * (4 * w - 18 * ab + 81) + 18 * (a * a + b * b) - 81 * ab + 83)
  let e := 3 * (ab + c) - 2 * f
  let bb := qc * (9 * c - 3 * ab)
  bb + e

@[simp] theorem toF_deltaXorAnd (a b w c qc : Nat) :
    toF (deltaXorAnd a b w c qc) = deltaXorAndF (toF a) (toF b) (toF w) (toF c) (toF qc) := by
  have h9 : toF 9 = 9 := toF_ofNat 9
  have h18 : toF 18 = 18 := toF_ofNat 18
  have h81 : toF 81 = 81 := toF_ofNat 81
  have h83 : toF 83 = 83 := toF_ofNat 83
  unfold deltaXorAnd deltaXorAndF; simp [h9, h18, h81, h83]

theorem deltaXorAnd_lt (a b w c qc : Nat) : deltaXorAnd a b w c qc < R := by
  unfold deltaXorAnd; exact fadd_lt _ _

/-- the five row equations of the logic widget, at the field level
    (`a b d` current-row accumulators, `an bn dn` next-row accumulators, `c` the product wire) -/
def logicRowF (qc a an b bn c d dn : F) : Prop :=
  deltaF (an - 4 * a) = 0 ∧ deltaF (bn - 4 * b) = 0 ∧ deltaF (dn - 4 * d) = 0 ∧
  c = (an - 4 * a) * (bn - 4 * b) ∧
  deltaXorAndF (an - 4 * a) (bn - 4 * b) c (dn - 4 * d) qc = 0

/-- the model's five Boolean component checks are the five field equations (with
    `qa := an − 4a`, `qb := bn − 4b`, `qd := dn − 4d`) -/
theorem logicComps_zero_iff_row (qc a an b bn c d dn : Nat) :
    allZero (logicComps qc a an b bn c d dn) = true ↔
      logicRowF (toF qc) (toF a) (toF an) (toF b) (toF bn) (toF c) (toF d) (toF dn) := by
  unfold logicRowF
  rw [allZero_iff]
  · simp only [logicComps, List.mem_cons, List.mem_nil_iff, or_false, forall_eq_or_imp, forall_eq,
      toF_delta, toF_fsub, toF_fmul, toF_four, toF_deltaXorAnd, sub_eq_zero]
  · intro x hx
    simp only [logicComps, List.mem_cons, List.mem_nil_iff, or_false] at hx
    rcases hx with h | h | h | h | h
    · rw [h]; exact delta_lt _
    · rw [h]; exact delta_lt _
    · rw [h]; exact delta_lt _
    · rw [h]; exact fsub_lt _ _
    · rw [h]; exact deltaXorAnd_lt ..

/-- a row carrying only the logic selector (`q_logic ≠ 0`, no public input) holds iff the five
    widget equations hold; the counterpart of `rowHolds_range` -/
theorem rowHolds_logic (g : Gate) (hq : (g.qlogic == 0) = false) (ha : g.qarith = 0)
    (hr : g.qrange = 0) (hf : g.qfixed = 0) (hv : g.qvar = 0) (a b c d an bn dn : Nat) :
    rowHolds g a b c d an bn dn 0 = true ↔
      logicRowF (toF g.qc) (toF a) (toF an) (toF b) (toF bn) (toF c) (toF d) (toF dn) := by
  have h0 : arithVal g a b c d 0 = 0 := by
    rw [arithVal_eq_zero]; unfold arithF; simp [ha]
  rw [← logicComps_zero_iff_row]
  unfold rowHolds
  simp [hr, hf, hv, h0, hq]

theorem natCast_eq_toF (n : Nat) : ((n : Nat) : F) = toF n := rfl

theorem deltaF_eq_zero_iff (x : F) : deltaF x = 0 ↔ ∃ q : Nat, q < 4 ∧ x = toF q := by
  constructor
  · intro h
    unfold deltaF at h
    rcases mul_eq_zero.mp h with h | h
    · rcases mul_eq_zero.mp h with h | h
      · rcases mul_eq_zero.mp h with h | h
        · exact ⟨0, by norm_num, by simpa using h⟩
        · exact ⟨1, by norm_num, by simpa using sub_eq_zero.mp h⟩
      · exact ⟨2, by norm_num, by simpa using sub_eq_zero.mp h⟩
    · exact ⟨3, by norm_num, by simpa using sub_eq_zero.mp h⟩
  · rintro ⟨q, hq, rfl⟩
    unfold deltaF
    interval_cases q <;> simp

theorem four_lt_R : 4 < R := by decide +kernel

theorem quad_unique {q q' : Nat} (hq : q < 4) (hq' : q' < 4) (h : toF q = toF q') : q = q' :=
  (toF_inj_of_lt (by have := four_lt_R; omega) (by have := four_lt_R; omega)).mp h

/-- the widget polynomial over ℤ -/
def dxaZ (a b w c qc : ℤ) : ℤ :=
  let f := w * (w * (4 * w - 18 * (a + b) + 81) + 18 * (a * a + b * b) - 81 * (a + b) + 83)
  let e := 3 * (a + b + c) - 2 * f
  let bb := qc * (9 * c - 3 * (a + b))
  bb + e

theorem deltaXorAndF_cast (a b w c qc : ℤ) :
    deltaXorAndF (a : F) (b : F) (w : F) (c : F) (qc : F) = ((dxaZ a b w c qc : ℤ) : F) := by
  unfold deltaXorAndF dxaZ; push_cast; ring

/-- the XOR/AND selector value: `q_c = −1` for XOR, `+1` for AND -/
def logicQc (isXor : Bool) : F := if isXor then -1 else 1

/-- the bitwise operation on naturals -/
def logicOp (isXor : Bool) (x y : Nat) : Nat := if isXor then x ^^^ y else x &&& y

theorem toF_logic_qc : toF (Constraint.logic {}).qc = logicQc false := by
  simp [Constraint.logic, Constraint.fromExternal, logicQc]

theorem toF_logicXor_qc : toF (Constraint.logicXor {}).qc = logicQc true := by
  simp [Constraint.logicXor, Constraint.fromExternal, logicQc, toF_R_sub_one]

/-- the table over ℤ, with a size bound: the identity cannot vanish modulo `R` without vanishing
    in ℤ -/
theorem dxaZ_table : ∀ s : Bool, ∀ a < 4, ∀ b < 4, ∀ c < 4,
    (dxaZ (a : ℕ) (b : ℕ) ((a : ℤ) * (b : ℤ)) (c : ℕ) (if s then -1 else 1) = 0 ↔
      c = logicOp s a b) ∧
    (dxaZ (a : ℕ) (b : ℕ) ((a : ℤ) * (b : ℤ)) (c : ℕ) (if s then -1 else 1)).natAbs < 100000 := by
  decide

theorem R_gt_table_bound : 100000 ≤ R := by decide +kernel

theorem intCast_eq_zero_iff_of_natAbs_lt (z : ℤ) (hz : z.natAbs < R) : ((z : ℤ) : F) = 0 ↔ z = 0 := by
  rw [ZMod.intCast_zmod_eq_zero_iff_dvd]
  refine ⟨fun hdvd => ?_, fun h0 => by rw [h0]; exact dvd_zero _⟩
  by_contra hne
  have h2 : R ∣ z.natAbs := Int.natCast_dvd_natCast.mp (Int.dvd_natAbs.mpr hdvd)
  have := Nat.le_of_dvd (Int.natAbs_pos.mpr hne) h2
  omega

/-- transfer of a table row from ℤ to `F` -/
theorem quad_table (isXor : Bool) (qa qb qd : Nat) (ha : qa < 4) (hb : qb < 4) (hd : qd < 4) :
    deltaXorAndF (toF qa) (toF qb) (toF qa * toF qb) (toF qd) (logicQc isXor) = 0 ↔
      qd = logicOp isXor qa qb := by
  obtain ⟨htab, hbound⟩ := dxaZ_table isXor qa ha qb hb qd hd
  have h := deltaXorAndF_cast (qa : ℕ) (qb : ℕ) ((qa : ℤ) * (qb : ℤ)) (qd : ℕ) (if isXor then -1 else 1)
  have hq : (((if isXor then -1 else 1 : ℤ)) : F) = logicQc isXor := by
    unfold logicQc; cases isXor <;> simp
  rw [hq] at h
  push_cast at h
  have h' : deltaXorAndF (toF qa) (toF qb) (toF qa * toF qb) (toF qd) (logicQc isXor)
      = ((dxaZ (qa : ℕ) (qb : ℕ) ((qa : ℤ) * (qb : ℤ)) (qd : ℕ) (if isXor then -1 else 1) : ℤ) : F) := h
  rw [h', ← htab]
  exact intCast_eq_zero_iff_of_natAbs_lt _ (lt_of_lt_of_le hbound R_gt_table_bound)

/-- AND row of the table (`q_c = 1`) -/
theorem quad_table_and (qa qb qd : Nat) (ha : qa < 4) (hb : qb < 4) (hd : qd < 4) :
    deltaXorAndF (toF qa) (toF qb) (toF qa * toF qb) (toF qd) 1 = 0 ↔ qd = qa &&& qb :=
  quad_table false qa qb qd ha hb hd

/-- XOR row of the table (`q_c = −1`) -/
theorem quad_table_xor (qa qb qd : Nat) (ha : qa < 4) (hb : qb < 4) (hd : qd < 4) :
    deltaXorAndF (toF qa) (toF qb) (toF qa * toF qb) (toF qd) (-1) = 0 ↔ qd = qa ^^^ qb :=
  quad_table true qa qb qd ha hb hd

/-- one logic row in terms of quads: the row equations say exactly that the three increments
    are quads, the product wire is their product, and the output quad is `op` of the inputs. -/
theorem logicRowF_iff (isXor : Bool) (a an b bn c d dn : F) :
    logicRowF (logicQc isXor) a an b bn c d dn ↔
      ∃ qa qb : Nat, qa < 4 ∧ qb < 4 ∧ an = 4 * a + toF qa ∧ bn = 4 * b + toF qb ∧
        dn = 4 * d + toF (logicOp isXor qa qb) ∧ c = toF qa * toF qb := by
  constructor
  · rintro ⟨h1, h2, h3, h4, h5⟩
    obtain ⟨qa, hqa, ea⟩ := (deltaF_eq_zero_iff _).mp h1
    obtain ⟨qb, hqb, eb⟩ := (deltaF_eq_zero_iff _).mp h2
    obtain ⟨qd, hqd, ed⟩ := (deltaF_eq_zero_iff _).mp h3
    rw [ea, eb] at h4
    rw [ea, eb, ed, h4] at h5
    have := (quad_table isXor qa qb qd hqa hqb hqd).mp h5
    subst this
    exact ⟨qa, qb, hqa, hqb, by rw [← ea]; ring, by rw [← eb]; ring, by rw [← ed]; ring, h4⟩
  · rintro ⟨qa, qb, hqa, hqb, ea, eb, ed, ec⟩
    have hop : logicOp isXor qa qb < 4 := by
      unfold logicOp; split
      · exact Nat.xor_lt_two_pow (n := 2) hqa hqb
      · exact Nat.and_lt_two_pow (n := 2) _ hqb
    have e1 : an - 4 * a = toF qa := by rw [ea]; ring
    have e2 : bn - 4 * b = toF qb := by rw [eb]; ring
    have e3 : dn - 4 * d = toF (logicOp isXor qa qb) := by rw [ed]; ring
    refine ⟨?_, ?_, ?_, ?_, ?_⟩
    · rw [e1]; exact (deltaF_eq_zero_iff _).mpr ⟨qa, hqa, rfl⟩
    · rw [e2]; exact (deltaF_eq_zero_iff _).mpr ⟨qb, hqb, rfl⟩
    · rw [e3]; exact (deltaF_eq_zero_iff _).mpr ⟨_, hop, rfl⟩
    · rw [e1, e2]; exact ec
    · rw [e1, e2, e3, ec]; exact (quad_table isXor qa qb _ hqa hqb hop).mpr rfl

theorem logicOp_lt (isXor : Bool) {x y n : Nat} (hx : x < 4 ^ n) (hy : y < 4 ^ n) :
    logicOp isXor x y < 4 ^ n := by
  rw [four_pow_eq] at *
  unfold logicOp; split
  · exact Nat.xor_lt_two_pow hx hy
  · exact Nat.and_lt_two_pow _ hy

theorem logicOp_div (isXor : Bool) (x y m : Nat) :
    logicOp isXor x y / 4 ^ m = logicOp isXor (x / 4 ^ m) (y / 4 ^ m) := by
  rw [four_pow_eq]; unfold logicOp; split
  · exact Nat.xor_div_two_pow
  · exact Nat.and_div_two_pow

theorem logicOp_mod (isXor : Bool) (x y m : Nat) :
    logicOp isXor x y % 4 ^ m = logicOp isXor (x % 4 ^ m) (y % 4 ^ m) := by
  rw [four_pow_eq]; unfold logicOp; split
  · exact Nat.xor_mod_two_pow
  · exact Nat.and_mod_two_pow

/-- `op` acts on the last base-4 digit and on the rest separately -/
theorem logicOp_quad (isXor : Bool) (a b q r : Nat) (hq : q < 4) (hr : r < 4) :
    logicOp isXor (4 * a + q) (4 * b + r) = 4 * logicOp isXor a b + logicOp isXor q r := by
  have hd := logicOp_div isXor (4 * a + q) (4 * b + r) 1
  have hm := logicOp_mod isXor (4 * a + q) (4 * b + r) 1
  rw [pow_one, Nat.mul_add_div (by norm_num), Nat.mul_add_div (by norm_num),
    Nat.div_eq_of_lt hq, Nat.div_eq_of_lt hr, Nat.add_zero, Nat.add_zero] at hd
  rw [pow_one, Nat.mul_add_mod, Nat.mul_add_mod, Nat.mod_eq_of_lt hq, Nat.mod_eq_of_lt hr] at hm
  rw [← hd, ← hm]
  exact (Nat.div_add_mod _ 4).symm

/-- Three accumulator chains from `0` and a product-wire
    sequence satisfying the `n` row equations: the final accumulators are naturals `< 4^n`,
    the output is the bitwise `op` of the inputs, and every product wire is the product of the
    two input quads of its row. -/
theorem logic_chain_sound (isXor : Bool) (A B D W : Nat → F) (n : Nat)
    (hA : A 0 = 0) (hB : B 0 = 0) (hD : D 0 = 0)
    (hrow : ∀ i < n, logicRowF (logicQc isXor) (A i) (A (i + 1)) (B i) (B (i + 1)) (W i)
      (D i) (D (i + 1))) :
    (∃ a b : Nat, a < 4 ^ n ∧ b < 4 ^ n ∧ A n = toF a ∧ B n = toF b ∧
        D n = toF (logicOp isXor a b)) ∧
    (∀ i < n, W i = (A (i + 1) - 4 * A i) * (B (i + 1) - 4 * B i)) := by
  refine ⟨?_, fun i hi => (hrow i hi).2.2.2.1⟩
  induction n with
  | zero => exact ⟨0, 0, by norm_num, by norm_num, by simpa using hA, by simpa using hB,
      by simpa [logicOp] using hD⟩
  | succ k ih =>
    obtain ⟨a, b, ha, hb, eA, eB, eD⟩ := ih (fun i hi => hrow i (by omega))
    obtain ⟨qa, qb, hqa, hqb, ea, eb, ed, -⟩ := (logicRowF_iff isXor ..).mp (hrow k (by omega))
    refine ⟨4 * a + qa, 4 * b + qb, by rw [pow_succ]; omega, by rw [pow_succ]; omega, ?_, ?_, ?_⟩
    · rw [ea, eA]; unfold toF; push_cast; ring
    · rw [eb, eB]; unfold toF; push_cast; ring
    · rw [ed, eD, logicOp_quad isXor a b qa qb hqa hqb]; unfold toF; push_cast; ring

theorem four_pow_127_lt_R : 4 ^ 127 < R := by decide +kernel

theorem four_pow_lt_R {n : Nat} (hn : n ≤ 127) : 4 ^ n < R :=
  lt_of_le_of_lt (Nat.pow_le_pow_right (by norm_num) hn) four_pow_127_lt_R

/-- value form when `4^n < R` (so for `n ≤ 127` pairs): the canonical values are related by `op`. -/
theorem logic_chain_sound_val (isXor : Bool) (A B D W : Nat → F) (n : Nat) (hR : 4 ^ n < R)
    (hA : A 0 = 0) (hB : B 0 = 0) (hD : D 0 = 0)
    (hrow : ∀ i < n, logicRowF (logicQc isXor) (A i) (A (i + 1)) (B i) (B (i + 1)) (W i)
      (D i) (D (i + 1))) :
    (A n).val < 4 ^ n ∧ (B n).val < 4 ^ n ∧ (D n).val = logicOp isXor (A n).val (B n).val := by
  obtain ⟨⟨a, b, ha, hb, eA, eB, eD⟩, -⟩ := logic_chain_sound isXor A B D W n hA hB hD hrow
  have hab := logicOp_lt isXor ha hb
  rw [eA, eB, eD, val_toF_of_lt (by omega), val_toF_of_lt (by omega), val_toF_of_lt (by omega)]
  exact ⟨ha, hb, rfl⟩

/-- honest accumulator: the top `i` quads of `v % 4^n` -/
def topQuads (v n i : Nat) : Nat := (v / 4 ^ (n - i)) % 4 ^ i

theorem topQuads_zero (v n : Nat) : topQuads v n 0 = 0 := by
  unfold topQuads; simp [Nat.mod_one]

theorem topQuads_self (v n : Nat) : topQuads v n n = v % 4 ^ n := by
  unfold topQuads; simp

theorem topQuads_lt (v n i : Nat) : topQuads v n i < 4 ^ i := Nat.mod_lt _ (by positivity)

theorem quadFromTop_lt (v n i : Nat) : Composer.quadFromTop v n i < 4 :=
  Nat.mod_lt _ (by norm_num)

/-- the accumulator recurrence of `append_logic_component`'s loop -/
theorem topQuads_succ (v n i : Nat) (hi : i < n) :
    topQuads v n (i + 1) = 4 * topQuads v n i + Composer.quadFromTop v n i := by
  unfold topQuads Composer.quadFromTop
  have e1 : n - i = (n - 1 - i) + 1 := by omega
  have e2 : n - (i + 1) = n - 1 - i := by omega
  rw [e1, e2, pow_succ (4) (n - 1 - i), ← Nat.div_div_eq_div_mul]
  generalize v / 4 ^ (n - 1 - i) = x
  rw [pow_succ' 4 i, Nat.mod_mul]
  omega

/-- the same recurrence through the model's field operations (nothing wraps when
    `4^(i+1) < R`) -/
theorem topQuads_succ_model (v n i : Nat) (hi : i < n) (hR : 4 ^ (i + 1) < R) :
    fadd (fmul (topQuads v n i) 4) (Composer.quadFromTop v n i) = topQuads v n (i + 1) := by
  have h := topQuads_succ v n i hi
  have hlt := topQuads_lt v n (i + 1)
  unfold fadd fmul
  have : topQuads v n i * 4 < R := by omega
  rw [Nat.mod_eq_of_lt this, Nat.mod_eq_of_lt (by omega)]; omega

theorem quadFromTop_logicOp (isXor : Bool) (u v n i : Nat) :
    Composer.quadFromTop (logicOp isXor u v) n i =
      logicOp isXor (Composer.quadFromTop u n i) (Composer.quadFromTop v n i) := by
  unfold Composer.quadFromTop
  rw [logicOp_div]
  have := logicOp_mod isXor (u / 4 ^ (n - 1 - i)) (v / 4 ^ (n - 1 - i)) 1
  simpa using this

/-- The honest accumulators (top quads of `u`, `v` and of
    `op u v`, product wire `lq·rq`) satisfy all `n` row equations, start at `0` and end at
    `u % 4^n`, `v % 4^n`, `op (u % 4^n) (v % 4^n)`. -/
theorem logic_chain_complete (isXor : Bool) (u v n : Nat) :
    let A := fun i => toF (topQuads u n i)
    let B := fun i => toF (topQuads v n i)
    let D := fun i => toF (topQuads (logicOp isXor u v) n i)
    let W := fun i => toF (Composer.quadFromTop u n i * Composer.quadFromTop v n i)
    A 0 = 0 ∧ B 0 = 0 ∧ D 0 = 0 ∧
    A n = toF (u % 4 ^ n) ∧ B n = toF (v % 4 ^ n) ∧
    D n = toF (logicOp isXor (u % 4 ^ n) (v % 4 ^ n)) ∧
    ∀ i < n, logicRowF (logicQc isXor) (A i) (A (i + 1)) (B i) (B (i + 1)) (W i) (D i) (D (i + 1)) := by
  intro A B D W
  refine ⟨by simp [A, topQuads_zero], by simp [B, topQuads_zero], by simp [D, topQuads_zero],
    by simp [A, topQuads_self], by simp [B, topQuads_self],
    by simp only [D, topQuads_self, logicOp_mod], ?_⟩
  intro i hi
  rw [logicRowF_iff]
  refine ⟨Composer.quadFromTop u n i, Composer.quadFromTop v n i, quadFromTop_lt .., quadFromTop_lt ..,
    ?_, ?_, ?_, ?_⟩
  · simp only [A]; rw [topQuads_succ u n i hi]; unfold toF; push_cast; ring
  · simp only [B]; rw [topQuads_succ v n i hi]; unfold toF; push_cast; ring
  · simp only [D]; rw [topQuads_succ _ n i hi, quadFromTop_logicOp]; unfold toF; push_cast; ring
  · simp only [W]; unfold toF; push_cast; ring

end Plonk
