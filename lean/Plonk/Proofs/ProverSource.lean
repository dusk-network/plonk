/-
  Tie by TRANSLATION, part 2: the PROVER-SIDE GLUE. `Plonk/GeneratedProver.lean` is regenerated from
  `src/proof_system/quotient_poly.rs`, `src/proof_system/linearization_poly.rs`, `src/composer/permutation.rs`, the
  permutation widget's `compute_linearization` and `src/compiler/prover.rs::prove_inner` by `tools/rs2lean_prover.py`.
  The theorems below and in `Props/ProverTie.lean` state that each translated definition IS the corresponding function of
  the model (`Model/Prover.lean`): `quotientEvals` (array level, incl. the wrap-around entries, `i + 8`, `i & 7`, the L1
  vector and the `len > 7·(size/8)` rule), `permVec` (array level, incl. the `Option` of the non-zero assertion), round 4
  (`evalsModel`) and round 5 (`linPolyModel`) of `prove`; here are the accumulator and what the statements about the
  quotient and rounds 4 and 5 need.

  Instantiation conventions: a Rust vector of scalars is `List F`; the model's `Array Nat` `X` is passed as `arrF X`;
  `Polynomial` is `Poly` (= `List Nat`) where the source only hands it to a kernel, and `F[X]` (`toPoly p`, scalars as
  `C (toF x)`) where the source does ring arithmetic with it. Untranslated kernels are parameters of the generated
  definitions; they are either instantiated with the model's kernels (`Domain.cosetFft`, ...) or — where they take a
  polynomial-ring argument — quantified, with one hypothesis per call saying that the kernel returns the model's value ON
  THE ARGUMENTS THE SOURCE PASSES (so a changed argument breaks the proof).

  Proof-engineering note: never let the KERNEL compare `x % R`-terms with open `x` up to unfolding (it unfolds `Nat.mod`
  and runs for minutes); every step below leaves syntactically aligned goals.
-/
import Plonk.GeneratedProver
import Plonk.Proofs.WidgetSource
import Plonk.Proofs.QuotientModel
import Plonk.Proofs.QuotientCoset

namespace Plonk.ProverSource
open Plonk Plonk.GeneratedWidgets Plonk.GeneratedProver Plonk.WidgetSource Plonk.Quot Polynomial

/-! ## list helpers -/

/-- `getD` commutes with `map` when the map sends the default to the default -/
theorem getD_map_of {α β : Type} {f : α → β} {d : α} {d' : β} (h : f d = d') (l : List α) (i : Nat) :
    (l.map f).getD i d' = f (l.getD i d) := by
  simp only [List.getD_eq_getElem?_getD, List.getElem?_map]
  cases l[i]? <;> simp [h]

theorem getD_map_toF (l : List Nat) (i : Nat) : (l.map toF).getD i 0 = toF (l.getD i 0) :=
  getD_map_of toF_zero l i

theorem getD_map_rangeF (f : Nat → F) (n i : Nat) (h : i < n) : ((List.range n).map f).getD i 0 = f i := by
  simp [List.getD_eq_getElem?_getD, h]

theorem arr_getD (l : List Nat) (i : Nat) : l.toArray.getD i 0 = l.getD i 0 := by
  simp only [Array.getD_eq_getD_getElem?, List.getElem?_toArray, ← List.getD_eq_getElem?_getD]

theorem toList_getD (a : Array Nat) (i : Nat) : a.toList.getD i 0 = a.getD i 0 := by
  simp only [Array.getD_eq_getD_getElem?, List.getD_eq_getElem?_getD, Array.getElem?_toList]

/-- the wrap-around loop `for i in 0..k { v.push(v[i]) }` -/
theorem push_loop (v : List F) (k : Nat) (hk : k ≤ v.length) :
    (List.range k).foldl (fun (w : List F) i => w ++ [w.getD i 0]) v = v ++ v.take k := by
  induction k with
  | zero => simp
  | succ k ih =>
    rw [List.range_succ, List.foldl_append, ih (by omega)]
    simp only [List.foldl_cons, List.foldl_nil]
    have h1 : (v ++ v.take k).getD k 0 = v.getD k 0 := by
      simp only [List.getD_eq_getElem?_getD, List.getElem?_append, show k < v.length by omega, if_true]
    rw [h1, List.append_assoc]
    congr 1
    rw [List.take_add_one]
    simp [List.getD_eq_getElem?_getD, show k < v.length by omega]

theorem foldl_prod4 {α : Type} (f1 f2 f3 f4 : List F → α → List F) (l : List α) :
    ∀ (a b c d : List F),
    l.foldl (fun (st : List F × List F × List F × List F) i => (f1 st.1 i, f2 st.2.1 i, f3 st.2.2.1 i, f4 st.2.2.2 i))
      (a, b, c, d) = (l.foldl f1 a, l.foldl f2 b, l.foldl f3 c, l.foldl f4 d) := by
  induction l with
  | nil => intros; rfl
  | cons x l ih => intro a b c d; simp only [List.foldl_cons]; exact ih _ _ _ _

theorem and7 (i : Nat) : i &&& 7 = i % 8 := Nat.and_two_pow_sub_one_eq_mod i 3

theorem wrap_loop4 (z a b d : List F) (hz : 8 ≤ z.length) (ha : 8 ≤ a.length) (hb : 8 ≤ b.length) (hd : 8 ≤ d.length) :
    List.foldl (fun (st : List F × List F × List F × List F) (i : Nat) =>
        (st.1 ++ [st.1.getD i 0], st.2.1 ++ [st.2.1.getD i 0], st.2.2.1 ++ [st.2.2.1.getD i 0],
         st.2.2.2 ++ [st.2.2.2.getD i 0])) (z, a, b, d) (List.range 8)
      = (z ++ z.take 8, a ++ a.take 8, b ++ b.take 8, d ++ d.take 8) := by
  rw [foldl_prod4 (fun w i => w ++ [w.getD i 0]) (fun w i => w ++ [w.getD i 0]) (fun w i => w ++ [w.getD i 0])
    (fun w i => w ++ [w.getD i 0]), push_loop z 8 hz, push_loop a 8 ha, push_loop b 8 hb, push_loop d 8 hd]

theorem getD_map0 (f : F → F) (hf : f 0 = 0) (l : List F) (i : Nat) : (l.map f).getD i 0 = f (l.getD i 0) :=
  getD_map_of hf l i

theorem getD_zipWith0 (f : F → F → F) (hl : ∀ y, f 0 y = 0) (hr : ∀ x, f x 0 = 0) (l₁ l₂ : List F) (i : Nat) :
    (List.zipWith f l₁ l₂).getD i 0 = f (l₁.getD i 0) (l₂.getD i 0) := by
  simp only [List.getD_eq_getElem?_getD, List.getElem?_zipWith]
  cases l₁[i]? <;> cases l₂[i]? <;> simp [hl, hr]

/-- the field elements stored in an array of model values -/
def arrF (a : Array Nat) : List F := a.toList.map toF

theorem arrF_getD (a : Array Nat) (i : Nat) : (arrF a).getD i 0 = toF (a.getD i 0) := by
  rw [arrF, getD_map_toF, toList_getD]

/-- a vector with its first eight entries appended: the shape of the model's `cosetEvals` -/
def wrap8 (e : List Nat) : Array Nat := (e ++ e.take 8).toArray

theorem wrapF_getD (e : List Nat) (i : Nat) :
    (e.map toF ++ (e.map toF).take 8).getD i 0 = toF ((wrap8 e).getD i 0) := by
  rw [wrap8, arr_getD, ← List.map_take, ← List.map_append, getD_map_toF]

theorem wrap8_getD_lt (e : List Nat) (i : Nat) (h : i < e.length) : (wrap8 e).getD i 0 = e.getD i 0 := by
  rw [wrap8, arr_getD, getD_append', if_pos h]

/-! ## `quotient_poly.rs` -/

theorem l1den_list (linE : Array Nat) :
    List.map ((fun x_inv : F => x_inv⁻¹) ∘ fun evaluation => evaluation - 1) (arrF linE)
      = (batchInversion (List.map (fun e => fsub e 1) linE.toList)).map toF := by
  unfold batchInversion arrF
  rw [List.map_map, List.map_map, List.map_map]
  apply List.map_congr_left
  intro x _
  simp only [Function.comp, toF_batchInv_elem, toF_fsub, toF_one]

theorem first_lagrange_getD (linE vh : Array Nat) (c : F) (i : Nat) :
    (List.zipWith (fun (denominator_inv vanishing : F) => denominator_inv * (vanishing * c))
        (List.map ((fun x_inv : F => x_inv⁻¹) ∘ fun evaluation => evaluation - 1) (arrF linE)) (arrF vh)).getD i 0
      = toF ((batchInversion (List.map (fun e => fsub e 1) linE.toList)).getD i 0) * (toF (vh.getD i 0) * c) := by
  rw [getD_zipWith0 _ (by intro y; ring1) (by intro x; ring1), l1den_list, getD_map_toF, arrF_getD]

theorem map_val_map_toF (l : List Nat) : (l.map toF).map ZMod.val = l.map (· % R) := by
  rw [List.map_map]
  apply List.map_congr_left
  intro x _
  simp only [Function.comp, toF, ZMod.val_natCast]

theorem ofCoeffs_map_mod (l : List Nat) : Poly.ofCoeffs (l.map (· % R)) = Poly.ofCoeffs l := by
  unfold Poly.ofCoeffs
  rw [List.map_map]
  congr 1
  apply List.map_congr_left
  intro x _
  simp only [Function.comp, Nat.mod_mod]

theorem cosetIfft_map_mod (d : Domain) (v : List Nat) : d.cosetIfft (v.map (· % R)) = d.cosetIfft v := by
  unfold Domain.cosetIfft Domain.ifft
  rw [List.map_map]
  have h : ((fun x : Nat => x % R) ∘ fun x => x % R) = fun x => x % R := by
    funext x
    simp only [Function.comp, Nat.mod_mod]
  rw [h]

/-! ## `composer/permutation.rs` -/

theorem getD_map_nil (l : List (List Nat)) (j : Nat) :
    (l.map (List.map toF)).getD j [] = (l.getD j []).map toF :=
  getD_map_of (f := List.map toF) (d := []) rfl l j

theorem permutation_numerators_source (roots aS bS cS dS : List Nat) (beta gamma : Nat) :
    permutation_numerators (A := F) (roots := roots.map toF)
      (wires := [aS.map toF, bS.map toF, cS.map toF, dS.map toF]) (beta := toF beta) (gamma := toF gamma)
      (K1 := toF Generated.K1) (K2 := toF Generated.K2) (K3 := toF Generated.K3)
    = (permNums roots.length roots aS bS cS dS beta gamma).map toF := by
  simp only [permutation_numerators, permNums, List.length_map, List.map_map]
  apply List.map_congr_left
  intro i _
  simp only [Function.comp, List.getD_cons_zero, List.getD_cons_succ, getD_map_toF, toF_fmul, toF_fadd]

theorem permutation_denominators_source (aS bS cS dS : List Nat) (sigE : List (List Nat)) (beta gamma : Nat) :
    permutation_denominators (A := F) (wires := [aS.map toF, bS.map toF, cS.map toF, dS.map toF])
      (sigma_evaluations := sigE.map (List.map toF)) (beta := toF beta) (gamma := toF gamma)
    = (permDens aS.length aS bS cS dS sigE beta gamma).map toF := by
  simp only [permutation_denominators, permDens, List.getD_cons_zero, List.length_map, List.map_map]
  apply List.map_congr_left
  intro i _
  simp only [Function.comp, List.getD_cons_zero, List.getD_cons_succ, getD_map_toF, getD_map_nil, toF_fmul, toF_fadd]

theorem getD_map_inv_toF (l : List Nat) (i : Nat) :
    (List.map ((fun x_inv : F => x_inv⁻¹) ∘ toF) l).getD i 0 = (toF (l.getD i 0))⁻¹ :=
  getD_map_of (by rw [Function.comp_apply, toF_zero, inv_zero]) l i

/-- iterates of a step function over the field -/
def iterF (g : Nat → F → F) (s : F) : Nat → F
  | 0 => s
  | i + 1 => g i (iterF g s i)

theorem foldl_iterF (g : Nat → F → F) (l0 : List F) (s : F) (m : Nat) :
    (List.range m).foldl (fun (st : List F × F) i => (st.1 ++ [st.2], g i st.2)) (l0, s) =
      (l0 ++ (List.range m).map (iterF g s), iterF g s m) := by
  induction m with
  | zero => simp [iterF]
  | succ m ih =>
    rw [List.range_succ, List.foldl_append, ih]
    simp [iterF]

theorem iterF_eq_toF_iterFrom {gF : Nat → F → F} {gN : Nat → Nat → Nat} {s : F} {s' : Nat} (hs : s = toF s')
    (h : ∀ i x, gF i (toF x) = toF (gN i x)) : ∀ i, iterF gF s i = toF (iterFrom gN s' i)
  | 0 => hs
  | i + 1 => by rw [iterF, iterFrom, iterF_eq_toF_iterFrom hs h i, h]

theorem all_ne_zero_eq (l : List Nat) (hl : ∀ x ∈ l, x < R) :
    (List.all (l.map toF) (fun (v : F) => decide (v ≠ 0))) = !(l.any (· == 0)) := by
  induction l with
  | nil => rfl
  | cons x l ih =>
    have hx : x < R := hl x (by simp)
    rw [List.map_cons, List.all_cons, List.any_cons, ih (fun y hy => hl y (by simp [hy])), Bool.not_or]
    congr 1
    by_cases h : toF x = 0
    · have : (x == 0) = true := (beq_zero_iff hx).mpr h
      simp [h, this]
    · have : (x == 0) = false := by
        rw [Bool.eq_false_iff]; intro hc; exact h ((beq_zero_iff hx).mp hc)
      simp [h, this]

/-- **The permutation accumulator** (`compute_permutation_vec` with `permutation_numerators` / `permutation_denominators`):
    the translated function — `none` where the Rust code's `assert!` panics — is the model's `permVec`: per-row numerator
    `∏ (wire_j + β·K_j·root_i + γ)` and denominator `∏ (wire_j + β·σ_j(i) + γ)`, batch inversion, initial `1`, entry `i` is
    the product of the rows before `i`, the last ratio is not multiplied in. -/
theorem compute_permutation_vec_source {Dom : Type} (sz : Dom → Nat) (els : Dom → List Nat) (dom : Dom)
    (aS bS cS dS : List Nat) (sigE : List (List Nat)) (beta gamma : Nat)
    (hr : (els dom).length = sz dom) (ha : aS.length = sz dom) :
    compute_permutation_vec (A := F) (dom_size := sz) (dom_elements := fun d => (els d).map toF) (domain := dom)
      (wires := [aS.map toF, bS.map toF, cS.map toF, dS.map toF]) (beta := toF beta) (gamma := toF gamma)
      (sigma_evaluations := sigE.map (List.map toF))
      (K1 := toF Generated.K1) (K2 := toF Generated.K2) (K3 := toF Generated.K3)
    = (permVec (sz dom) (els dom) aS bS cS dS sigE beta gamma).map (List.map toF) := by
  simp only [compute_permutation_vec]
  rw [permutation_numerators_source, permutation_denominators_source, permVec_eq, hr, ha,
    all_ne_zero_eq _ (fun x hx => by
      obtain ⟨j, _, rfl⟩ := List.mem_map.mp hx
      exact fmul_lt _ _)]
  generalize permNums (sz dom) (els dom) aS bS cS dS beta gamma = N
  generalize permDens (sz dom) aS bS cS dS sigE beta gamma = D
  cases hany : D.any (· == 0)
  · simp only [Bool.not_false, not_true_eq_false, if_false, Bool.false_eq_true, Option.map_some]
    congr 1
    rw [foldl_iterF (fun i x => if i + 1 < sz dom then
        x * ((N.map toF).getD i 0 * ((D.map toF).map fun x_inv : F => x_inv⁻¹).getD i 0) else x),
      foldl_iter (fun i cur => if i + 1 < sz dom then
        fmul cur (fmul (N.getD i 0) ((batchInversion D).getD i 0)) else cur)]
    simp only [List.nil_append, List.reverse_reverse, List.map_map]
    apply List.map_congr_left
    intro i _
    -- the iteration over `F` is `toF` of the iteration over `Nat`
    exact iterF_eq_toF_iterFrom (by rw [toF_mod, toF_one]) (fun j x => by
      split
      · simp only [toF_fmul, getD_map_toF, getD_map_inv_toF, toF_batchInversion_getD]
      · rfl) i
  · simp only [Bool.not_true, Bool.false_eq_true, not_false_eq_true, if_true, Option.map_none]

/-! ## `linearization_poly.rs`, rounds 4 and 5 of `prove_inner` -/

/-! ### the widget linearisation terms over `F[X]` (scalars embedded by `C`) -/

theorem range_linearization_poly (sep : Nat) (e : Evals) (q : F[X]) :
    range_linearization (A := F[X]) (evaluations_a_eval := C (toF e.a)) (evaluations_b_eval := C (toF e.b))
      (evaluations_c_eval := C (toF e.c)) (evaluations_d_eval := C (toF e.d)) (evaluations_d_w_eval := C (toF e.dw))
      (range_separation_challenge := C (toF sep)) (self_q_range_0 := q)
    = q * C (toF (rangeScalar sep e)) := by
  have h := range_linearization_source sep e 1
  rw [one_mul] at h
  rw [← h]
  simp only [range_linearization, range_delta, one_mul, C_mul, C_add, C_sub, C_1, C_ofNat]

theorem logic_linearization_poly (sep : Nat) (e : Evals) (q : F[X]) :
    logic_linearization (A := F[X]) (evaluations_a_eval := C (toF e.a)) (evaluations_a_w_eval := C (toF e.aw))
      (evaluations_b_eval := C (toF e.b)) (evaluations_b_w_eval := C (toF e.bw)) (evaluations_c_eval := C (toF e.c))
      (evaluations_d_eval := C (toF e.d)) (evaluations_d_w_eval := C (toF e.dw)) (evaluations_q_c_eval := C (toF e.qc))
      (logic_separation_challenge := C (toF sep)) (self_q_logic_0 := q)
    = q * C (toF (logicScalar sep e)) := by
  have h := logic_linearization_source sep e 1
  rw [one_mul] at h
  rw [← h]
  simp only [logic_linearization, logic_delta, logic_delta_xor_and, one_mul, C_mul, C_add, C_sub, C_1, C_ofNat]

theorem fixed_linearization_poly (sep : Nat) (e : Evals) (q : F[X]) :
    fixed_linearization (A := F[X]) (EDWARDS_D := C dF) (ecc_separation_challenge := C (toF sep))
      (evaluations_a_eval := C (toF e.a)) (evaluations_a_w_eval := C (toF e.aw)) (evaluations_b_eval := C (toF e.b))
      (evaluations_b_w_eval := C (toF e.bw)) (evaluations_c_eval := C (toF e.c)) (evaluations_d_eval := C (toF e.d))
      (evaluations_d_w_eval := C (toF e.dw)) (evaluations_q_c_eval := C (toF e.qc)) (evaluations_q_l_eval := C (toF e.ql))
      (evaluations_q_r_eval := C (toF e.qr)) (self_q_fixed_group_add_0 := q)
    = q * C (toF (fixedScalar sep e)) := by
  have h := fixed_linearization_source sep e 1
  rw [one_mul] at h
  rw [← h]
  simp only [fixed_linearization, fixed_extract_bit, fixed_check_bit_consistency, one_mul, C_mul, C_add, C_sub, C_1]

theorem var_linearization_poly (sep : Nat) (e : Evals) (q : F[X]) :
    var_linearization (A := F[X]) (EDWARDS_D := C dF) (curve_add_separation_challenge := C (toF sep))
      (evaluations_a_eval := C (toF e.a)) (evaluations_a_w_eval := C (toF e.aw)) (evaluations_b_eval := C (toF e.b))
      (evaluations_b_w_eval := C (toF e.bw)) (evaluations_c_eval := C (toF e.c)) (evaluations_d_eval := C (toF e.d))
      (evaluations_d_w_eval := C (toF e.dw)) (self_q_variable_group_add_0 := q)
    = q * C (toF (varScalar sep e)) := by
  have h := var_linearization_source sep e 1
  rw [one_mul] at h
  rw [← h]
  simp only [var_linearization, one_mul, C_mul, C_add, C_sub]

/-! ### round 5 of the model's `prove` -/

/-- the linearisation polynomial of the model's `prove`. The lines between the COPY markers are the text of round 5 of
    `prove` in `Model/Prover.lean` (`n` is `d.size` there); Lean does not check the copy — `tools/rs2lean_prover.py` does,
    on every regeneration (it aborts if the marked lines are not a contiguous block of `Model/Prover.lean`) -/
def linPolyModel (k : PKey) (d : Domain) (ev : Evals) (zP tLowP tMidP tHighP tFourthP : Poly) (pis : List Nat)
    (beta gamma alpha rSep lSep fSep vSep zc : Nat) : Poly :=
    let n := d.size
    -- BEGIN COPY Model/Prover.lean
    let padd := Poly.add
    let sp (j : Nat) := k.sel.getD j []
    let arithL := Poly.scale (padd (padd (padd (padd (padd (Poly.scale (sp 0) (fmul ev.a ev.b)) (Poly.scale (sp 1) ev.a))
                    (Poly.scale (sp 2) ev.b)) (Poly.scale (sp 3) ev.c)) (Poly.scale (sp 4) ev.d)) (sp 5)) ev.qarith
    let lin0 := padd arithL (Poly.scale (sp 7) (rangeScalar rSep ev))
    let lin1 := Poly.addAssign lin0 (Poly.scale (sp 8) (logicScalar lSep ev))
    let lin2 := Poly.addAssign lin1 (Poly.scale (sp 9) (fixedScalar fSep ev))
    let lin3 := Poly.addAssign lin2 (Poly.scale (sp 10) (varScalar vSep ev))
    let piEvalSparse := d.barycentric pis zc      -- the prover passes the *sparse* list here (see DESIGN §9.2)
    let f1 := Poly.addConst lin3 piEvalSparse
    let bz := fmul beta zc
    let idL := Poly.scale zP (fmul (fmul (fmul (fmul (fadd (fadd ev.a bz) gamma) (fadd (fadd ev.b (fmul Generated.K1 bz)) gamma))
                  (fadd (fadd ev.c (fmul Generated.K2 bz)) gamma)) (fadd (fadd ev.d (fmul Generated.K3 bz)) gamma)) alpha)
    let cpL := Poly.scale (k.sigma.getD 3 []) (fneg (fmul (fmul (fmul (fmul (fadd (fadd ev.a (fmul beta ev.s1)) gamma)
                  (fadd (fadd ev.b (fmul beta ev.s2)) gamma)) (fadd (fadd ev.c (fmul beta ev.s3)) gamma)) (fmul beta ev.z)) alpha))
    let l1Dom := (Domain.new? (Poly.degree zP - 2)).getD d
    let l1z := (l1Dom.lagrangeCoeffs zc).headD 0
    let oneL := Poly.scale zP (fmul l1z (fsq alpha))
    let f2 := padd (padd idL cpL) oneL
    let zn := fpow zc n; let z2n := fpow zc (2 * n); let z3n := fpow zc (3 * n)
    let quotL := padd (padd (padd tLowP (Poly.scale tMidP zn)) (Poly.scale tHighP z2n)) (Poly.scale tFourthP z3n)
    let zhNeg := fneg (d.evaluateVanishing zc)
    -- END COPY
    padd (padd f1 f2) (Poly.scale quotL zhNeg)   -- `let rP := padd (padd f1 f2) (Poly.scale quotL zhNeg)` in `prove`

/-- the source multiplies a polynomial by a scalar from the right -/
theorem toPoly_scale_right (p : Poly) (s : Nat) : toPoly (Poly.scale p s) = toPoly p * C (toF s) := by
  rw [toPoly_scale, mul_comm]

/-! ### round 4: the opening evaluations -/

/-- the evaluations of the model's `prove` (the lines between the COPY markers are the text of round 4 of `prove` in
    `Model/Prover.lean`, checked like those of `linPolyModel`) -/
def evalsModel (k : PKey) (d : Domain) (aP bP cP dP zP : Poly) (zc : Nat) : Evals :=
    -- BEGIN COPY Model/Prover.lean
    let zw := fmul zc d.groupGen
    let ev : Evals := {
      a := Poly.evaluate aP zc, b := Poly.evaluate bP zc, c := Poly.evaluate cP zc, d := Poly.evaluate dP zc,
      aw := Poly.evaluate aP zw, bw := Poly.evaluate bP zw, dw := Poly.evaluate dP zw,
      qarith := Poly.evaluate (k.sel.getD 6 []) zc, qc := Poly.evaluate (k.sel.getD 5 []) zc,
      ql := Poly.evaluate (k.sel.getD 1 []) zc, qr := Poly.evaluate (k.sel.getD 2 []) zc,
      s1 := Poly.evaluate (k.sigma.getD 0 []) zc, s2 := Poly.evaluate (k.sigma.getD 1 []) zc,
      s3 := Poly.evaluate (k.sigma.getD 2 []) zc, z := Poly.evaluate zP zw }
    -- END COPY
    ev

end Plonk.ProverSource
