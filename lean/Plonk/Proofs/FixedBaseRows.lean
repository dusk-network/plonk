/-
  The fixed-base scalar-multiplication widget (`fixedComps`, selector `q_fixed_group_add`) in the
  field: with `bit := d' − 2·d` the four components vanish iff `bit ∈ {−1, 0, 1}`,
  `xy_α = bit·q_c`, and `(a', b')` satisfies the cleared-denominator addition of `(a, b)` with
  `(x_α, y_α) = (bit·q_l, bit²·(q_r − 1) + 1)`; when `(q_l, q_r)` is a curve point `β` with
  `q_c = q_l·q_r` and `(a, b)` is on the curve: iff `bit ∈ {−1,0,1}`, `c = bit·q_l·q_r` and
  `(a', b') = (a, b) + bit•β` with `bit•β ∈ {−β, O, β}`.
  No use of `JubjubGroupFacts`.
-/
import Plonk.Proofs.EdwardsGroup
import Plonk.Proofs.RowBridge

namespace Plonk

/-- the point selected by a signed digit: `(bit·x_β, bit²·(y_β − 1) + 1)` -/
def selF (bit : F) (β : PtF) : PtF := (bit * β.1, bit^2 * (β.2 - 1) + 1)

@[simp] theorem selF_zero (β : PtF) : selF 0 β = idF := by unfold selF idF; simp
@[simp] theorem selF_one (β : PtF) : selF 1 β = β := by unfold selF; simp
@[simp] theorem selF_neg_one (β : PtF) : selF (-1) β = negF β := by unfold selF negF; simp

/-- the three digit values are pairwise distinct in `F` (characteristic `≠ 2`) -/
theorem digits_distinct : (0 : F) ≠ 1 ∧ (0 : F) ≠ -1 ∧ (1 : F) ≠ -1 :=
  ⟨zero_ne_one, fun h => one_ne_zero (neg_eq_zero.mp h.symm), fun h => neg_one_ne_one_F h.symm⟩

theorem selF_on_curve {bit : F} (hb : bit = 0 ∨ bit = 1 ∨ bit = -1) {β : PtF}
    (hβ : OnCurveP β) : OnCurveP (selF bit β) := by
  rcases hb with h | h | h <;> subst h
  · rw [selF_zero]; exact id_on_curveP
  · rw [selF_one]; exact hβ
  · rw [selF_neg_one]; exact neg_on_curveP hβ

/-- field-level content of the fixed-base row: selectors `ql = x_β`, `qr = y_β`, `qc = x_β·y_β`;
    wires `a = acc_x`, `b = acc_y`, `c = xy_α`; next row `an, bn`; `bit = d' − 2d` -/
def FixedRowF (ql qr qc a b c an bn bit : F) : Prop :=
  bit * (bit - 1) * (bit + 1) = 0 ∧
  c = bit * qc ∧
  an * (1 + c * a * b * dF) = a * (bit^2 * (qr - 1) + 1) + b * (bit * ql) ∧
  bn * (1 - c * a * b * dF) = b * (bit^2 * (qr - 1) + 1) + a * (bit * ql)

theorem fixedComps_lt (ql qr qc a an b bn c d dn : Nat) :
    ∀ x ∈ fixedComps ql qr qc a an b bn c d dn, x < R := by
  intro x hx
  simp only [fixedComps, List.mem_cons, List.mem_nil_iff, or_false] at hx
  rcases hx with h | h | h | h
  · rw [h]; exact fmul_lt _ _
  · rw [h]; exact fsub_lt _ _
  · rw [h]; exact fsub_lt _ _
  · rw [h]; exact fsub_lt _ _

/-- `fixedComps` in the field, `bit := dn − 2·d` -/
theorem fixedComps_zero_iff (ql qr qc a an b bn c d dn : Nat) :
    allZero (fixedComps ql qr qc a an b bn c d dn) = true ↔
      FixedRowF (toF ql) (toF qr) (toF qc) (toF a) (toF b) (toF c) (toF an) (toF bn)
        (toF dn - 2 * toF d) := by
  rw [allZero_iff _ (fixedComps_lt ql qr qc a an b bn c d dn)]
  simp only [fixedComps, List.mem_cons, List.mem_nil_iff, or_false, forall_eq_or_imp, forall_eq,
    toF_fsub, toF_fadd, toF_fmul, toF_fsq, toF_one, toF_EDWARDS_D]
  unfold FixedRowF
  have hb : toF dn - toF d - toF d = toF dn - 2 * toF d := by ring
  rw [hb]
  generalize toF dn - 2 * toF d = bit
  rw [sub_eq_zero, sub_eq_zero, sub_eq_zero, ← mul_one_add, ← mul_one_sub, ← sq,
    @eq_comm _ (bit * toF qc)]

/-- With `β = (ql, qr)` on the curve, `qc = ql·qr`, and the accumulator `(a, b)` on the curve, the
    row has exactly one solution per digit: `c = bit·ql·qr` and `(an, bn) = (a, b) + bit•β`. -/
theorem fixedRowF_iff_of_on_curve {ql qr qc a b : F} (hβ : OnCurveF ql qr) (hqc : qc = ql * qr)
    (hacc : OnCurveF a b) (c an bn bit : F) :
    FixedRowF ql qr qc a b c an bn bit ↔
      (bit = 0 ∨ bit = 1 ∨ bit = -1) ∧ c = bit * ql * qr ∧
      (an, bn) = addF (a, b) (selF bit (ql, qr)) := by
  subst hqc
  unfold FixedRowF
  rw [← bitCons_iff, ← mul_assoc]
  refine and_congr_right fun h0 => and_congr_right fun hc => ?_
  have hsel : OnCurveP (selF bit (ql, qr)) := selF_on_curve ((bitCons_iff bit).mp h0) hβ
  obtain ⟨hA, hB⟩ := add_completeP (p := (a, b)) hacc hsel
  -- `c` is the product of the selected point's coordinates (`bit³ = bit`), so the two
  -- denominators are those of the addition law
  have e : c * a * b * dF = dF * a * (bit * ql) * b * (bit^2 * (qr - 1) + 1) := by
    rw [hc]; linear_combination (dF * a * b * (ql - ql * qr)) * h0
  simp only [selF] at hA hB
  simp only [addF, selF, Prod.mk.injEq, eq_div_iff hA, eq_div_iff hB, e]

/-- the same, spelled out per digit: `O`, `β`, `−β = (−ql, qr)` -/
theorem fixedRowF_cases_of_on_curve {ql qr qc a b : F} (hβ : OnCurveF ql qr)
    (hqc : qc = ql * qr) (hacc : OnCurveF a b) (c an bn bit : F) :
    FixedRowF ql qr qc a b c an bn bit ↔
      (bit = 0 ∧ c = 0 ∧ (an, bn) = (a, b)) ∨
      (bit = 1 ∧ c = ql * qr ∧ (an, bn) = addF (a, b) (ql, qr)) ∨
      (bit = -1 ∧ c = -(ql * qr) ∧ (an, bn) = addF (a, b) (-ql, qr)) := by
  rw [fixedRowF_iff_of_on_curve hβ hqc hacc]
  have hid : addF (a, b) idF = (a, b) := addF_id (a, b)
  constructor
  · rintro ⟨hb, hc, hs⟩
    rcases hb with h | h | h <;> subst h
    · left; rw [selF_zero, hid] at hs; exact ⟨rfl, by rw [hc]; ring, hs⟩
    · right; left; rw [selF_one] at hs; exact ⟨rfl, by rw [hc]; ring, hs⟩
    · right; right; rw [selF_neg_one] at hs; exact ⟨rfl, by rw [hc]; ring, hs⟩
  · rintro (⟨hb, hc, hs⟩ | ⟨hb, hc, hs⟩ | ⟨hb, hc, hs⟩) <;> subst hb
    · exact ⟨Or.inl rfl, by rw [hc]; ring, by rw [selF_zero, hid]; exact hs⟩
    · exact ⟨Or.inr (Or.inl rfl), by rw [hc]; ring, by rw [selF_one]; exact hs⟩
    · exact ⟨Or.inr (Or.inr rfl), by rw [hc]; ring, by rw [selF_neg_one]; exact hs⟩

/-- closure through a fixed-base row: the next accumulator is on the curve -/
theorem fixedRowF_on_curve {ql qr qc a b : F} (hβ : OnCurveF ql qr) (hqc : qc = ql * qr)
    (hacc : OnCurveF a b) {c an bn bit : F} (hr : FixedRowF ql qr qc a b c an bn bit) :
    OnCurveF an bn := by
  obtain ⟨hb, -, hs⟩ := (fixedRowF_iff_of_on_curve hβ hqc hacc c an bn bit).mp hr
  have hc := add_on_curveP (p := (a, b)) hacc (selF_on_curve hb (β := (ql, qr)) hβ)
  rwa [← hs] at hc

/-- model-level corollary: selectors as laid down by `appendFixedBaseSignedDigits`
    (`ql = m.1, qr = m.2, qc = fmul m.1 m.2` for a curve point `m`) -/
theorem fixedComps_zero_iff_on_curve (ql qr a an b bn c d dn : Nat)
    (hβ : onCurve (ql, qr) = true) (hacc : onCurve (a, b) = true) :
    allZero (fixedComps ql qr (fmul ql qr) a an b bn c d dn) = true ↔
      (toF dn - 2 * toF d = 0 ∨ toF dn - 2 * toF d = 1 ∨ toF dn - 2 * toF d = -1) ∧
      toF c = (toF dn - 2 * toF d) * toF ql * toF qr ∧
      (toF an, toF bn) = addF (toF a, toF b) (selF (toF dn - 2 * toF d) (toF ql, toF qr)) := by
  rw [fixedComps_zero_iff]
  rw [onCurve_iff] at hβ hacc
  exact fixedRowF_iff_of_on_curve hβ (toF_fmul ql qr) hacc _ _ _ _

theorem fixedComps_on_curve (ql qr a an b bn c d dn : Nat)
    (hβ : onCurve (ql, qr) = true) (hacc : onCurve (a, b) = true)
    (hr : allZero (fixedComps ql qr (fmul ql qr) a an b bn c d dn) = true) :
    onCurve (an, bn) = true := by
  rw [fixedComps_zero_iff] at hr
  rw [onCurve_iff] at hβ hacc ⊢
  exact fixedRowF_on_curve hβ (toF_fmul ql qr) hacc hr

/-! ### Signed digits as integers -/

/-- the selected point of an integer digit `e ∈ {−1,0,1}` is the signed multiple `e•β` -/
theorem selF_intCast {e : ℤ} (he : e = -1 ∨ e = 0 ∨ e = 1) (β : PtF) :
    selF (e : F) β = zsmulF e β := by
  rcases he with h | h | h <;> subst h <;> simp

/-- a field digit `bit ∈ {0,1,−1}` comes from exactly one integer digit -/
theorem exists_unique_digit {bit : F} (hb : bit = 0 ∨ bit = 1 ∨ bit = -1) :
    ∃! e : ℤ, (e = 0 ∨ e = 1 ∨ e = -1) ∧ (e : F) = bit := by
  obtain ⟨h01, h0m, h1m⟩ := digits_distinct
  have c0 : ((0 : ℤ) : F) = 0 := Int.cast_zero
  have c1 : ((1 : ℤ) : F) = 1 := Int.cast_one
  have cm : ((-1 : ℤ) : F) = -1 := by rw [Int.cast_neg, Int.cast_one]
  rcases hb with rfl | rfl | rfl
  · refine ⟨0, ⟨.inl rfl, c0⟩, ?_⟩
    rintro e ⟨rfl | rfl | rfl, hv⟩
    · rfl
    · exact absurd (c1.symm.trans hv).symm h01
    · exact absurd (cm.symm.trans hv).symm h0m
  · refine ⟨1, ⟨.inr (.inl rfl), c1⟩, ?_⟩
    rintro e ⟨rfl | rfl | rfl, hv⟩
    · exact absurd (c0.symm.trans hv) h01
    · rfl
    · exact absurd (cm.symm.trans hv).symm h1m
  · refine ⟨-1, ⟨.inr (.inr rfl), cm⟩, ?_⟩
    rintro e ⟨rfl | rfl | rfl, hv⟩
    · exact absurd (c0.symm.trans hv) h0m
    · exact absurd (c1.symm.trans hv) h1m
    · rfl

/-! ### The host-side table of doublings `[2^i]G` (`Composer.doublings`) -/

open Composer in
theorem doublings_length (n : Nat) (p : Pt) : (doublings n p).length = n := by
  induction n generalizing p with
  | zero => rfl
  | succ n ih => simp [doublings, ih]

open Composer in
/-- every table entry is on the curve -/
theorem doublings_on_curve (n : Nat) (p : Pt) (hp : onCurve p = true) :
    ∀ m ∈ doublings n p, onCurve m = true := by
  induction n generalizing p with
  | zero => intro m hm; simp [doublings] at hm
  | succ n ih =>
    intro m hm
    simp only [doublings, List.mem_cons] at hm
    rcases hm with rfl | hm
    · exact hp
    · exact ih _ (edAddOrId_on_curve p p hp hp) m hm

open Composer in
/-- entry `i` of the table is `[2^i]G` (by `smulF_mul`) -/
theorem doublings_getElem? (n : Nat) (p : Pt) (hp : onCurve p = true)
    (i : Nat) (m : Pt) (h : (doublings n p)[i]? = some m) :
    toFP m = smulF (2 ^ i) (toFP p) := by
  induction n generalizing p i with
  | zero => simp [doublings] at h
  | succ n ih =>
    cases i with
    | zero =>
      simp only [doublings, List.getElem?_cons_zero, Option.some.injEq] at h
      subst h; simp
    | succ i =>
      simp only [doublings, List.getElem?_cons_succ] at h
      have hP : OnCurveP (toFP p) := (onCurve_iff_P p).mp hp
      rw [ih _ (edAddOrId_on_curve p p hp hp) i h, toFP_edAddOrId p p hp hp, ← smulF_two,
        ← smulF_mul _ _ hP, pow_succ]

/-! ### Row level: a pure fixed-base gate (`Constraint.groupAddFixedBase`) -/

/-- A gate with `q_fixed_group_add = 1` and no other selector family active (`qarith = 0`, no
    public input): the row check is exactly the four fixed-base components, with the gate's
    `ql, qr, qc` as `x_β, y_β, x_β·y_β`. -/
theorem rowHolds_fixed (g : Gate) (hf : g.qfixed = 1) (ha : g.qarith = 0) (hr : g.qrange = 0)
    (hl : g.qlogic = 0) (hv : g.qvar = 0) (a b c d an bn dn : Nat) :
    rowHolds g a b c d an bn dn 0 = true ↔
      FixedRowF (toF g.ql) (toF g.qr) (toF g.qc) (toF a) (toF b) (toF c) (toF an) (toF bn)
        (toF dn - 2 * toF d) := by
  unfold rowHolds
  have h0 : arithVal g a b c d 0 = 0 := by
    rw [arithVal_eq_zero]; unfold arithF; simp [ha]
  simp [hv, hr, hl, hf, h0, fixedComps_zero_iff]

/-- the gate produced by `Constraint.groupAddFixedBase` satisfies the selector hypotheses and
    keeps `ql, qr, qc` -/
theorem groupAddFixedBase_selectors (s : Constraint) :
    let g := (Constraint.groupAddFixedBase s).toGate
    g.qfixed = 1 ∧ g.qarith = 0 ∧ g.qrange = 0 ∧ g.qlogic = 0 ∧ g.qvar = 0 ∧
      g.ql = s.ql ∧ g.qr = s.qr ∧ g.qc = s.qc := by
  simp [Constraint.groupAddFixedBase, Constraint.fromExternal, Constraint.toGate]

/-! ### The host-side digit selection of `Composer.fixedAccs` -/

/-- the `(scalar addend, point addend)` chosen by `fixedAccs` for a digit `e` and table entry `m`
    (verbatim the `if` of the model) -/
def digitSel (e : ℤ) (m : Pt) : Nat × Pt :=
  if e == 0 then (0, Pt.id) else if e == 1 then (1 % R, m) else (R - 1, edNeg m)

theorem digitSel_spec {e : ℤ} (he : e = -1 ∨ e = 0 ∨ e = 1) (m : Pt) :
    toF (digitSel e m).1 = (e : F) ∧
    toFP (digitSel e m).2 = selF (e : F) (toFP m) ∧
    toF (fmul (digitSel e m).2.1 (digitSel e m).2.2) = (e : F) * toF m.1 * toF m.2 := by
  rcases he with h | h | h <;> subst h
  · have : ((-1 : ℤ) == 0) = false := by decide
    have h2 : ((-1 : ℤ) == 1) = false := by decide
    simp [digitSel, this, h2, toF_R_sub_one, toFP_edNeg]
    simp [edNeg]
  · exact ⟨by simp [digitSel], by simp [digitSel, toFP_id], by simp [digitSel, Pt.id]⟩
  · simp [digitSel, one_mod_R]

theorem digitSel_on_curve (e : ℤ) (m : Pt) (hm : onCurve m = true) :
    onCurve (digitSel e m).2 = true := by
  unfold digitSel
  split
  · exact id_on_curve_model
  · split
    · exact hm
    · exact edNeg_on_curve m hm

/-- completeness direction: the host's assignment for one round satisfies the fixed-base row -/
theorem fixedComps_honest {e : ℤ} (he : e = -1 ∨ e = 0 ∨ e = 1) (m : Pt)
    (hm : onCurve m = true) (a b d : Nat) (hacc : onCurve (a, b) = true) :
    allZero (fixedComps m.1 m.2 (fmul m.1 m.2)
      a (edAddOrId (a, b) (digitSel e m).2).1 b (edAddOrId (a, b) (digitSel e m).2).2
      (fmul (digitSel e m).2.1 (digitSel e m).2.2) d (fadd (fmul 2 d) (digitSel e m).1)) = true := by
  obtain ⟨h1, h2, h3⟩ := digitSel_spec he m
  have hsel := digitSel_on_curve e m hm
  have hbit : toF (fadd (fmul 2 d) (digitSel e m).1) - 2 * toF d = (e : F) := by
    rw [toF_fadd, toF_fmul, toF_two, h1]; ring
  rw [fixedComps_zero_iff_on_curve m.1 m.2 _ _ _ _ _ _ _ hm hacc, hbit, h3]
  refine ⟨?_, rfl, ?_⟩
  · rcases he with rfl | rfl | rfl
    · exact .inr (.inr (by rw [Int.cast_neg, Int.cast_one]))
    · exact .inl Int.cast_zero
    · exact .inr (.inl Int.cast_one)
  · have := toFP_edAddOrId (a, b) (digitSel e m).2 hacc hsel
    rw [h2] at this
    exact this

open Composer in
/-- `fixedAccs` unfolds through `digitSel` (ties `digitSel` to the model's own code) -/
theorem fixedAccs_cons (e : ℤ) (m : Pt) (rest : List (Int × Pt)) (sa : Nat) (pa : Pt) :
    fixedAccs ((e, m) :: rest) sa pa =
      ((sa, pa, fmul (digitSel e m).2.1 (digitSel e m).2.2) ::
          (fixedAccs rest (fadd (fmul 2 sa) (digitSel e m).1) (edAddOrId pa (digitSel e m).2)).1,
        (fixedAccs rest (fadd (fmul 2 sa) (digitSel e m).1) (edAddOrId pa (digitSel e m).2)).2) := by
  rfl

end Plonk
