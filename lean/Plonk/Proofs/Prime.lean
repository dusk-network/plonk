/-
  The three moduli are prime: `R` (BLS12-381 scalar field), `RJ` (JubJub prime subgroup order) and `P`
  (BLS12-381 base field).  One list of Pocklington certificates, closed under the prime factors it uses
  down to `2`, checked by one kernel evaluation (`pockCheck`).
-/
import Mathlib.NumberTheory.LucasPrimality
import Mathlib.Tactic.NormNum.Prime
import Plonk.Model.Bls

namespace Plonk

theorem powModF_spec (fuel b e m acc : Nat) (h : e < 2^fuel) :
    powModF fuel b e m acc % m = acc * b^e % m := by
  induction fuel generalizing b e acc with
  | zero =>
    have : e = 0 := by simpa using h
    subst this; simp [powModF]
  | succ n ih =>
    unfold powModF
    split
    · next he => subst he; simp
    · next he =>
      have h2 : e / 2 < 2^n := by
        rw [Nat.div_lt_iff_lt_mul (by norm_num)]; rw [pow_succ] at h; exact h
      rw [ih _ _ _ h2]
      have hb : (b*b % m)^(e/2) % m = (b*b)^(e/2) % m := by
        rw [Nat.pow_mod (b*b % m), Nat.mod_mod, ← Nat.pow_mod]
      split
      · next hodd =>
        have : e = 2*(e/2) + 1 := by omega
        conv_rhs => rw [this, pow_succ, pow_mul]
        rw [Nat.mul_mod, hb, ← Nat.mul_mod, Nat.mul_mod (acc*b % m), Nat.mod_mod, ← Nat.mul_mod]
        rw [sq]; ring_nf
      · next heven =>
        have : e = 2*(e/2) := by omega
        conv_rhs => rw [this, pow_mul]
        rw [Nat.mul_mod, hb, ← Nat.mul_mod, sq]

theorem powModF_lt (fuel b e m acc : Nat) (hm : 0 < m) (hacc : acc < m) :
    powModF fuel b e m acc < m := by
  induction fuel generalizing b e acc with
  | zero => simpa [powModF] using hacc
  | succ n ih =>
    unfold powModF
    split
    · exact hacc
    · apply ih
      split
      · exact Nat.mod_lt _ hm
      · exact hacc

theorem one_mod_R : 1 % R = 1 := by decide +kernel

theorem exists_factor_of_dvd_prod (q : ℕ) (hq : q.Prime) :
    ∀ (fs : List (ℕ × ℕ)), (∀ f ∈ fs, f.1.Prime) →
      q ∣ (fs.map (fun f => f.1 ^ f.2)).prod → ∃ f ∈ fs, f.1 = q
  | [], _, h => by
    simp only [List.map_nil, List.prod_nil, Nat.dvd_one] at h
    exact absurd h hq.one_lt.ne'
  | f :: fs, hfs, h => by
    simp only [List.map_cons, List.prod_cons] at h
    rcases (Nat.Prime.dvd_mul hq).mp h with h | h
    · exact ⟨f, List.mem_cons_self, ((Nat.prime_dvd_prime_iff_eq hq
        (hfs f List.mem_cons_self)).mp (hq.dvd_of_dvd_pow h)).symm⟩
    · obtain ⟨g, hg, e⟩ := exists_factor_of_dvd_prod q hq fs
        (fun g hg => hfs g (List.mem_cons_of_mem _ hg)) h
      exact ⟨g, List.mem_cons_of_mem _ hg, e⟩

theorem natCast_mod_of_dvd {r p : ℕ} (h : r ∣ p) (n : ℕ) : ((n % p : ℕ) : ZMod r) = (n : ZMod r) := by
  rw [ZMod.natCast_eq_natCast_iff', Nat.mod_mod_of_dvd n h]

/-- Pocklington's criterion.  `F = ∏ qᵉ` over `fs` divides `p - 1` and `p < (F + 1)²`; `a ^ (p - 1) ≡ 1`
    and `gcd (a ^ ((p - 1) / q) - 1, p) = 1` for every `q` in `fs`.  Then every prime divisor `r` of `p`
    is `≡ 1 (mod F)`: `a ^ ((p - 1) / F)` has order exactly `F` modulo `r`.  So `r > F ≥ √p`. -/
theorem pocklington (p a fuel : ℕ) (fs : List (ℕ × ℕ)) (hp : 1 < p) (hfuel : p - 1 < 2 ^ fuel)
    (hfs : ∀ f ∈ fs, f.1.Prime)
    (hF : (fs.map fun f => f.1 ^ f.2).prod ∣ p - 1)
    (hbig : p < ((fs.map fun f => f.1 ^ f.2).prod + 1) ^ 2)
    (h1 : powModF fuel a (p - 1) p 1 % p = 1)
    (hq : ∀ f ∈ fs, Nat.gcd ((powModF fuel a ((p - 1) / f.1) p 1 % p + (p - 1)) % p) p = 1) : p.Prime := by
  generalize hFdef : (fs.map fun f => f.1 ^ f.2).prod = F at hF hbig
  by_contra hnp
  have hr : p.minFac.Prime := Nat.minFac_prime (by omega)
  have hrp : p.minFac ∣ p := Nat.minFac_dvd p
  have hsq : p.minFac ^ 2 ≤ p := Nat.minFac_sq_le_self (by omega) hnp
  generalize p.minFac = r at hr hrp hsq
  have : Fact r.Prime := ⟨hr⟩
  have hp0 : ((p : ℕ) : ZMod r) = 0 := (ZMod.natCast_eq_zero_iff p r).mpr hrp
  have hx1 : (a : ZMod r) ^ (p - 1) = 1 := by
    rw [powModF_spec _ _ _ _ _ hfuel, one_mul] at h1
    have := natCast_mod_of_dvd hrp (a ^ (p - 1))
    rw [h1] at this
    simpa using this.symm
  obtain ⟨U, hU⟩ := hF
  have hF0 : 0 < F := Nat.pos_of_ne_zero (fun h => by rw [h, Nat.zero_mul] at hU; omega)
  have hb : ((a : ZMod r) ^ U) ^ F = 1 := by rw [← pow_mul, Nat.mul_comm, ← hU]; exact hx1
  have hord : orderOf ((a : ZMod r) ^ U) = F := by
    apply orderOf_eq_of_pow_and_pow_div_prime hF0 hb
    intro q hqp hqF
    rw [← hFdef] at hqF
    obtain ⟨f, hf, rfl⟩ := exists_factor_of_dvd_prod q hqp fs hfs hqF
    rw [hFdef] at hqF
    intro hc
    have hk : (a : ZMod r) ^ ((p - 1) / f.1) = 1 := by
      have : (p - 1) / f.1 = U * (F / f.1) := by rw [hU, Nat.mul_comm F U, Nat.mul_div_assoc _ hqF]
      rw [this, pow_mul]; exact hc
    have hlt : (p - 1) / f.1 < 2 ^ fuel := lt_of_le_of_lt (Nat.div_le_self _ _) hfuel
    have hg := hq f hf
    rw [powModF_spec _ _ _ _ _ hlt, one_mul] at hg
    have hdvd : r ∣ (a ^ ((p - 1) / f.1) % p + (p - 1)) % p := by
      rw [← ZMod.natCast_eq_zero_iff, natCast_mod_of_dvd hrp, Nat.cast_add, natCast_mod_of_dvd hrp,
        Nat.cast_pow, hk, Nat.cast_sub hp.le, hp0]
      simp
    have : r ∣ 1 := hg ▸ Nat.dvd_gcd hdvd hrp
    exact hr.one_lt.ne' (Nat.dvd_one.mp this)
  have hb0 : (a : ZMod r) ^ U ≠ 0 := by
    intro h0; rw [h0, zero_pow hF0.ne'] at hb; exact zero_ne_one hb
  have hFr : F ∣ r - 1 := by
    have hu : orderOf (Units.mk0 _ hb0) = F := by rw [← orderOf_units, Units.val_mk0]; exact hord
    rw [← hu, ← Nat.totient_prime hr, ← ZMod.card_units_eq_totient]
    exact orderOf_dvd_card
  have hle : F ≤ r - 1 := Nat.le_of_dvd (by have := hr.two_le; omega) hFr
  have : (F + 1) ^ 2 ≤ r ^ 2 := Nat.pow_le_pow_left (by have := hr.two_le; omega) 2
  omega

/-- one certificate `(p, a, fs)` against the primes established so far: `F = ∏ qᵉ` over `fs` divides
    `p - 1`, every `q` is known, `p < (F + 1)²`, and `a` passes Pocklington's two tests (`p < 2^384`) -/
def pockStep (known : List ℕ) (c : ℕ × ℕ × List (ℕ × ℕ)) : Bool :=
  decide (1 < c.1) && decide (c.1 - 1 < 2 ^ 384) && c.2.2.all (fun f => known.contains f.1) &&
  (c.1 - 1) % (c.2.2.map fun f => f.1 ^ f.2).prod == 0 &&
  decide (c.1 < ((c.2.2.map fun f => f.1 ^ f.2).prod + 1) ^ 2) &&
  powModF 384 c.2.1 (c.1 - 1) c.1 1 % c.1 == 1 &&
  c.2.2.all fun f => Nat.gcd ((powModF 384 c.2.1 ((c.1 - 1) / f.1) c.1 1 % c.1 + (c.1 - 1)) % c.1) c.1 == 1

/-- a list of certificates, each resting on `known` and on the entries before it -/
def pockCheck : List ℕ → List (ℕ × ℕ × List (ℕ × ℕ)) → Bool
  | _, [] => true
  | known, c :: cs => pockStep known c && pockCheck (c.1 :: known) cs

theorem pockCheck_sound : ∀ (known : List ℕ) (cs : List (ℕ × ℕ × List (ℕ × ℕ))), (∀ q ∈ known, q.Prime) →
    pockCheck known cs = true → ∀ p ∈ cs.map (·.1), p.Prime
  | _, [], _, _, p, hp => by simp at hp
  | known, c :: cs, hk, h, p, hp => by
    rw [pockCheck, Bool.and_eq_true] at h
    have hc : c.1.Prime := by
      have hs := h.1
      simp only [pockStep, Bool.and_eq_true, decide_eq_true_eq, List.all_eq_true, List.contains_eq_mem, beq_iff_eq] at hs
      obtain ⟨⟨⟨⟨⟨⟨hp, hfuel⟩, hfs⟩, hF⟩, hbig⟩, h1⟩, hq⟩ := hs
      exact pocklington c.1 c.2.1 384 c.2.2 hp hfuel (fun f hf => hk _ (hfs f hf)) (Nat.dvd_of_mod_eq_zero hF) hbig h1 hq
    rw [List.map_cons, List.mem_cons] at hp
    rcases hp with rfl | hp
    · exact hc
    · refine pockCheck_sound (c.1 :: known) cs (fun q hq => ?_) h.2 p hp
      rcases List.mem_cons.mp hq with rfl | hq
      · exact hc
      · exact hk q hq

/-- certificates for `RJ`, `P`, `R` and every prime they rest on -/
def primeCerts : List (ℕ × ℕ × List (ℕ × ℕ)) :=
  [(5, 2, [(2, 2)]),
   (11, 2, [(5, 1)]),
   (89, 2, [(11, 1)]),
   (179, 2, [(89, 1)]),
   (23629, 2, [(179, 1)]),
   (567097, 2, [(23629, 1)]),
   (3, 2, [(2, 1)]),
   (19, 2, [(3, 2)]),
   (62701, 2, [(5, 2), (19, 1)]),
   (16356472538621, 2, [(62701, 1), (567097, 1)]),
   (623312455501769069, 2, [(16356472538621, 1)]),
   (255074062430788457494141376149, 2, [(623312455501769069, 1)]),
   (13, 2, [(2, 2)]),
   (157, 2, [(13, 1)]),
   (1571, 2, [(157, 1)]),
   (7, 2, [(3, 1)]),
   (43, 2, [(7, 1)]),
   (2837227, 2, [(43, 1), (1571, 1)]),
   (187256983, 2, [(2837227, 1)]),
   (2567293236931, 2, [(187256983, 1)]),
   (431305263804409, 2, [(2567293236931, 1)]),
   (203928654140967434528233, 2, [(431305263804409, 1)]),
   (RJ, 2, [(203928654140967434528233, 1), (255074062430788457494141376149, 1)]),
   (17, 3, [(2, 4)]),
   (1327, 2, [(13, 1), (17, 1)]),
   (421987, 2, [(1327, 1)]),
   (13090036741, 2, [(421987, 1)]),
   (23, 2, [(11, 1)]),
   (1151, 2, [(5, 2), (23, 1)]),
   (755057, 2, [(1151, 1)]),
   (3819663927398918131021, 2, [(755057, 1), (13090036741, 1)]),
   (1125266252156850182658904441386709967, 2, [(3819663927398918131021, 1)]),
   (15778400344354997994418419698270088123916926905054652752758194827714659, 2, [(1125266252156850182658904441386709967, 1)]),
   (P, 2, [(15778400344354997994418419698270088123916926905054652752758194827714659, 1)]),
   (359, 2, [(179, 1)]),
   (110573, 2, [(359, 1)]),
   (2653753, 2, [(110573, 1)]),
   (63690073, 2, [(2653753, 1)]),
   (254760293, 2, [(63690073, 1)]),
   (73, 2, [(3, 2)]),
   (1607, 2, [(73, 1)]),
   (906349, 2, [(1607, 1)]),
   (R, 5, [(254760293, 2), (906349, 2), (2, 32)])]

theorem primeCerts_prime : ∀ p ∈ primeCerts.map (·.1), p.Prime :=
  pockCheck_sound [2] primeCerts (by simp [Nat.prime_two]) (by decide +kernel)

theorem R_prime : Nat.Prime R := primeCerts_prime R (by decide +kernel)

instance : Fact (Nat.Prime R) := ⟨R_prime⟩

end Plonk
