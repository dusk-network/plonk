/-
  G1 group law, part 5: the points that the verifier's grouped MSM (`verifyTerms`) multiplies are
  points of the verifier key, of the proof, or the generator `g` — so well-formed (decoded) keys and
  proofs give term lists of valid subgroup points, and the model verifier's executable check is an
  equation in `E(F_p)[r]`.
-/
import Plonk.Proofs.G1GroupBridge

set_option Elab.async false

namespace Plonk

attribute [local irreducible] Domain.lagrangeAndPi

theorem linearizationTerms_map_snd (k : VKey) (p : ProofM) (ch : Challenges) (zh l1 : Nat) :
    (linearizationTerms k p ch zh l1).map Prod.snd =
      [k.qm, k.ql, k.qr, k.qo, k.qf, k.qc, k.qrange, k.qlogic, k.qfixed, k.qvar, p.zC, k.s4,
       p.tLow, p.tMid, p.tHigh, p.tFourth] := rfl

def pickAt {α : Type} (l : List α) (is : List Nat) : List α := is.filterMap (l[·]?)

theorem pickAt_subset {α : Type} (l : List α) (is : List Nat) : pickAt l is ⊆ l := by
  intro x hx
  obtain ⟨i, -, hi⟩ := List.mem_filterMap.mp hx
  exact List.mem_of_getElem? hi

theorem verifyTermsCore_points (vkey : VKey) (g : G1) (d : Domain) (roots pis : List Nat)
    (p : ProofM) (ch : Challenges) (legacy : Bool) (l1 piEval : Nat) (right left : List (Nat × G1))
    (hc : verifyTermsCore vkey g d roots pis p ch legacy (some (l1, piEval)) = some (right, left)) :
    ∀ t, t ∈ right ∨ t ∈ left → t.2 ∈ vkey.points ++ p.points ++ [g] := by
  unfold verifyTermsCore at hc
  cases hc
  -- the points of the linearisation terms, of the opened commitments, and of the three last terms,
  -- by their positions in `vkey.points ++ p.points ++ [g]`
  have key : [vkey.qm, vkey.ql, vkey.qr, vkey.qo, vkey.qf, vkey.qc, vkey.qrange, vkey.qlogic, vkey.qfixed,
      vkey.qvar, p.zC, vkey.s4, p.tLow, p.tMid, p.tHigh, p.tFourth] ++
      ([p.aC, p.bC, p.cC, p.dC, vkey.s1, vkey.s2, vkey.s3, vkey.qarith, vkey.qc, vkey.ql, vkey.qr] ++ [g, p.wz, p.wzw]) ⊆
      vkey.points ++ p.points ++ [g] :=
    pickAt_subset (vkey.points ++ p.points ++ [g]) [0, 1, 2, 3, 4, 5, 8, 7, 9, 10, 19, 14, 20, 21, 22, 23,
      15, 16, 17, 18, 11, 12, 13, 6, 5, 1, 2, 26, 24, 25]
  intro t ht
  apply key
  rcases ht with ht | ht
  · rcases List.mem_append.mp ht with ht | ht
    · rcases List.mem_append.mp ht with ht | ht
      · exact List.mem_append_left _ (linearizationTerms_map_snd vkey p ch _ l1 ▸ List.mem_map_of_mem ht)
      · refine List.mem_append_right _ (List.mem_append_left _ ?_)
        have h2 := (List.of_mem_zip (a := t.1) (b := t.2) ht).2
        cases legacy
        · exact h2
        · exact List.mem_append_left [vkey.qarith, vkey.qc, vkey.ql, vkey.qr] h2
    · exact List.mem_append_right _ (List.mem_append_right _ (List.mem_map_of_mem (f := Prod.snd) ht))
  · exact List.mem_append_right _ (List.mem_append_right _
      (List.mem_cons_of_mem g (List.mem_map_of_mem (f := Prod.snd) ht)))

/-- every point of the verifier's term lists is a key point, a proof point or `g` -/
theorem verifyTerms_points (vkey : VKey) (g : G1) (d : Domain) (roots pis : List Nat)
    (p : ProofM) (ch : Challenges) (legacy : Bool) (right left : List (Nat × G1))
    (hc : verifyTerms vkey g d roots pis p ch legacy = some (right, left)) :
    ∀ t, t ∈ right ∨ t ∈ left → t.2 ∈ vkey.points ++ p.points ++ [g] := by
  rw [verifyTerms_eq_core] at hc
  generalize d.lagrangeAndPi roots pis ch.z = o at hc
  cases o with
  | none => exact absurd ((core_none_iff vkey g d roots pis p ch legacy none).1.mpr rfl) (by rw [hc]; simp)
  | some lp =>
    obtain ⟨l1, piEval⟩ := lp
    exact verifyTermsCore_points vkey g d roots pis p ch legacy l1 piEval right left hc

/-- well-formed key, proof and generator give term lists of valid subgroup points -/
theorem verifyTerms_wf (vkey : VKey) (g : G1) (d : Domain) (roots pis : List Nat)
    (p : ProofM) (ch : Challenges) (legacy : Bool) (right left : List (Nat × G1))
    (hc : verifyTerms vkey g d roots pis p ch legacy = some (right, left))
    (hk : vkey.WF) (hp : p.WF) (hg : g.Valid ∧ g.torsionFree = true) :
    ∀ t, t ∈ right ∨ t ∈ left → t.2.Valid ∧ t.2.torsionFree = true := by
  intro t ht
  have := verifyTerms_points vkey g d roots pis p ch legacy right left hc t ht
  simp only [List.mem_append, List.mem_cons, List.not_mem_nil, or_false] at this
  rcases this with (h | h) | h
  · exact hk.2 _ h
  · exact hp.1 _ h
  · rw [h]; exact hg

theorem verifyTerms_some_iff_ref (vkey : VKey) (g : G1) (d : Domain) (roots pis : List Nat) (p : ProofM)
    (ch : Challenges) (legacy : Bool) :
    (∃ rl, verifyTerms vkey g d roots pis p ch legacy = some rl) ↔
      ∃ ref, verifyRefTerms vkey g d roots pis p ch legacy = some ref := by
  obtain ⟨h1, h2⟩ := verifyTerms_none_iff vkey g d roots pis p ch legacy
  generalize verifyTerms vkey g d roots pis p ch legacy = a at h1
  generalize verifyRefTerms vkey g d roots pis p ch legacy = b at h2
  constructor
  · rintro ⟨rl, rfl⟩
    cases b with
    | none => exact absurd (h1.mpr (h2.mp rfl)) (by simp)
    | some ref => exact ⟨ref, rfl⟩
  · rintro ⟨ref, rfl⟩
    cases a with
    | none => exact absurd (h2.mpr (h1.mp rfl)) (by simp)
    | some rl => exact ⟨rl, rfl⟩

/-- **The model verifier accepts iff the textbook equation holds in `E(F_p)[r]`**
    (`x` = the trapdoor with which the model decides the pairing check; well-formed key, proof,
    generator — what the decoders guarantee). -/
theorem verify_ok_iff_group (v : VerifierM) {x : Nat} (hx : x < 2 ^ 256) (p : ProofM) (pis : List Nat)
    (ver : PVersion) (hk : v.vk.WF) (hp : p.WF) (hg : v.ok.g.Valid ∧ v.ok.g.torsionFree = true) :
    v.verify x p pis ver = .ok ↔
      pis.length = v.piIndexes.length ∧ ∃ d, Domain.new? v.vk.n = some d ∧ ∃ ref,
        verifyRefTerms v.vk v.ok.g d (v.piIndexes.map fun i => fpow d.groupGenInv (i % 2 ^ 64)) pis p
          (verifierChallenges v.label v.vk v.constraints (ver == .v3) pis p) (ver == .v1) = some ref ∧
        toF x • -(G1.ιR p.wz +
            toF (verifierChallenges v.label v.vk v.constraints (ver == .v3) pis p).u • G1.ιR p.wzw) +
          evalTerms G1.ιR ref = 0 := by
  rw [verify_ok_iff]
  constructor
  · rintro ⟨hlen, d, hd, right, left, hc, he⟩
    obtain ⟨ref, hr⟩ := (verifyTerms_some_iff_ref _ _ _ _ _ _ _ _).mp ⟨_, hc⟩
    have hw := verifyTerms_wf _ _ _ _ _ _ _ _ _ _ hc hk hp hg
    obtain ⟨e1, e2⟩ := verifyCode_eq_verifyRef G1.ιR _ _ _ _ _ _ _ _ _ _ _ hc hr
    refine ⟨hlen, d, hd, ref, hr, ?_⟩
    rw [← e1, ← e2]
    exact (G1.add_smul_msum_eq_inf_iff hx (fun t h => (hw t (Or.inr h)).1) (fun t h => (hw t (Or.inr h)).2)
      (fun t h => (hw t (Or.inl h)).1) (fun t h => (hw t (Or.inl h)).2)).mp he
  · rintro ⟨hlen, d, hd, ref, hr, he⟩
    obtain ⟨⟨right, left⟩, hc⟩ := (verifyTerms_some_iff_ref _ _ _ _ _ _ _ _).mpr ⟨_, hr⟩
    have hw := verifyTerms_wf _ _ _ _ _ _ _ _ _ _ hc hk hp hg
    obtain ⟨e1, e2⟩ := verifyCode_eq_verifyRef G1.ιR _ _ _ _ _ _ _ _ _ _ _ hc hr
    refine ⟨hlen, d, hd, right, left, hc, ?_⟩
    rw [← e1, ← e2] at he
    exact (G1.add_smul_msum_eq_inf_iff hx (fun t h => (hw t (Or.inr h)).1) (fun t h => (hw t (Or.inr h)).2)
      (fun t h => (hw t (Or.inl h)).1) (fun t h => (hw t (Or.inl h)).2)).mpr he

end Plonk
