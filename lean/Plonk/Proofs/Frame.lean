/-
  Framing: a component only appends to the composer; rows already present keep their meaning.
  Shared by every gadget proof.
-/
import Plonk.Proofs.ComposerBasics

namespace Plonk

namespace Composer

/-- `c'` is `c` with more gates / witnesses appended (nothing earlier is rewritten).
    On top of it: `Appends` (Arith: `k` gates, all plain), `AppendsL` (PointGadgets: only the last
    appended gate plain), `Block` (Trunc: appends + `WF` + meaning of the rows, composable). -/
structure Extends (c c' : Composer) : Prop where
  gates_prefix : ∀ i, i < c.gates.size → c'.gates[i]? = c.gates[i]?
  gates_size : c.gates.size ≤ c'.gates.size
  wit_prefix : ∀ i, i < c.wit.size → c'.wit[i]? = c.wit[i]?
  wit_size : c.wit.size ≤ c'.wit.size
  pis_old : ∀ i, i < c.gates.size → c'.piAt i = c.piAt i

theorem Extends.refl (c : Composer) : Extends c c :=
  ⟨fun _ _ => rfl, Nat.le_refl _, fun _ _ => rfl, Nat.le_refl _, fun _ _ => rfl⟩

theorem Extends.trans {a b c : Composer} (h1 : Extends a b) (h2 : Extends b c) : Extends a c where
  gates_prefix i hi := by
    rw [h2.gates_prefix i (Nat.lt_of_lt_of_le hi h1.gates_size), h1.gates_prefix i hi]
  gates_size := Nat.le_trans h1.gates_size h2.gates_size
  wit_prefix i hi := by
    rw [h2.wit_prefix i (Nat.lt_of_lt_of_le hi h1.wit_size), h1.wit_prefix i hi]
  wit_size := Nat.le_trans h1.wit_size h2.wit_size
  pis_old i hi := by
    rw [h2.pis_old i (Nat.lt_of_lt_of_le hi h1.gates_size), h1.pis_old i hi]

/-- old witness values are unchanged -/
theorem Extends.val_eq {c c' : Composer} (h : Extends c c') {w : Nat} (hw : w < c.wit.size) :
    c'.val w = c.val w := by
  unfold val
  simp only [Array.getD_eq_getD_getElem?]
  rw [h.wit_prefix w hw]

theorem Extends.gateAt_eq {c c' : Composer} (h : Extends c c') {i : Nat} (hi : i < c.gates.size) :
    c'.gateAt i = c.gateAt i := by
  unfold gateAt
  simp only [Array.getD_eq_getD_getElem?]
  rw [h.gates_prefix i hi]

theorem Extends.rowValsW_eq {c c' : Composer} (h : Extends c c') (w : Nat → Nat) {i : Nat}
    (hi : i < c.gates.size) : c'.rowValsW w i = c.rowValsW w i := by
  unfold rowValsW; rw [h.gates_prefix i hi]

/-- a row whose successor already existed keeps its meaning -/
theorem Extends.rowHoldsW_eq {c c' : Composer} (h : Extends c c') (w : Nat → Nat) {i : Nat}
    (hi : i + 1 < c.gates.size) : c'.rowHoldsW w i = c.rowHoldsW w i := by
  unfold rowHoldsW
  rw [h.rowValsW_eq w (Nat.lt_of_succ_lt hi), h.rowValsW_eq w hi,
      h.gateAt_eq (Nat.lt_of_succ_lt hi), h.pis_old i (Nat.lt_of_succ_lt hi)]

/-- a gate that reads no next-row wire -/
def Gate.plain (g : Gate) : Prop := g.qrange = 0 ∧ g.qlogic = 0 ∧ g.qfixed = 0 ∧ g.qvar = 0

theorem rowHolds_plain_next {g : Gate} (hg : Gate.plain g) (a b c d an bn dn an' bn' dn' pi : Nat) :
    rowHolds g a b c d an bn dn pi = rowHolds g a b c d an' bn' dn' pi := by
  obtain ⟨h1, h2, h3, h4⟩ := hg
  unfold rowHolds; simp [h1, h2, h3, h4]

/-- a plain row keeps its meaning whatever is appended after it -/
theorem Extends.rowHoldsW_eq_of_plain {c c' : Composer} (h : Extends c c') (w : Nat → Nat) {i : Nat}
    (hi : i < c.gates.size) (hp : Gate.plain (c.gateAt i)) :
    c'.rowHoldsW w i = c.rowHoldsW w i := by
  unfold rowHoldsW
  rw [h.rowValsW_eq w hi, h.gateAt_eq hi, h.pis_old i hi]
  exact rowHolds_plain_next hp ..

theorem rowsHoldW_congr {c c' : Composer} {w w' : Nat → Nat} {lo hi : Nat}
    (h : ∀ i, lo ≤ i → i < hi → c.rowHoldsW w i = c'.rowHoldsW w' i) :
    c.rowsHoldW w lo hi ↔ c'.rowsHoldW w' lo hi :=
  forall_congr' fun i => imp_congr_right fun h1 => imp_congr_right fun h2 => by rw [h i h1 h2]

theorem rowsHoldW_split (c : Composer) (w : Nat → Nat) {lo mid hi : Nat} (h1 : lo ≤ mid)
    (h2 : mid ≤ hi) :
    c.rowsHoldW w lo hi ↔ c.rowsHoldW w lo mid ∧ c.rowsHoldW w mid hi := by
  unfold rowsHoldW
  constructor
  · intro h
    exact ⟨fun i a b => h i a (Nat.lt_of_lt_of_le b h2), fun i a b => h i (Nat.le_trans h1 a) b⟩
  · rintro ⟨ha, hb⟩ i hlo hhi
    by_cases hi : i < mid
    · exact ha i hlo hi
    · exact hb i (Nat.le_of_not_lt hi) hhi

theorem rowsHoldW_single (c : Composer) (w : Nat → Nat) (n : Nat) :
    c.rowsHoldW w n (n + 1) ↔ c.rowHoldsW w n = true := by
  unfold rowsHoldW
  constructor
  · intro h; exact h n (Nat.le_refl _) (Nat.lt_succ_self _)
  · intro h i h1 h2
    have : i = n := by omega
    subst this; exact h

theorem rowsHoldW_succ_right (c : Composer) (w : Nat → Nat) {lo n : Nat} (h : lo ≤ n) :
    c.rowsHoldW w lo (n + 1) ↔ c.rowsHoldW w lo n ∧ c.rowHoldsW w n = true :=
  (rowsHoldW_split c w h (Nat.le_succ n)).trans (and_congr_right' (rowsHoldW_single c w n))

theorem rowsHoldW_empty (c : Composer) (w : Nat → Nat) (n : Nat) : c.rowsHoldW w n n := by
  intro i h1 h2; omega

/-- meaning of a row given the two gates involved -/
theorem rowHoldsW_of_get {c : Composer} {w : Nat → Nat} {i : Nat} {g g' : Gate}
    (h1 : c.gates[i]? = some g) (h2 : c.gates[i+1]? = some g') (hp : c.piAt i = 0) :
    c.rowHoldsW w i =
      rowHolds g (w g.a) (w g.b) (w g.c) (w g.d) (w g'.a) (w g'.b) (w g'.d) 0 := by
  unfold rowHoldsW rowValsW gateAt
  simp only [Array.getD_eq_getD_getElem?]
  rw [h1, h2, hp]; rfl

/-- a row holding a plain gate: its own wires and the public input recorded for it -/
theorem rowHoldsW_eq_of_get_plain {c : Composer} {w : Nat → Nat} {i : Nat} {g : Gate}
    (h1 : c.gates[i]? = some g) (hg : Gate.plain g) :
    c.rowHoldsW w i = rowHolds g (w g.a) (w g.b) (w g.c) (w g.d) 0 0 0 (c.piAt i) := by
  unfold rowHoldsW rowValsW gateAt
  simp only [Array.getD_eq_getD_getElem?]
  rw [h1]
  exact rowHolds_plain_next hg ..

theorem rowHoldsW_of_get_plain {c : Composer} {w : Nat → Nat} {i : Nat} {g : Gate}
    (h1 : c.gates[i]? = some g) (hg : Gate.plain g) (hp : c.piAt i = 0) :
    c.rowHoldsW w i = rowHolds g (w g.a) (w g.b) (w g.c) (w g.d) 0 0 0 0 := by
  rw [rowHoldsW_eq_of_get_plain h1 hg, hp]

/-- rows of `c'` keep their meaning in any extension, when the last gate of `c'` is plain -/
theorem Extends.rowsHoldW_iff {c' c'' : Composer} (h : Extends c' c'') (w : Nat → Nat) (lo : Nat)
    (hlast : ∀ i, i + 1 = c'.gates.size → Gate.plain (c'.gateAt i)) :
    c''.rowsHoldW w lo c'.gates.size ↔ c'.rowsHoldW w lo c'.gates.size :=
  rowsHoldW_congr fun i _ hi =>
    if h1 : i + 1 < c'.gates.size then h.rowHoldsW_eq w h1
    else h.rowHoldsW_eq_of_plain w hi (hlast i (Nat.le_antisymm hi (Nat.le_of_not_lt h1)))

/-! ### public inputs of rows that do not exist yet -/

/-- no public input is registered for a row that does not exist yet (composer invariant:
    `append_custom_gate` only ever registers the row it is pushing) -/
def PiFresh (c : Composer) : Prop := ∀ i, c.gates.size ≤ i → c.piAt i = 0

theorem piAt_congr {c c' : Composer} (h : c'.pis = c.pis) (i : Nat) : c'.piAt i = c.piAt i := by
  unfold piAt; rw [h]

theorem PiFresh.piAt_eq_zero {c c' : Composer} (h : PiFresh c) (hp : c'.pis = c.pis) {i : Nat}
    (hi : c.gates.size ≤ i) : c'.piAt i = 0 :=
  (piAt_congr hp i).trans (h i hi)

theorem extends_of_append {c c' : Composer} (g : Array Gate) (l : Array Nat)
    (hg : c'.gates = c.gates ++ g) (hw : c'.wit = c.wit ++ l) (hp : c'.pis = c.pis) :
    Extends c c' := by
  refine ⟨?_, ?_, ?_, ?_, ?_⟩
  · intro i hi; rw [hg, Array.getElem?_append_left hi]
  · rw [hg]; simp
  · intro i hi; rw [hw, Array.getElem?_append_left hi]
  · rw [hw]; simp
  · intro i _; unfold piAt; rw [hp]

theorem piFresh_of_pis {c c' : Composer} (h : PiFresh c) (hp : c'.pis = c.pis)
    (hs : c.gates.size ≤ c'.gates.size) : PiFresh c' :=
  fun _ hi => h.piAt_eq_zero hp (Nat.le_trans hs hi)

/-! ### the primitives extend -/

theorem piAt_push_of_ne (c : Composer) (n v i : Nat) (h : i ≠ n) :
    ({ c with pis := c.pis.push (n, v) } : Composer).piAt i = c.piAt i := by
  unfold piAt
  rw [Array.foldl_push]
  exact if_neg (by rw [beq_iff_eq]; exact Ne.symm h)

theorem extends_appendWitness (v : Nat) (c : Composer) :
    Extends c ((appendWitness v).run c).2 :=
  ⟨fun _ _ => rfl, Nat.le_refl _, fun _ hi => getElem?_push_of_lt _ _ hi,
    Nat.le_of_lt (by rw [appendWitness_run, Array.size_push]; exact Nat.lt_succ_self _),
    fun _ _ => rfl⟩

theorem extends_appendCustomGate (s : Constraint) (c : Composer) :
    Extends c ((appendCustomGate s).run c).2 := by
  refine ⟨fun _ hi => getElem?_push_of_lt _ _ hi,
    Nat.le_of_lt (by rw [appendCustomGate_run, Array.size_push]; exact Nat.lt_succ_self _),
    fun _ _ => rfl, Nat.le_refl _, fun i hi => ?_⟩
  rw [appendCustomGate_run]
  split
  · exact piAt_push_of_ne c _ _ i (Nat.ne_of_lt hi)
  · rfl

theorem extends_appendGate (s : Constraint) (c : Composer) :
    Extends c ((appendGate s).run c).2 := extends_appendCustomGate _ c

/-! ### well-formedness -/

/-- Well-formed composer state: every witness value is reduced, and no public input is recorded
    for a row that does not exist yet (`pis_zero` is `PiFresh c`).  The `X_rows_iff` lemmas use only
    `pis_zero`; `val_lt` is needed where stored values are compared (`X_honest_iff`, `wf`). -/
structure WF (c : Composer) : Prop where
  val_lt : ∀ i, c.val i < R
  pis_zero : ∀ i, c.gates.size ≤ i → c.piAt i = 0

theorem wf_of_wit (c : Composer) (h : ∀ i (hi : i < c.wit.size), c.wit[i] < R)
    (hp : ∀ i, c.gates.size ≤ i → c.piAt i = 0) : WF c := by
  refine ⟨fun i => ?_, hp⟩
  by_cases hi : i < c.wit.size
  · unfold val; simp [Array.getD_eq_getD_getElem?, hi, h i hi]
  · rw [val_of_size_le c (Nat.le_of_not_lt hi)]; exact R_pos

theorem WF.wit_lt {c : Composer} (h : WF c) (i : Nat) (hi : i < c.wit.size) : c.wit[i] < R := by
  have := h.val_lt i
  unfold val at this; simpa [Array.getD_eq_getD_getElem?, hi] using this

/-! ### appending rows -/

/-- `c'` is `c` plus exactly `k` gates, all of them plain, and `m` witnesses.  (When only the last
    appended gate is plain: `AppendsL` in PointGadgets; with `WF` and the meaning of the rows
    packaged for chaining: `Block` in Trunc.) -/
structure Appends (c c' : Composer) (k m : Nat) : Prop where
  ext : Extends c c'
  gates : c'.gates.size = c.gates.size + k
  wit : c'.wit.size = c.wit.size + m
  plain : ∀ i, c.gates.size ≤ i → i < c'.gates.size → Gate.plain (c'.gateAt i)

theorem Appends.refl (c : Composer) : Appends c c 0 0 :=
  ⟨Extends.refl c, rfl, rfl, fun _ h1 h2 => absurd h2 (Nat.not_lt.mpr h1)⟩

theorem Appends.trans {a b c : Composer} {k m k' m' : Nat} (h1 : Appends a b k m)
    (h2 : Appends b c k' m') : Appends a c (k + k') (m + m') where
  ext := h1.ext.trans h2.ext
  gates := by rw [h2.gates, h1.gates]; omega
  wit := by rw [h2.wit, h1.wit]; omega
  plain i hlo hhi := by
    by_cases hi : i < b.gates.size
    · rw [h2.ext.gateAt_eq hi]; exact h1.plain i hlo hi
    · exact h2.plain i (Nat.le_of_not_lt hi) hhi

/-- rows of plain gates keep their meaning in any extension -/
theorem Extends.rowsHoldW_of_plain {c c' : Composer} (h : Extends c c') (w : Nat → Nat)
    {lo hi : Nat} (hhi : hi ≤ c.gates.size)
    (hp : ∀ i, lo ≤ i → i < hi → Gate.plain (c.gateAt i)) :
    c'.rowsHoldW w lo hi ↔ c.rowsHoldW w lo hi :=
  rowsHoldW_congr fun i h1 h2 =>
    h.rowHoldsW_eq_of_plain w (Nat.lt_of_lt_of_le h2 hhi) (hp i h1 h2)

/-- the rows appended by two consecutive components: those of the first (read in the
    intermediate state) and those of the second -/
theorem Appends.rows_split {a b c : Composer} {k m k' m' : Nat} (h1 : Appends a b k m)
    (h2 : Appends b c k' m') (w : Nat → Nat) :
    c.rowsHoldW w a.gates.size c.gates.size ↔
      b.rowsHoldW w a.gates.size b.gates.size ∧ c.rowsHoldW w b.gates.size c.gates.size := by
  rw [rowsHoldW_split c w h1.ext.gates_size h2.ext.gates_size,
    h2.ext.rowsHoldW_of_plain w (Nat.le_refl _) (fun i hlo hhi => h1.plain i hlo hhi)]

/-- the model's own values: the honest table of the first component is still honest later -/
theorem Appends.rows_split_val {a b c : Composer} {k m k' m' : Nat} (h1 : Appends a b k m)
    (h2 : Appends b c k' m') :
    c.rowsHoldW c.val a.gates.size c.gates.size ↔
      b.rowsHoldW c.val a.gates.size b.gates.size ∧
      c.rowsHoldW c.val b.gates.size c.gates.size := h1.rows_split h2 c.val

/-- two assignments that agree on the wires of a row give the same row values -/
theorem rowHoldsW_congr_plain (c : Composer) (w w' : Nat → Nat) (i : Nat)
    (hp : Gate.plain (c.gateAt i))
    (h : w (c.gateAt i).a = w' (c.gateAt i).a ∧ w (c.gateAt i).b = w' (c.gateAt i).b ∧
         w (c.gateAt i).c = w' (c.gateAt i).c ∧ w (c.gateAt i).d = w' (c.gateAt i).d)
    (hi : i < c.gates.size) :
    c.rowHoldsW w i = c.rowHoldsW w' i := by
  unfold rowHoldsW
  have e : c.rowValsW w i = c.rowValsW w' i := by
    unfold rowValsW; rw [getElem?_gates_of_lt hi]; simp [h.1, h.2.1, h.2.2.1, h.2.2.2]
  rw [e]
  exact rowHolds_plain_next hp ..

/-- the last gate of the state reads no next-row wire -/
def LastPlain (c : Composer) : Prop := ∀ i, i + 1 = c.gates.size → Gate.plain (c.gateAt i)

theorem Appends.lastPlain {a b : Composer} {k m : Nat} (h : Appends a b (k + 1) m) :
    LastPlain b := by
  intro i hi
  exact h.plain i (by rw [h.gates] at hi; omega) (by omega)

theorem Extends.lastPlain_of_gates {a b : Composer} (h : Extends a b)
    (hs : b.gates.size = a.gates.size) (hl : LastPlain a) : LastPlain b := by
  intro i hi
  rw [h.gateAt_eq (by omega)]; exact hl i (by omega)

/-- the rows of an appended segment, read in a later state -/
theorem seg_iff {a b c'' : Composer} {k m : Nat} (hab : Appends a b (k + 1) m)
    (hext : Extends b c'') (w : Nat → Nat) {P : Prop}
    (hrel : b.rowsHoldW w a.gates.size b.gates.size ↔ P) :
    c''.rowsHoldW w a.gates.size b.gates.size ↔ P :=
  (hext.rowsHoldW_iff w _ hab.lastPlain).trans hrel

/-! ### framing for components whose inner rows read the next row -/

/-- `c'` is `c` plus exactly `k` gates and `m` witnesses, and the last appended gate is plain
    (inner gates may read their successor row, which belongs to the same component). -/
structure AppendsL (c c' : Composer) (k m : Nat) : Prop where
  ext : Extends c c'
  gates : c'.gates.size = c.gates.size + k
  wit : c'.wit.size = c.wit.size + m
  last_plain : ∀ i, c.gates.size ≤ i → i + 1 = c'.gates.size → Gate.plain (c'.gateAt i)

theorem AppendsL.refl (c : Composer) : AppendsL c c 0 0 :=
  ⟨Extends.refl c, rfl, rfl, fun _ h1 h2 => absurd (h2 ▸ Nat.lt_succ_self _) (Nat.not_lt.mpr h1)⟩

theorem Appends.toL {c c' : Composer} {k m : Nat} (h : Appends c c' k m) : AppendsL c c' k m :=
  ⟨h.ext, h.gates, h.wit, fun i h1 h2 => h.plain i h1 (h2 ▸ Nat.lt_succ_self i)⟩

theorem AppendsL.trans {a b c : Composer} {k m k' m' : Nat} (h1 : AppendsL a b k m)
    (h2 : AppendsL b c k' m') : AppendsL a c (k + k') (m + m') where
  ext := h1.ext.trans h2.ext
  gates := by rw [h2.gates, h1.gates, Nat.add_assoc]
  wit := by rw [h2.wit, h1.wit, Nat.add_assoc]
  last_plain i hlo hhi := by
    by_cases hi : b.gates.size ≤ i
    · exact h2.last_plain i hi hhi
    · -- no gate is appended by the second part: `i` is the last row of the first
      have hlt : i < b.gates.size := Nat.lt_of_not_le hi
      have hb : i + 1 = b.gates.size := Nat.le_antisymm hlt (hhi ▸ h2.ext.gates_size)
      rw [h2.ext.gateAt_eq hlt]
      exact h1.last_plain i hlo hb

theorem AppendsL.rows_ext {a b c : Composer} {k m : Nat} (h : AppendsL a b k m)
    (hx : Extends b c) (w : Nat → Nat) :
    c.rowsHoldW w a.gates.size b.gates.size ↔ b.rowsHoldW w a.gates.size b.gates.size :=
  rowsHoldW_congr fun i hlo hi =>
    if h1 : i + 1 < b.gates.size then hx.rowHoldsW_eq w h1
    else hx.rowHoldsW_eq_of_plain w hi
      (h.last_plain i hlo (Nat.le_antisymm hi (Nat.le_of_not_lt h1)))

theorem AppendsL.rows_split {a b c : Composer} {k m : Nat} (h1 : AppendsL a b k m)
    (hx : Extends b c) (w : Nat → Nat) :
    c.rowsHoldW w a.gates.size c.gates.size ↔
      b.rowsHoldW w a.gates.size b.gates.size ∧ c.rowsHoldW w b.gates.size c.gates.size := by
  rw [rowsHoldW_split c w h1.ext.gates_size hx.gates_size, h1.rows_ext hx w]

end Composer
end Plonk
