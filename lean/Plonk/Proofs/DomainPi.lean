/-
  `vanishing_poly_over_coset`, the `matches…` tests, `compute_barycentric_eval`,
  `compute_lagrange_and_barycentric_evaluations`.
-/
import Plonk.Proofs.DomainLagrange

namespace Plonk.PolyC19
open Polynomial

/-! ### coset evaluations -/

theorem van_entry (d : Domain) (deg i : Nat) (hdeg : deg < 2 ^ 256) :
    fsub (toF (fpow GENERATOR deg) * toF (fpow d.groupGen deg) ^ i).val 1 =
      (((7 : F) * toF d.groupGen ^ i) ^ deg - 1).val := by
  refine eq_val_of_toF (fsub_lt _ _) ?_
  rw [toF_fsub, toF_val, toF_fpow _ _ hdeg, toF_fpow _ _ hdeg, toF_GENERATOR, toF_one, mul_pow,
    ← pow_mul, ← pow_mul, mul_comm deg i]

/-- `vanishing_poly_over_coset(deg)`: entry `i` is `(g·ω^i)^deg − 1`, `g = 7` -/
theorem vanishingOverCoset_eq (d : Domain) (deg : Nat) (hdeg : deg < 2 ^ 256) :
    d.vanishingOverCoset deg =
      (List.range d.size).map (fun i => (((7 : F) * toF d.groupGen ^ i) ^ deg - 1).val) := by
  refine (foldl_emit_beside_range (fun x => fsub x 1) (fmul · (fpow d.groupGen deg))
    (geom (fpow GENERATOR deg) (fpow d.groupGen deg)) (fun _ => rfl) d.size).trans
    (List.map_congr_left fun i _ => ?_)
  rw [geom_eq_val (fpow_lt _ _)]
  exact van_entry d deg i hdeg

theorem linearOverCoset_list (d : Domain) :
    ((List.range d.size).foldl (fun (acc : List Nat × Nat) _ => (acc.2 :: acc.1, fmul acc.2 d.groupGen))
      ([], GENERATOR % R)).1.reverse =
    (List.range d.size).map (fun i => ((7 : F) * toF d.groupGen ^ i).val) := by
  refine (foldl_emit_beside_range (fun w => w) (fmul · d.groupGen) (geom (GENERATOR % R) d.groupGen)
    (fun _ => rfl) d.size).trans (List.map_congr_left fun i _ => ?_)
  rw [geom_eq_val (Nat.mod_lt _ R_pos), toF_mod, toF_GENERATOR]

/-- `matches_linear_over_coset`: true exactly on the evaluations of `X` over the coset `g·H` -/
theorem matchesLinearOverCoset_iff (d : Domain) (ev : List Nat) :
    d.matchesLinearOverCoset ev = true ↔
      ev = (List.range d.size).map (fun i => ((7 : F) * toF d.groupGen ^ i).val) := by
  unfold Domain.matchesLinearOverCoset
  rw [linearOverCoset_list, Bool.and_eq_true, beq_iff_eq, beq_iff_eq]
  constructor
  · exact fun h => h.2
  · intro h; exact ⟨by rw [h]; simp, h⟩

/-- `matches_vanishing_over_coset` -/
theorem matchesVanishingOverCoset_iff (d : Domain) (deg : Nat) (ev : List Nat)
    (hsize : d.size ≤ 2 ^ 256) :
    d.matchesVanishingOverCoset deg ev = true ↔
      deg < d.size ∧
      ev = (List.range d.size).map (fun i => (((7 : F) * toF d.groupGen ^ i) ^ deg - 1).val) := by
  unfold Domain.matchesVanishingOverCoset
  rw [Bool.and_eq_true, Bool.and_eq_true, decide_eq_true_iff, beq_iff_eq, beq_iff_eq]
  constructor
  · rintro ⟨⟨h1, _⟩, h3⟩
    exact ⟨h1, by rw [h3, vanishingOverCoset_eq d deg (Nat.lt_of_lt_of_le h1 hsize)]⟩
  · rintro ⟨h1, h2⟩
    refine ⟨⟨h1, by rw [h2]; simp⟩,
      by rw [h2, vanishingOverCoset_eq d deg (Nat.lt_of_lt_of_le h1 hsize)]⟩

/-! ### generic list plumbing (no field operations: see the kernel caveat in `DomainLagrange`) -/

theorem foldl_zip_map {α β σ : Type} (l : List α) (g : α → β) (f : σ → α × β → σ) (a : σ) :
    (l.zip (l.map g)).foldl f a = l.foldl (fun acc x => f acc (x, g x)) a := by
  induction l generalizing a with
  | nil => rfl
  | cons x xs ih => simp [ih]

theorem sum_map_filter_of_zero {α : Type} (p : α → Bool) (H : α → F) (l : List α)
    (h0 : ∀ x, p x = false → H x = 0) : ((l.filter p).map H).sum = (l.map H).sum := by
  induction l with
  | nil => rfl
  | cons x xs ih =>
    rw [List.filter_cons]
    cases hp : p x
    · simp [ih, h0 x hp]
    · simp [ih]

theorem sum_map_zipIdx (H : Nat × Nat → F) (l : List Nat) (k : Nat) :
    ((l.zipIdx k).map H).sum = ∑ i ∈ Finset.range l.length, H (l.getD i 0, k + i) := by
  induction l generalizing k with
  | nil => simp
  | cons x xs ih =>
    rw [List.zipIdx_cons, List.map_cons, List.sum_cons, ih, List.length_cons,
      Finset.sum_range_succ']
    rw [add_comm]
    congr 1
    apply Finset.sum_congr rfl
    intro i _
    rw [List.getD_cons_succ]
    congr 2
    omega

/-! ### barycentric evaluation -/

theorem bary_entry {d : Domain} (ok : DomainOK d) (point e i : Nat) (hi : i < 2 ^ 256) :
    toF (fmul (binv (fsub (fmul (fpow d.groupGenInv i) point) 1)) e) *
        toF (fmul (fsub (fpow point d.size) 1) d.sizeInv) =
      toF e * lagrangeF d.size (toF d.groupGen) (toF point) i := by
  rw [← lagrangeF_eq_inv_form ok.size_pos ok.prim]
  simp only [toF_fmul, toF_binv, toF_fsub, toF_fpow _ _ hi, toF_fpow _ _ ok.size_lt, toF_one,
    ok.sizeInv_eq, ok.genInv_eq]
  ring

/-- `compute_barycentric_eval`: `Σ_i evals[i] · L_i(point)` with the closed form `L_i`
    (at a point of the domain both sides are `0`) -/
theorem barycentric_eq {d : Domain} (ok : DomainOK d) (evals : List Nat) (point : Nat)
    (hlen : evals.length ≤ 2 ^ 256) :
    toF (d.barycentric evals point) =
      ∑ i ∈ Finset.range evals.length,
        toF (evals.getD i 0) * lagrangeF d.size (toF d.groupGen) (toF point) i := by
  unfold Domain.barycentric
  simp only []
  rw [batchInversion_eq_map, map_map', foldl_zip_map]
  rw [toF_fmul, toF_foldl_fadd (fun x : Nat × Nat =>
    fmul (binv (fsub (fmul (fpow d.groupGenInv x.2) point) 1)) x.1)]
  rw [sum_map_filter_of_zero, sum_map_zipIdx, toF_zero, zero_add, Finset.sum_mul]
  · apply Finset.sum_congr rfl
    intro i hi
    have hi' : i < evals.length := Finset.mem_range.mp hi
    rw [Nat.zero_add]
    exact bary_entry ok point _ i (Nat.lt_of_lt_of_le hi' hlen)
  · intro x hx
    have h0 : toF x.1 = 0 := by
      rw [toF_eq_zero_iff]
      simpa using hx
    rw [toF_fmul, h0, mul_zero]

/-! ### `compute_lagrange_and_barycentric_evaluations` -/

theorem ite_none_some_eq_none_iff {α : Type} (c : Prop) [Decidable c] (x : α) :
    (if c then none else some x) = none ↔ c := by
  split <;> simp [*]

theorem ite_none_some_eq_some_iff {α : Type} (c : Prop) [Decidable c] (x y : α) :
    (if c then none else some x) = some y ↔ ¬ c ∧ x = y := by
  split <;> simp [*]

/-- skeleton of the function with the leading denominator and `Z_H(point)` abstracted -/
theorem lagrangeAndPi_unfold (d : Domain) (roots evals : List Nat) (point : Nat) :
    d.lagrangeAndPi roots evals point =
      if ((fmul (d.size % R) (fsub point 1) ::
            List.map (fun x : Nat × Nat => fsub (fmul x.1 point) 1)
              (List.filter (fun x => x.2 % R != 0) (roots.zip evals))).any fun x => x == 0) = true
      then none
      else some
        (fmul (d.evaluateVanishing point) (binv (fmul (d.size % R) (fsub point 1))),
         fmul (fmul
            (List.foldl (fun acc (x : Nat × Nat) =>
                fadd acc (fmul (binv (fsub (fmul x.1 point) 1)) x.2)) 0
              (List.filter (fun x => x.2 % R != 0) (roots.zip evals)))
            (d.evaluateVanishing point)) d.sizeInv) := by
  unfold Domain.lagrangeAndPi
  simp only []
  rw [batchInversion_eq_map, List.map_cons, List.headD_cons, List.tail_cons, map_map',
    foldl_zip_map]

theorem den0_eq_zero_iff {d : Domain} (ok : DomainOK d) (point : Nat) :
    (fmul (d.size % R) (fsub point 1) == 0) = true ↔ toF point = 1 := by
  rw [beq_zero_iff (fmul_lt _ _), toF_fmul, toF_mod, toF_fsub, toF_one, mul_eq_zero, sub_eq_zero]
  constructor
  · rintro (h | h)
    · exact absurd h ok.size_ne_zero
    · exact h
  · exact fun h => Or.inr h

theorem den_eq_zero_iff (r point : Nat) :
    (fsub (fmul r point) 1 == 0) = true ↔ toF r * toF point = 1 := by
  rw [beq_zero_iff (fsub_lt _ _), toF_fsub, toF_fmul, toF_one, sub_eq_zero]

/-- `none` exactly when a denominator vanishes: `point = 1`, or `root_j · point = 1` for some `j`
    with a non-zero evaluation -/
theorem lagrangeAndPi_eq_none_iff {d : Domain} (ok : DomainOK d) (roots evals : List Nat)
    (point : Nat) :
    d.lagrangeAndPi roots evals point = none ↔
      toF point = 1 ∨ ∃ re ∈ roots.zip evals, toF re.2 ≠ 0 ∧ toF re.1 * toF point = 1 := by
  rw [lagrangeAndPi_unfold, ite_none_some_eq_none_iff, List.any_cons, Bool.or_eq_true,
    den0_eq_zero_iff ok, List.any_eq_true]
  apply or_congr Iff.rfl
  constructor
  · rintro ⟨x, hx, hx0⟩
    obtain ⟨re, hre, rfl⟩ := List.mem_map.mp hx
    rw [List.mem_filter] at hre
    refine ⟨re, hre.1, ?_, (den_eq_zero_iff _ _).mp hx0⟩
    rw [Ne, toF_eq_zero_iff]
    simpa using hre.2
  · rintro ⟨re, hre, hne, h1⟩
    refine ⟨_, List.mem_map.mpr ⟨re, List.mem_filter.mpr ⟨hre, ?_⟩, rfl⟩,
      (den_eq_zero_iff _ _).mpr h1⟩
    rw [Ne, toF_eq_zero_iff] at hne
    simpa using hne

theorem pi_term (zh sizeInv : F) (e r p : F) :
    (r * p - 1)⁻¹ * e * zh * sizeInv = e * (zh * sizeInv * (r * p - 1)⁻¹) := by ring

/-- the returned pair: `L_0(point)` and `Σ_j evals[j] · (Z_H(point)/n) / (root_j·point − 1)` -/
theorem lagrangeAndPi_some {d : Domain} (ok : DomainOK d) (roots evals : List Nat)
    (point l1 pi : Nat) (h : d.lagrangeAndPi roots evals point = some (l1, pi)) :
    toF l1 = lagrangeF d.size (toF d.groupGen) (toF point) 0 ∧
    toF pi = ((roots.zip evals).map (fun re : Nat × Nat =>
      toF re.2 * ((toF point ^ d.size - 1) * ((d.size : F))⁻¹ * (toF re.1 * toF point - 1)⁻¹))).sum ∧
    l1 < R ∧ pi < R := by
  rw [lagrangeAndPi_unfold, ite_none_some_eq_some_iff] at h
  obtain ⟨_, h⟩ := h
  rw [Prod.mk.injEq] at h
  obtain ⟨h1, h2⟩ := h
  refine ⟨?_, ?_, by rw [← h1]; exact fmul_lt _ _, by rw [← h2]; exact fmul_lt _ _⟩
  · rw [← h1, toF_fmul, toF_binv, toF_fmul, toF_mod, toF_fsub, toF_one,
      toF_evaluateVanishing ok.size_lt]
    unfold lagrangeF
    rw [pow_zero, mul_one, div_eq_mul_inv]
    rfl
  · rw [← h2, toF_fmul, toF_fmul, toF_foldl_fadd (fun x : Nat × Nat =>
      fmul (binv (fsub (fmul x.1 point) 1)) x.2), toF_zero, zero_add,
      toF_evaluateVanishing ok.size_lt, ok.sizeInv_eq, ← List.sum_map_mul_right,
      ← List.sum_map_mul_right]
    rw [sum_map_filter_of_zero]
    · apply congrArg
      apply List.map_congr_left
      intro re _
      simp only [toF_fmul, toF_binv, toF_fsub, toF_one]
      ring
    · intro x hx
      have h0 : toF x.2 = 0 := by
        rw [toF_eq_zero_iff]; simpa using hx
      rw [toF_fmul, h0, mul_zero, zero_mul, zero_mul]

end Plonk.PolyC19
