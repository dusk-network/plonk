/-
  G1 point codecs (compressed, raw Montgomery): bridge of the `Nat`-mod-`P` operations to `ZMod P`,
  square roots (`P ≡ 3 mod 4`), round trip, canonicity, well-formedness.
-/
import Mathlib.Algebra.Field.ZMod
import Mathlib.FieldTheory.Finite.Basic
import Mathlib.Tactic.Ring
import Mathlib.Tactic.LinearCombination
import Plonk.Proofs.Prime
import Plonk.Proofs.BytesLemmas
import Plonk.Model.Codec

set_option Elab.async false

namespace Plonk

abbrev Fp := ZMod P

def toP (a : Nat) : Fp := (a : ZMod P)

theorem P_pos : 0 < P := by decide +kernel
theorem P_odd : P = 2 * ((P - 1) / 2) + 1 := by decide +kernel
theorem P_lt_pow : P < 32 * 256 ^ 47 := by decide +kernel
theorem P_lt_256_pow_48 : P < 256 ^ 48 := by decide +kernel
theorem P_add_one_div_four : (P + 1) / 4 * 4 = P + 1 := by decide +kernel
theorem one_mod_P : 1 % P = 1 := by decide +kernel

@[simp] theorem toP_mod (a : Nat) : toP (a % P) = toP a := by
  unfold toP; exact ZMod.natCast_mod a P

@[simp] theorem toP_padd (a b : Nat) : toP (padd a b) = toP a + toP b := by
  unfold padd; rw [toP_mod]; unfold toP; push_cast; rfl

@[simp] theorem toP_pmul (a b : Nat) : toP (pmul a b) = toP a * toP b := by
  unfold pmul; rw [toP_mod]; unfold toP; push_cast; rfl

@[simp] theorem toP_psq (a : Nat) : toP (psq a) = toP a * toP a := by
  unfold psq; rw [toP_mod]; unfold toP; push_cast; rfl

theorem toP_P_sub (b : Nat) : toP (P - b % P) = - toP b := by
  have hb : b % P ≤ P := (Nat.mod_lt b P_pos).le
  unfold toP
  rw [Nat.cast_sub hb]
  simp [ZMod.natCast_mod]

@[simp] theorem toP_pneg (a : Nat) : toP (pneg a) = - toP a := by
  unfold pneg; rw [toP_mod, toP_P_sub]

@[simp] theorem toP_psub (a b : Nat) : toP (psub a b) = toP a - toP b := by
  unfold psub; rw [toP_mod]
  have : toP (a + (P - b % P)) = toP a + toP (P - b % P) := by unfold toP; push_cast; rfl
  rw [this, toP_P_sub]; ring

theorem toP_inj_of_lt {a b : Nat} (ha : a < P) (hb : b < P) : toP a = toP b ↔ a = b := by
  unfold toP
  rw [ZMod.natCast_eq_natCast_iff]; unfold Nat.ModEq
  rw [Nat.mod_eq_of_lt ha, Nat.mod_eq_of_lt hb]

theorem toP_eq_zero_of_lt {a : Nat} (h : a < P) : toP a = 0 ↔ a = 0 := by
  have := toP_inj_of_lt h P_pos
  simpa [toP] using this

theorem padd_lt (a b : Nat) : padd a b < P := Nat.mod_lt _ P_pos
theorem pmul_lt (a b : Nat) : pmul a b < P := Nat.mod_lt _ P_pos
theorem psq_lt (a : Nat) : psq a < P := Nat.mod_lt _ P_pos
theorem pneg_lt (a : Nat) : pneg a < P := Nat.mod_lt _ P_pos
theorem psub_lt (a b : Nat) : psub a b < P := Nat.mod_lt _ P_pos

@[simp] theorem toP_zero : toP 0 = 0 := by simp [toP]
@[simp] theorem toP_one : toP 1 = 1 := by simp [toP]
@[simp] theorem toP_four : toP 4 = 4 := by unfold toP; exact Nat.cast_ofNat

theorem ppow_lt (a e : Nat) : ppow a e < P := by
  unfold ppow; exact powModF_lt _ _ _ _ _ P_pos (Nat.mod_lt _ P_pos)

/-- `ppow` is exponentiation in `ZMod P` (exponents below `2^384`) -/
theorem toP_ppow (a e : Nat) (he : e < 2 ^ 384) : toP (ppow a e) = toP a ^ e := by
  unfold ppow
  have h := powModF_spec 384 (a % P) e P (1 % P) he
  have h1 : toP (powModF 384 (a % P) e P (1 % P)) = toP (1 % P * (a % P) ^ e) := by
    rw [← toP_mod, h, toP_mod]
  rw [h1]; unfold toP; push_cast
  simp [ZMod.natCast_mod]

theorem sqrt_exp_lt : (P + 1) / 4 < 2 ^ 384 := by decide +kernel

theorem psqrt?_eq (a : Nat) : psqrt? a =
    if psq (ppow a ((P + 1) / 4)) == a % P then some (ppow a ((P + 1) / 4)) else none := rfl

/-- whatever `psqrt?` returns is a reduced square root -/
theorem psqrt?_some {a s : Nat} (h : psqrt? a = some s) : s < P ∧ toP s * toP s = toP a := by
  rw [psqrt?_eq] at h
  split at h
  · next hc =>
    have h := Option.some.inj h
    subst h
    refine ⟨ppow_lt _ _, ?_⟩
    have hc : psq (ppow a ((P + 1) / 4)) = a % P := by simpa using hc
    rw [← toP_psq, hc, toP_mod]
  · cases h

/-- Euler: for `P ≡ 3 mod 4`, `a^((P+1)/4)` squares back to `a` whenever `a` is a square -/
theorem sqrt_pow_sq [Fact P.Prime] (y : Fp) : ((y * y) ^ ((P + 1) / 4)) * ((y * y) ^ ((P + 1) / 4)) = y * y := by
  by_cases hy : y = 0
  · subst hy
    have : (P + 1) / 4 ≠ 0 := by decide +kernel
    simp [zero_pow this]
  · have hc : y ^ (P - 1) = 1 := ZMod.pow_card_sub_one_eq_one hy
    have e1 : ((y * y) ^ ((P + 1) / 4)) * ((y * y) ^ ((P + 1) / 4)) = y ^ ((P + 1) / 4 * 4) := by
      rw [pow_mul]; ring
    rw [e1, P_add_one_div_four]
    have : P + 1 = (P - 1) + 2 := by have := P_pos; omega
    rw [this, pow_add, hc]; ring

/-- `psqrt?` finds a root of every square, and it is `± y` -/
theorem psqrt?_of_square [Fact P.Prime] {a y : Nat} (h : toP y * toP y = toP a) :
    ∃ s, psqrt? a = some s ∧ s < P ∧ (toP s = toP y ∨ toP s = - toP y) := by
  have hs : toP (ppow a ((P + 1) / 4)) * toP (ppow a ((P + 1) / 4)) = toP a := by
    rw [toP_ppow _ _ sqrt_exp_lt, ← h]; exact sqrt_pow_sq (toP y)
  refine ⟨ppow a ((P + 1) / 4), ?_, ppow_lt _ _, ?_⟩
  · rw [psqrt?_eq]
    have : psq (ppow a ((P + 1) / 4)) = a % P := by
      rw [← toP_inj_of_lt (psq_lt _) (Nat.mod_lt _ P_pos), toP_psq, hs, toP_mod]
    rw [this]; simp
  · exact mul_self_eq_mul_self_iff.mp (hs.trans h.symm)

theorem plexLargest_of_lt {y : Nat} (h : y < P) : plexLargest y = decide ((P - 1) / 2 < y) := by
  unfold plexLargest; rw [Nat.mod_eq_of_lt h]

theorem pneg_of_lt {y : Nat} (h : y < P) (h0 : y ≠ 0) : pneg y = P - y := by
  unfold pneg; rw [Nat.mod_eq_of_lt h, Nat.mod_eq_of_lt (by omega)]

theorem pneg_zero : pneg 0 = 0 := by
  unfold pneg; simp

theorem plexLargest_pneg {y : Nat} (h : y < P) (h0 : y ≠ 0) : plexLargest (pneg y) = !plexLargest y := by
  rw [pneg_of_lt h h0, plexLargest_of_lt h, plexLargest_of_lt (by omega)]
  have := P_odd
  generalize (P - 1) / 2 = k at *
  by_cases hk : k < y
  · have : ¬ (k < P - y) := by omega
    simp [hk, this]
  · have : k < P - y := by omega
    simp [hk, this]

/-- no point of the curve has `y = 0`: `−4` is not a cube in `F_p` -/
theorem neg_four_not_cube_check : ppow (P - 4) ((P - 1) / 3) ≠ 1 := by decide +kernel

theorem no_cube_root [Fact P.Prime] (x : Fp) : x * x * x + 4 ≠ 0 := by
  intro h
  have hx : x ≠ 0 := by
    rintro rfl
    have h4 : (4 : Fp) = toP 4 := by simp
    rw [h4] at h; simp only [mul_zero, zero_add] at h
    rw [toP_eq_zero_of_lt (by decide +kernel)] at h; omega
  have hc : x ^ (P - 1) = 1 := ZMod.pow_card_sub_one_eq_one hx
  have h3 : (P - 1) / 3 * 3 = P - 1 := by decide +kernel
  have hm4 : toP (P - 4) = x * x * x := by
    have : toP (P - 4 % P) = - toP 4 := toP_P_sub 4
    rw [Nat.mod_eq_of_lt (by decide +kernel)] at this
    rw [this, toP_four]; linear_combination -h
  apply neg_four_not_cube_check
  rw [← toP_inj_of_lt (ppow_lt _ _) (by decide +kernel), toP_ppow _ _ (by decide +kernel), hm4, toP_one]
  have : (x * x * x) ^ ((P - 1) / 3) = x ^ ((P - 1) / 3 * 3) := by rw [pow_mul]; ring
  rw [this, h3, hc]

/-- a well-formed point: the identity, or reduced coordinates on the curve -/
def G1.Valid : G1 → Prop
  | .inf => True
  | .aff x y => x < P ∧ y < P ∧ (G1.aff x y).onCurve = true

theorem natToBytesBE_succ (v n : Nat) :
    natToBytesBE v (n + 1) = (v / 256 ^ n % 256) :: natToBytesBE v n := by
  unfold natToBytesBE
  rw [List.range_succ_eq_map, List.map_cons, List.map_map]
  congr 1
  apply List.map_congr_left
  intro i _
  simp only [Function.comp]
  have : n + 1 - 1 - (i + 1) = n - 1 - i := by omega
  rw [this]

theorem G1.toCompressed_aff (x y : Nat) : G1.toCompressed (.aff x y) =
    (x % P / 256 ^ 47 % 256 + 0x80 + (if plexLargest y then 0x20 else 0)) :: natToBytesBE (x % P) 47 := by
  have h : natToBytesBE (x % P) 48 = _ := natToBytesBE_succ (x % P) 47
  simp only [G1.toCompressed, h]

theorem G1.toCompressed_length (p : G1) : p.toCompressed.length = 48 := by
  cases p with
  | inf => simp [G1.toCompressed]
  | aff x y => rw [G1.toCompressed_aff]; simp

/-- the decoder on a 48-byte list, flags made explicit -/
theorem G1.fromCompressedUnchecked?_cons (b0 : Nat) (rest : List Nat) (hl : rest.length = 47) :
    G1.fromCompressedUnchecked? (b0 :: rest) =
      if bytesToNatBE ((b0 % 32) :: rest) ≥ P then none else
      if ((b0 / 64) % 2 == 1) && ((b0 / 128) % 2 == 1) && !((b0 / 32) % 2 == 1) &&
          bytesToNatBE ((b0 % 32) :: rest) == 0 then some .inf else
      (psqrt? (padd (pmul (psq (bytesToNatBE ((b0 % 32) :: rest))) (bytesToNatBE ((b0 % 32) :: rest))) 4)).bind
      fun y =>
        if !((b0 / 64) % 2 == 1) && ((b0 / 128) % 2 == 1) then
          some (.aff (bytesToNatBE ((b0 % 32) :: rest))
            (if plexLargest y != ((b0 / 32) % 2 == 1) then pneg y else y)) else none := by
  unfold G1.fromCompressedUnchecked?
  have : ((b0 :: rest).length != 48) = false := by simp [hl]
  rw [this]
  simp only [Bool.false_eq_true, ↓reduceIte]
  rw [List.headD_cons, List.tail_cons]
  generalize psqrt? _ = o
  cases o <;> rfl

theorem G1.onCurve_aff_iff (x y : Nat) :
    (G1.aff x y).onCurve = true ↔ toP y * toP y = toP x * toP x * toP x + 4 := by
  unfold G1.onCurve
  rw [beq_iff_eq, ← toP_inj_of_lt (psq_lt _) (padd_lt _ _)]
  simp

theorem G1.fromCompressedUnchecked_inf : G1.fromCompressedUnchecked? (G1.toCompressed .inf) = some .inf := by
  decide +kernel

/-- the top byte of a reduced coordinate leaves the three flag bits free -/
theorem top_byte_lt {x : Nat} (hx : x < P) : x / 256 ^ 47 < 32 := by
  rw [Nat.div_lt_iff_lt_mul (by positivity)]; exact lt_trans hx P_lt_pow

/-- flag arithmetic of the first byte -/
theorem flag_arith (t : Nat) (s : Bool) (ht : t < 32) :
    (t + 0x80 + (if s then 0x20 else 0)) % 32 = t ∧
    ((t + 0x80 + (if s then 0x20 else 0)) / 64 % 2 == 1) = false ∧
    ((t + 0x80 + (if s then 0x20 else 0)) / 128 % 2 == 1) = true ∧
    ((t + 0x80 + (if s then 0x20 else 0)) / 32 % 2 == 1) = s := by
  cases s
  · show (t + 128 + 0) % 32 = t ∧ ((t + 128 + 0) / 64 % 2 == 1) = false ∧ ((t + 128 + 0) / 128 % 2 == 1) = true ∧
      ((t + 128 + 0) / 32 % 2 == 1) = false
    rw [beq_eq_false_iff_ne, beq_iff_eq, beq_eq_false_iff_ne]; omega
  · show (t + 128 + 32) % 32 = t ∧ ((t + 128 + 32) / 64 % 2 == 1) = false ∧ ((t + 128 + 32) / 128 % 2 == 1) = true ∧
      ((t + 128 + 32) / 32 % 2 == 1) = true
    rw [beq_eq_false_iff_ne, beq_iff_eq, beq_iff_eq]; omega

/-- compressed round trip (no subgroup check) -/
theorem G1.fromCompressedUnchecked_toCompressed [Fact P.Prime] {p : G1} (hp : p.Valid) :
    G1.fromCompressedUnchecked? p.toCompressed = some p := by
  cases p with
  | inf => exact G1.fromCompressedUnchecked_inf
  | aff x y =>
    obtain ⟨hx, hy, hc⟩ := hp
    rw [G1.toCompressed_aff, G1.fromCompressedUnchecked?_cons _ _ (by simp), Nat.mod_eq_of_lt hx]
    obtain ⟨f1, f2, f3, f4⟩ := flag_arith (x / 256 ^ 47 % 256) (plexLargest y)
      (Nat.lt_of_le_of_lt (Nat.mod_le _ _) (top_byte_lt hx))
    have hxv : bytesToNatBE ((x / 256 ^ 47 % 256) :: natToBytesBE x 47) = x := by
      rw [← natToBytesBE_succ]; exact bytesToNatBE_natToBytesBE (lt_trans hx P_lt_256_pow_48)
    rw [f1, f2, f3, f4, hxv, if_neg (by omega)]
    simp only [Bool.false_and, Bool.false_eq_true, ↓reduceIte, Bool.not_false, Bool.and_self]
    rw [G1.onCurve_aff_iff] at hc
    have hsq : toP y * toP y = toP (padd (pmul (psq x) x) 4) := by simp [hc]
    obtain ⟨s, hs, hslt, hsy⟩ := psqrt?_of_square hsq
    rw [hs, Option.bind_some]
    suffices hsuff : (if (plexLargest s != plexLargest y) = true then pneg s else s) = y by rw [hsuff]
    rcases hsy with h | h
    · rw [toP_inj_of_lt hslt hy] at h
      subst h; simp
    · by_cases hy0 : y = 0
      · subst hy0
        rw [toP_zero, neg_zero, ← toP_zero, toP_inj_of_lt hslt P_pos] at h
        subst h; simp
      · have hs' : s = pneg y := by
          rw [← toP_inj_of_lt hslt (pneg_lt _), toP_pneg]; exact h
        have hy' : y = pneg s := by
          rw [← toP_inj_of_lt hy (pneg_lt _), toP_pneg, h, neg_neg]
        have hs0 : s ≠ 0 := by
          rintro rfl; rw [pneg_zero] at hy'; exact hy0 hy'
        have : plexLargest y = !plexLargest s := by
          conv_lhs => rw [hy']
          exact plexLargest_pneg hslt hs0
        rw [this, ← hy']; cases plexLargest s <;> simp

theorem G1.fromCompressedUnchecked?_length {bs : List Nat} {p : G1}
    (h : G1.fromCompressedUnchecked? bs = some p) : bs.length = 48 := by
  by_contra hl
  have : (bs.length != 48) = true := by simpa using hl
  unfold G1.fromCompressedUnchecked? at h
  rw [this, if_pos rfl] at h
  cases h

theorem bytesToNatBE_replicate_zero (n : Nat) : bytesToNatBE (List.replicate n 0) = 0 := by
  induction n with
  | zero => rfl
  | succ n ih => rw [List.replicate_succ, bytesToNatBE_cons, ih]; simp

theorem byte_flags {b0 : Nat} (hb : b0 < 256) (hcomp : (b0 / 128 % 2 == 1) = true)
    (hinf : (b0 / 64 % 2 == 1) = false) :
    b0 = b0 % 32 + 0x80 + (if (b0 / 32 % 2 == 1) then 0x20 else 0) := by
  rw [beq_iff_eq] at hcomp
  rw [beq_eq_false_iff_ne] at hinf
  have h1 : 128 ≤ b0 ∧ b0 < 192 := by omega
  clear hcomp hinf
  by_cases h3 : b0 / 32 % 2 = 1
  · rw [if_pos (beq_iff_eq.mpr h3)]; omega
  · rw [if_neg (by rwa [beq_iff_eq])]; omega

/-- the first byte of the compressed identity -/
theorem inf_flag_byte {b0 : Nat} (hb : b0 < 256) (h0 : b0 % 32 = 0) (h64 : b0 / 64 % 2 = 1) (h128 : b0 / 128 % 2 = 1)
    (h32 : ¬ b0 / 32 % 2 = 1) : b0 = 0x80 + 0x40 := by
  omega

/-- compressed decoding is canonical, and what it accepts is a reduced point of the curve -/
theorem G1.fromCompressedUnchecked_spec [Fact P.Prime] {bs : List Nat} {p : G1}
    (h : G1.fromCompressedUnchecked? bs = some p) : (AllBytes bs → p.toCompressed = bs) ∧ p.Valid := by
  have hl := G1.fromCompressedUnchecked?_length h
  match bs, hl with
  | b0 :: rest, hl =>
    have hl' : rest.length = 47 := by simpa using hl
    rw [G1.fromCompressedUnchecked?_cons _ _ hl'] at h
    by_cases hx : bytesToNatBE ((b0 % 32) :: rest) ≥ P
    · rw [if_pos hx] at h; cases h
    · rw [if_neg hx] at h
      have hx : bytesToNatBE ((b0 % 32) :: rest) < P := by omega
      split at h
      · next hc =>
        have h := Option.some.inj h
        subst h
        simp only [Bool.and_eq_true, Bool.not_eq_true', beq_iff_eq, beq_eq_false_iff_ne] at hc
        obtain ⟨⟨⟨h64, h128⟩, h32⟩, h0⟩ := hc
        refine ⟨fun hb => ?_, trivial⟩
        have hb0 : b0 < 256 := hb.head
        have hbr : AllBytes ((b0 % 32) :: rest) := AllBytes.cons (lt_trans (Nat.mod_lt b0 (by decide)) (by decide)) hb.tail
        have hz : (b0 % 32) :: rest = List.replicate 48 0 :=
          bytesToNatBE_inj hbr (AllBytes.replicate_zero 48) (by simp [hl'])
            (by rw [h0, bytesToNatBE_replicate_zero])
        have hz' : (b0 % 32) :: rest = 0 :: List.replicate 47 0 := hz
        injection hz' with hz1 hz2
        have : b0 = 0x80 + 0x40 := inf_flag_byte hb0 hz1 h64 h128 h32
        rw [this, hz2]; rfl
      · next hc =>
        cases hsq : psqrt? (padd (pmul (psq (bytesToNatBE ((b0 % 32) :: rest))) (bytesToNatBE ((b0 % 32) :: rest))) 4) with
        | none => rw [hsq] at h; cases h
        | some y0 =>
          rw [hsq, Option.bind_some] at h
          split at h
          · next hf =>
            have h := Option.some.inj h
            subst h
            obtain ⟨hy0lt, hy0sq⟩ := psqrt?_some hsq
            simp only [Bool.and_eq_true, Bool.not_eq_true'] at hf
            obtain ⟨hinf, hcomp⟩ := hf
            generalize hX : bytesToNatBE ((b0 % 32) :: rest) = X at *
            have hy0 : y0 ≠ 0 := by
              rintro rfl
              simp only [toP_zero, mul_zero, toP_padd, toP_pmul, toP_psq, toP_four] at hy0sq
              exact no_cube_root (toP X) hy0sq.symm
            have hflag : plexLargest (if (plexLargest y0 != (b0 / 32 % 2 == 1)) = true then pneg y0 else y0)
                = (b0 / 32 % 2 == 1) := by
              by_cases hs : plexLargest y0 = (b0 / 32 % 2 == 1)
              · simp [hs]
              · have : (plexLargest y0 != (b0 / 32 % 2 == 1)) = true := by simpa using hs
                rw [if_pos this, plexLargest_pneg hy0lt hy0]
                cases hp : plexLargest y0 <;> cases hq : (b0 / 32 % 2 == 1) <;> simp_all
            constructor
            · intro hb
              have hb0 : b0 < 256 := hb.head
              have hbr : AllBytes ((b0 % 32) :: rest) := AllBytes.cons (lt_trans (Nat.mod_lt b0 (by decide)) (by decide)) hb.tail
              have hbytes : natToBytesBE X 48 = (b0 % 32) :: rest := by
                have := natToBytesBE_bytesToNatBE hbr
                rw [hX] at this
                simpa [hl'] using this
              have hbytes' : (X / 256 ^ 47 % 256) :: natToBytesBE X 47 = (b0 % 32) :: rest :=
                (natToBytesBE_succ X 47).symm.trans hbytes
              obtain ⟨hb1, hb2⟩ := List.cons.inj hbytes'
              rw [G1.toCompressed_aff, hflag, Nat.mod_eq_of_lt hx, hb1, hb2]
              rw [← byte_flags hb0 hcomp hinf]
            · refine ⟨hx, ?_, ?_⟩
              · split
                · exact pneg_lt _
                · exact hy0lt
              · rw [G1.onCurve_aff_iff]
                have : toP y0 * toP y0 = toP X * toP X * toP X + 4 := by
                  rw [hy0sq]; simp
                split
                · rw [toP_pneg]; linear_combination this
                · exact this
          · cases h

/-- `G1Affine::from_bytes` is the unchecked decoder followed by the subgroup check -/
theorem G1.fromCompressed?_eq (bs : List Nat) :
    G1.fromCompressed? bs = (G1.fromCompressedUnchecked? bs).filter G1.torsionFree := by
  unfold G1.fromCompressed?
  cases G1.fromCompressedUnchecked? bs with
  | none => rfl
  | some p => rfl

/-- `G1Affine::from_bytes` round trip -/
theorem G1.fromCompressed_toCompressed [Fact P.Prime] {p : G1} (hp : p.Valid) (ht : p.torsionFree = true) :
    G1.fromCompressed? p.toCompressed = some p := by
  rw [G1.fromCompressed?_eq, G1.fromCompressedUnchecked_toCompressed hp, Option.filter_some, if_pos ht]

theorem G1.fromCompressed?_some {bs : List Nat} {p : G1} (h : G1.fromCompressed? bs = some p) :
    G1.fromCompressedUnchecked? bs = some p ∧ p.torsionFree = true :=
  Option.filter_eq_some_iff.1 (G1.fromCompressed?_eq bs ▸ h)

/-- `G1Affine::from_bytes` is canonical and accepts only reduced, on-curve, torsion-free points -/
theorem G1.fromCompressed_canonical [Fact P.Prime] {bs : List Nat} {p : G1} (hb : AllBytes bs)
    (h : G1.fromCompressed? bs = some p) : p.toCompressed = bs ∧ p.Valid ∧ p.torsionFree = true := by
  obtain ⟨h1, h2⟩ := G1.fromCompressed?_some h
  obtain ⟨h3, h4⟩ := G1.fromCompressedUnchecked_spec h1
  exact ⟨h3 hb, h4, h2⟩

/-- `G1Affine::from_bytes` accepts only reduced, on-curve, torsion-free points (any input list) -/
theorem G1.fromCompressed_wf [Fact P.Prime] {bs : List Nat} {p : G1}
    (h : G1.fromCompressed? bs = some p) : p.Valid ∧ p.torsionFree = true := by
  obtain ⟨h1, h2⟩ := G1.fromCompressed?_some h
  exact ⟨(G1.fromCompressedUnchecked_spec h1).2, h2⟩

theorem G1.fromCompressed?_length {bs : List Nat} {p : G1} (h : G1.fromCompressed? bs = some p) :
    bs.length = 48 := G1.fromCompressedUnchecked?_length (G1.fromCompressed?_some h).1

theorem mont_r_inv : pmul MONT_R MONT_RINV = 1 := by decide +kernel
theorem MONT_R_lt : MONT_R < P := by decide +kernel
theorem torsionFree_inf : G1.torsionFree .inf = true := by decide +kernel

theorem toP_mont : toP MONT_R * toP MONT_RINV = 1 := by
  rw [← toP_pmul, mont_r_inv, toP_one]

theorem pmul_mont_cancel {x : Nat} (hx : x < P) : pmul (pmul x MONT_R) MONT_RINV = x := by
  rw [← toP_inj_of_lt (pmul_lt _ _) hx, toP_pmul, toP_pmul, mul_assoc, toP_mont, mul_one]

theorem pmul_mont_cancel' {x : Nat} (hx : x < P) : pmul (pmul x MONT_RINV) MONT_R = x := by
  rw [← toP_inj_of_lt (pmul_lt _ _) hx, toP_pmul, toP_pmul, mul_assoc, mul_comm (toP MONT_RINV), toP_mont,
    mul_one]

theorem raw_parts (a b : List Nat) (c : Nat) (la : a.length = 48) (lb : b.length = 48) :
    (a ++ b ++ [c]).take 48 = a ∧ ((a ++ b ++ [c]).drop 48).take 48 = b ∧ (a ++ b ++ [c]).getD 96 0 = c := by
  refine ⟨?_, ?_, ?_⟩
  · rw [List.append_assoc, List.take_left' la]
  · rw [List.append_assoc, List.drop_left' la, List.take_left' lb]
  · rw [List.getD_eq_getElem?_getD, List.getElem?_append_right (by simp [la, lb])]
    simp [la, lb]

theorem G1.toRaw_aff (x y : Nat) : G1.toRaw (.aff x y) =
    natToBytesLE (pmul x MONT_R) 48 ++ natToBytesLE (pmul y MONT_R) 48 ++ [0] := rfl
theorem G1.toRaw_inf : G1.toRaw .inf = natToBytesLE 0 48 ++ natToBytesLE (pmul 1 MONT_R) 48 ++ [1] := rfl

theorem G1.toRaw_length (p : G1) : p.toRaw.length = 97 := by
  cases p <;> simp [G1.toRaw]

theorem G1.fromRawChecked_eq (bs : List Nat) : G1.fromRawChecked bs =
    if bs.getD 96 0 > 1 || bytesToNatLE (bs.take 48) ≥ P || bytesToNatLE ((bs.drop 48).take 48) ≥ P then none else
    if bs.getD 96 0 == 1 then
      (if bytesToNatLE (bs.take 48) == 0 && bytesToNatLE ((bs.drop 48).take 48) == MONT_R then some .inf else none)
    else
      if (G1.aff (pmul (bytesToNatLE (bs.take 48)) MONT_RINV) (pmul (bytesToNatLE ((bs.drop 48).take 48)) MONT_RINV)).onCurve
          && (G1.aff (pmul (bytesToNatLE (bs.take 48)) MONT_RINV)
                (pmul (bytesToNatLE ((bs.drop 48).take 48)) MONT_RINV)).torsionFree
      then some (G1.aff (pmul (bytesToNatLE (bs.take 48)) MONT_RINV) (pmul (bytesToNatLE ((bs.drop 48).take 48)) MONT_RINV))
      else none := rfl

theorem G1.fromRawChecked_toRaw {p : G1} (hp : p.Valid) (ht : p.torsionFree = true) :
    G1.fromRawChecked p.toRaw = some p := by
  cases p with
  | inf => decide +kernel
  | aff x y =>
    obtain ⟨hx, hy, hc⟩ := hp
    rw [G1.fromRawChecked_eq]
    obtain ⟨e1, e2, e3⟩ := raw_parts (natToBytesLE (pmul x MONT_R) 48) (natToBytesLE (pmul y MONT_R) 48) 0
      (by simp) (by simp)
    rw [G1.toRaw_aff, e1, e2, e3, bytesToNatLE_natToBytesLE (lt_trans (pmul_lt _ _) P_lt_256_pow_48),
      bytesToNatLE_natToBytesLE (lt_trans (pmul_lt _ _) P_lt_256_pow_48), pmul_mont_cancel hx, pmul_mont_cancel hy,
      hc, ht]
    have h1 : ¬ (pmul x MONT_R ≥ P) := by have := pmul_lt x MONT_R; omega
    have h2 : ¬ (pmul y MONT_R ≥ P) := by have := pmul_lt y MONT_R; omega
    simp [h1, h2]

/-- what the raw decoder accepts: flag 0/1, limbs below `p`, canonical identity, on curve, torsion free -/
theorem G1.fromRawChecked_wf {bs : List Nat} {p : G1} (h : G1.fromRawChecked bs = some p) :
    bs.getD 96 0 ≤ 1 ∧ bytesToNatLE (bs.take 48) < P ∧ bytesToNatLE ((bs.drop 48).take 48) < P ∧
    (bs.getD 96 0 = 1 → p = .inf ∧ bytesToNatLE (bs.take 48) = 0 ∧ bytesToNatLE ((bs.drop 48).take 48) = MONT_R) ∧
    (bs.getD 96 0 = 0 → p = .aff (pmul (bytesToNatLE (bs.take 48)) MONT_RINV)
        (pmul (bytesToNatLE ((bs.drop 48).take 48)) MONT_RINV)) ∧
    p.Valid ∧ p.torsionFree = true := by
  rw [G1.fromRawChecked_eq] at h
  split at h
  · cases h
  · next hc =>
    simp only [Bool.or_eq_true, decide_eq_true_eq, not_or, not_lt, not_le] at hc
    obtain ⟨⟨hf, hxm⟩, hym⟩ := hc
    refine ⟨hf, hxm, hym, ?_⟩
    split at h
    · next hf1 =>
      have hf1 : bs.getD 96 0 = 1 := by simpa using hf1
      split at h
      · next hz =>
        have h := Option.some.inj h
        subst h
        simp only [Bool.and_eq_true, beq_iff_eq] at hz
        exact ⟨fun _ => ⟨rfl, hz.1, hz.2⟩, fun h0 => by omega, trivial, torsionFree_inf⟩
      · cases h
    · next hf1 =>
      have hf1 : ¬ bs.getD 96 0 = 1 := by simpa using hf1
      split at h
      · next hct =>
        have h := Option.some.inj h
        subst h
        simp only [Bool.and_eq_true] at hct
        exact ⟨fun h1 => absurd h1 hf1, fun _ => rfl, ⟨pmul_lt _ _, pmul_lt _ _, hct.1⟩, hct.2⟩
      · cases h

/-- the raw decoder is canonical on 97-byte lists -/
theorem G1.fromRawChecked_canonical {bs : List Nat} {p : G1} (hb : AllBytes bs) (hl : bs.length = 97)
    (h : G1.fromRawChecked bs = some p) : p.toRaw = bs := by
  obtain ⟨hf, hxm, hym, h1, h0, _, _⟩ := G1.fromRawChecked_wf h
  have h96 : bs.drop 96 = [bs.getD 96 0] := by
    have hlen : (bs.drop 96).length = 1 := by simp [hl]
    have hget : bs.getD 96 0 = (bs.drop 96).getD 0 0 := by
      simp [List.getD_eq_getElem?_getD]
    rw [hget]
    match bs.drop 96, hlen with
    | [c], _ => rfl
  have hsplit : bs = bs.take 48 ++ (bs.drop 48).take 48 ++ [bs.getD 96 0] := by
    calc bs = bs.take 48 ++ bs.drop 48 := (List.take_append_drop 48 bs).symm
      _ = bs.take 48 ++ ((bs.drop 48).take 48 ++ (bs.drop 48).drop 48) := by
        rw [List.take_append_drop 48 (bs.drop 48)]
      _ = bs.take 48 ++ (bs.drop 48).take 48 ++ [bs.getD 96 0] := by
        rw [List.drop_drop, h96, List.append_assoc]
  have la : (bs.take 48).length = 48 := by simp [hl]
  have lb : ((bs.drop 48).take 48).length = 48 := by simp [hl]
  have ea : natToBytesLE (bytesToNatLE (bs.take 48)) 48 = bs.take 48 := by
    have := natToBytesLE_bytesToNatLE (hb.take 48); rwa [la] at this
  have eb : natToBytesLE (bytesToNatLE ((bs.drop 48).take 48)) 48 = (bs.drop 48).take 48 := by
    have := natToBytesLE_bytesToNatLE ((hb.drop 48).take 48); rwa [lb] at this
  rcases Nat.le_one_iff_eq_zero_or_eq_one.mp hf with hf0 | hf1
  · rw [h0 hf0, G1.toRaw_aff]
    rw [pmul_mont_cancel' hxm, pmul_mont_cancel' hym, ea, eb, ← hf0]
    exact hsplit.symm
  · obtain ⟨hp, hx0, hy0⟩ := h1 hf1
    rw [hp, G1.toRaw_inf]
    have : pmul 1 MONT_R = MONT_R := by decide +kernel
    rw [this, ← hx0, ← hy0, ea, eb, ← hf1]
    exact hsplit.symm

end Plonk
