/-
  C13 — the subgroup boundary: `assert_torsion_free_gates` / `assert_torsion_free_point`
  (composer glue + group-level meaning) and the host-side decision logic of the point entry
  points (`append_point`, `append_constant_point`, `append_public_point`,
  `assert_equal_public_point`, `component_mul_generator`).
-/
import Plonk.Proofs.PointGadgets
import Plonk.Proofs.TorsionFreeExt
import Plonk.Proofs.EdwardsExamples
import Plonk.Proofs.ShapePoint

namespace Plonk
open Plonk Plonk.Composer

namespace Composer

/-! ### the stages of `assert_torsion_free_gates` -/

theorem run_bind_pair {α β} (m : CM α) (f : α → CM β) (c : Composer) (a : α) (c1 : Composer)
    (h : m.run c = (a, c1)) : (m >>= f).run c = (f a).run c1 := by
  rw [run_bind', h]

/-- the curve-equation row `−u² + v² − d·u²v² − 1 = 0` on the wires `n+2, n+3, n+4` -/
def tfCurveC (n : Nat) : Constraint :=
  { ql := R - 1, a := n + 2, qr := 1, b := n + 3, qo := fneg EDWARDS_D, c := n + 4, qc := R - 1 }

/-- after `append_point(q)`: wires `n`, `n+1` -/
def tfS1 (q : Pt) (c : Composer) : Composer :=
  ((appendWitness q.2).run ((appendWitness q.1).run c).2).2
/-- `u² ` on wire `n+2` -/
def tfS2 (q : Pt) (c : Composer) : Composer :=
  ((gateAdd { qm := 1, a := c.wit.size, b := c.wit.size }).run (tfS1 q c)).2
/-- `v²` on wire `n+3` -/
def tfS3 (q : Pt) (c : Composer) : Composer :=
  ((gateAdd { qm := 1, a := c.wit.size + 1, b := c.wit.size + 1 }).run (tfS2 q c)).2
/-- `u²v²` on wire `n+4` -/
def tfS4 (q : Pt) (c : Composer) : Composer :=
  ((gateAdd { qm := 1, a := c.wit.size + 2, b := c.wit.size + 3 }).run (tfS3 q c)).2
/-- the curve-equation row -/
def tfS5 (q : Pt) (c : Composer) : Composer :=
  ((appendGate (tfCurveC c.wit.size)).run (tfS4 q c)).2
/-- `2Q` on wires `n+6, n+7` (helper `n+5`) -/
def tfS6 (q : Pt) (c : Composer) : Composer :=
  ((addPointGates (c.wit.size, c.wit.size + 1) (c.wit.size, c.wit.size + 1)).run (tfS5 q c)).2
/-- `4Q` on wires `n+9, n+10` (helper `n+8`) -/
def tfS7 (q : Pt) (c : Composer) : Composer :=
  ((addPointGates (c.wit.size + 6, c.wit.size + 7) (c.wit.size + 6, c.wit.size + 7)).run
    (tfS6 q c)).2
/-- `8Q` on wires `n+12, n+13` (helper `n+11`) -/
def tfS8 (q : Pt) (c : Composer) : Composer :=
  ((addPointGates (c.wit.size + 9, c.wit.size + 10) (c.wit.size + 9, c.wit.size + 10)).run
    (tfS7 q c)).2
def tfS9 (P q : Pt) (c : Composer) : Composer :=
  ((assertEqual P.1 (c.wit.size + 12)).run (tfS8 q c)).2
def tfS10 (P q : Pt) (c : Composer) : Composer :=
  ((assertEqual P.2 (c.wit.size + 13)).run (tfS9 P q c)).2

theorem tfS1_gates (q : Pt) (c : Composer) : (tfS1 q c).gates = c.gates := rfl
theorem tfS1_pis (q : Pt) (c : Composer) : (tfS1 q c).pis = c.pis := rfl

theorem tfS1_appends (q : Pt) (c : Composer) : Appends c (tfS1 q c) 0 2 :=
  (appendWitness_appends q.1 c).trans (appendWitness_appends q.2 _)

theorem tfS1_wit (q : Pt) (c : Composer) : (tfS1 q c).wit.size = c.wit.size + 2 :=
  (tfS1_appends q c).wit
theorem tfS1_wf (q : Pt) (c : Composer) (h : WF c) : WF (tfS1 q c) :=
  appendWitness_wf _ _ (appendWitness_wf _ _ h)

/-- state after `append_point` of the affine point `a` -/
def apS (a : Pt) (c : Composer) : Composer :=
  ((appendWitness a.2).run ((appendWitness a.1).run c).2).2

theorem appendAffinePoint_run (a : Pt) (c : Composer) :
    (appendAffinePoint a).run c = ((c.wit.size, c.wit.size + 1), apS a c) := by
  unfold appendAffinePoint apS
  rw [run_bind', run_bind']
  simp
  rfl

/-- the stage definitions `tfS1 … tfS10` name the states the program passes through -/
theorem assertTorsionFreeGates_snd (P q : Pt) (c : Composer) :
    ((assertTorsionFreeGates P q).run c).2 = tfS10 P q c := by
  -- the witnesses allocated up to each stage give what the next step returns
  have w₁ : (tfS1 q c).wit.size = c.wit.size + 2 := tfS1_wit q c
  have w₂ : (tfS2 q c).wit.size = c.wit.size + 3 := by rw [tfS2, gateAdd_wit_size, w₁]
  have w₃ : (tfS3 q c).wit.size = c.wit.size + 4 := by rw [tfS3, gateAdd_wit_size, w₂]
  have w₅ : (tfS5 q c).wit.size = c.wit.size + 5 := by
    show (tfS4 q c).wit.size = _; rw [tfS4, gateAdd_wit_size, w₃]
  have w₆ : (tfS6 q c).wit.size = c.wit.size + 8 := by rw [tfS6, addPointGates_wit_size, w₅]
  have w₇ : (tfS7 q c).wit.size = c.wit.size + 11 := by rw [tfS7, addPointGates_wit_size, w₆]
  -- each step run from the stage before: its result and the next stage
  have h₁ : (appendAffinePoint q).run c = ((c.wit.size, c.wit.size + 1), tfS1 q c) :=
    appendAffinePoint_run q c
  have h₂ : (gateMul { qm := 1, a := c.wit.size, b := c.wit.size }).run (tfS1 q c) =
      (c.wit.size + 2, tfS2 q c) := by rw [gateMul_eq, ← w₁]; exact gateAdd_apply _ _
  have h₃ : (gateMul { qm := 1, a := c.wit.size + 1, b := c.wit.size + 1 }).run (tfS2 q c) =
      (c.wit.size + 3, tfS3 q c) := by rw [gateMul_eq, ← w₂]; exact gateAdd_apply _ _
  have h₄ : (gateMul { qm := 1, a := c.wit.size + 2, b := c.wit.size + 3 }).run (tfS3 q c) =
      (c.wit.size + 4, tfS4 q c) := by rw [gateMul_eq, ← w₃]; exact gateAdd_apply _ _
  have h₅ : (appendGate (tfCurveC c.wit.size)).run (tfS4 q c) = ((), tfS5 q c) := rfl
  have h₆ : (addPointGates (c.wit.size, c.wit.size + 1) (c.wit.size, c.wit.size + 1)).run
      (tfS5 q c) = ((c.wit.size + 6, c.wit.size + 7), tfS6 q c) := by
    rw [tfS6, addPointGates_run, w₅]
  have h₇ : (addPointGates (c.wit.size + 6, c.wit.size + 7) (c.wit.size + 6, c.wit.size + 7)).run
      (tfS6 q c) = ((c.wit.size + 9, c.wit.size + 10), tfS7 q c) := by
    rw [tfS7, addPointGates_run, w₆]
  have h₈ : (addPointGates (c.wit.size + 9, c.wit.size + 10)
      (c.wit.size + 9, c.wit.size + 10)).run (tfS7 q c) =
      ((c.wit.size + 12, c.wit.size + 13), tfS8 q c) := by
    rw [tfS8, addPointGates_run, w₇]
  unfold assertTorsionFreeGates
  refine congrArg Prod.snd ((run_bind_pair _ _ _ _ _ h₁).trans ?_)
  refine (run_bind_pair _ _ _ _ _ h₂).trans ?_
  refine (run_bind_pair _ _ _ _ _ h₃).trans ?_
  refine (run_bind_pair _ _ _ _ _ h₄).trans ?_
  refine (run_bind_pair _ _ _ _ _ h₅).trans ?_
  refine (run_bind_pair _ _ _ _ _ h₆).trans ?_
  refine (run_bind_pair _ _ _ _ _ h₇).trans ?_
  refine (run_bind_pair _ _ _ _ _ h₈).trans ?_
  rfl

/-- selectors of `tfCurveC`: `q_L = −1` on `u²`, `q_R = 1` on `v²`, `q_O = −d` on `u²v²`, `q_C = −1`;
    `q_M = q_F = 0`, no public input -/
theorem tfCurveC_arithRel (n : Nat) (w : Nat → Nat) :
    (tfCurveC n).arithRel w ↔
      -toF (w (n + 2)) + toF (w (n + 3)) - dF * toF (w (n + 4)) - 1 = 0 := by
  have e : (tfCurveC n).arithRel w ↔
      toF 0 * toF (w (n + 2)) * toF (w (n + 3)) + toF (R - 1) * toF (w (n + 2)) +
        toF 1 * toF (w (n + 3)) + toF (fneg EDWARDS_D) * toF (w (n + 4)) + toF 0 * toF (w 0) +
        toF (R - 1) + 0 = 0 := Iff.rfl
  have r (x y z t : F) :
      0 * x * y + -1 * x + 1 * y + -dF * z + 0 * t + -1 + 0 = -x + y - dF * z - 1 := by ring
  rw [e, toF_zero, toF_one, toF_R_sub_one, toF_fneg, toF_EDWARDS_D, r]

/-! ### group-level meaning -/

theorem varRowF_smul_iff {Q : PtF} (hQ : OnCurveP Q) (k : ℕ) {x y : F} (hxy : (x, y) = smulF k Q)
    (x' y' h : F) :
    VarRowF x y x y x' y' h ↔
      h = (smulF k Q).1 * (smulF k Q).2 ∧ (x', y') = smulF (2 * k) Q := by
  have hc : OnCurveF x y := by
    have := smulF_on_curve k hQ; rw [← hxy] at this; exact this
  rw [varRowF_iff_of_on_curve hc hc, smulF_double k hQ, ← hxy]

/-- pure field core: the twelve row identities ⇔ `Q = (x, y)` on the curve, every auxiliary
    value a function of `Q` (no free witness: the doubling rows have no pole on curve points),
    and `[8]Q = P`. -/
theorem tf_core (x y u2 v2 u2v2 h1 x2 y2 h2 x4 y4 h4 x8 y8 px py : F) :
    (u2 = x * x ∧ v2 = y * y ∧ u2v2 = u2 * v2 ∧ -u2 + v2 - dF * u2v2 - 1 = 0 ∧
      VarRowF x y x y x2 y2 h1 ∧ VarRowF x2 y2 x2 y2 x4 y4 h2 ∧ VarRowF x4 y4 x4 y4 x8 y8 h4 ∧
      px = x8 ∧ py = y8) ↔
    OnCurveP (x, y) ∧
    (u2 = x * x ∧ v2 = y * y ∧ u2v2 = x * x * (y * y) ∧ h1 = x * y ∧
      (x2, y2) = smulF 2 (x, y) ∧ h2 = (smulF 2 (x, y)).1 * (smulF 2 (x, y)).2 ∧
      (x4, y4) = smulF 4 (x, y) ∧ h4 = (smulF 4 (x, y)).1 * (smulF 4 (x, y)).2 ∧
      (x8, y8) = smulF 8 (x, y)) ∧
    smulF 8 (x, y) = (px, py) := by
  have e1 : (x, y) = smulF 1 (x, y) := (smulF_one _).symm
  constructor
  · rintro ⟨r1, r2, r3, r4, r5, r6, r7, r8, r9⟩
    have hQ : OnCurveP (x, y) := by
      show OnCurveF x y
      unfold OnCurveF; subst r1 r2 r3; linear_combination r4
    obtain ⟨e5, s2⟩ := (varRowF_smul_iff hQ 1 e1 _ _ _).mp r5
    obtain ⟨e8, s4⟩ := (varRowF_smul_iff hQ 2 s2 _ _ _).mp r6
    obtain ⟨e11, s8⟩ := (varRowF_smul_iff hQ 4 s4 _ _ _).mp r7
    rw [smulF_one] at e5
    exact ⟨hQ, ⟨r1, r2, by rw [r3, r1, r2], e5, s2, e8, s4, e11, s8⟩, by rw [← s8, r8, r9]⟩
  · rintro ⟨hQ, ⟨a2, a3, a4, a5, s2, a8, s4, a11, s8⟩, hP⟩
    obtain ⟨p1, p2⟩ := Prod.mk.inj (s8.trans hP)
    refine ⟨a2, a3, by rw [a4, a2, a3], ?_,
      (varRowF_smul_iff hQ 1 e1 _ _ _).mpr ⟨by rw [smulF_one]; exact a5, s2⟩,
      (varRowF_smul_iff hQ 2 s2 _ _ _).mpr ⟨a8, s4⟩,
      (varRowF_smul_iff hQ 4 s4 _ _ _).mpr ⟨a11, s8⟩, p1.symm, p2.symm⟩
    have hc : OnCurveF x y := hQ
    unfold OnCurveF at hc
    rw [a4, a2, a3]; linear_combination hc

/-- every auxiliary wire of the gadget is a function of the prover's point
    `Q = (w n, w (n+1))` -/
def TFAux (w : Nat → Nat) (n : Nat) : Prop :=
  toF (w (n + 2)) = toF (w n) * toF (w n) ∧
  toF (w (n + 3)) = toF (w (n + 1)) * toF (w (n + 1)) ∧
  toF (w (n + 4)) = toF (w n) * toF (w n) * (toF (w (n + 1)) * toF (w (n + 1))) ∧
  toF (w (n + 5)) = toF (w n) * toF (w (n + 1)) ∧
  ptW w (n + 6, n + 7) = smulF 2 (ptW w (n, n + 1)) ∧
  toF (w (n + 8)) = (smulF 2 (ptW w (n, n + 1))).1 * (smulF 2 (ptW w (n, n + 1))).2 ∧
  ptW w (n + 9, n + 10) = smulF 4 (ptW w (n, n + 1)) ∧
  toF (w (n + 11)) = (smulF 4 (ptW w (n, n + 1))).1 * (smulF 4 (ptW w (n, n + 1))).2 ∧
  ptW w (n + 12, n + 13) = smulF 8 (ptW w (n, n + 1))
/-! ### the specification -/

/-- what the twelve rows say, wire by wire, is `tf_core` -/
theorem tf_wires_iff (P : Pt) (n : Nat) (w : Nat → Nat) :
    (toF (w (n + 2)) = toF (w n) * toF (w n) ∧
     toF (w (n + 3)) = toF (w (n + 1)) * toF (w (n + 1)) ∧
     toF (w (n + 4)) = toF (w (n + 2)) * toF (w (n + 3)) ∧
     (tfCurveC n).arithRel w ∧
     VarRowF (toF (w n)) (toF (w (n + 1))) (toF (w n)) (toF (w (n + 1)))
       (toF (w (n + 6))) (toF (w (n + 7))) (toF (w (n + 5))) ∧
     VarRowF (toF (w (n + 6))) (toF (w (n + 7))) (toF (w (n + 6))) (toF (w (n + 7)))
       (toF (w (n + 9))) (toF (w (n + 10))) (toF (w (n + 8))) ∧
     VarRowF (toF (w (n + 9))) (toF (w (n + 10))) (toF (w (n + 9))) (toF (w (n + 10)))
       (toF (w (n + 12))) (toF (w (n + 13))) (toF (w (n + 11))) ∧
     ptW w P = ptW w (n + 12, n + 13)) ↔
    OnCurveP (ptW w (n, n + 1)) ∧ TFAux w n ∧ smulF 8 (ptW w (n, n + 1)) = ptW w P := by
  rw [tfCurveC_arithRel, show (ptW w P = ptW w (n + 12, n + 13)) ↔
    (toF (w P.1) = toF (w (n + 12)) ∧ toF (w P.2) = toF (w (n + 13))) from Prod.ext_iff]
  exact tf_core _ _ _ _ _ _ _ _ _ _ _ _ _ _ _ _

/-- `assert_torsion_free_gates P q`: 12 gates, 14 witnesses; exact.  For ANY assignment `w` (any
    auxiliary point the prover supplies on the wires `n, n+1`) the rows hold iff
    `Q = (w n, w (n+1))` is on the curve, the twelve auxiliary wires are the forced values (the
    three doublings are `[2]Q, [4]Q, [8]Q`) and `[8]Q = P`; the model's own table satisfies them
    when the supplied `q` is a curve point with `[8]q = P`. -/
theorem assertTorsionFreeGates_spec (P q : Pt) (c : Composer) :
    Spec 1 (assertTorsionFreeGates P q) c () 12 14
      (fun w => OnCurveP (ptW w (c.wit.size, c.wit.size + 1)) ∧ TFAux w c.wit.size ∧
        smulF 8 (ptW w (c.wit.size, c.wit.size + 1)) = ptW w P)
      (fun v => ptW v (c.wit.size, c.wit.size + 1) = toFP q)
      (fun v => OnCurveP (toFP q) ∧ smulF 8 (toFP q) = ptW v P) := by
  have hw : ∀ (s : Constraint) (d : Composer), ((appendGate s).run d).2.wit.size = d.wit.size :=
    fun _ _ => rfl
  unfold assertTorsionFreeGates
  apply Spec.mono_iff
  · apply (appendAffinePoint_spec _ _).bind
    apply (gateMul_spec _ _ _).bind
    apply (gateMul_spec _ _ _).bind
    apply (gateMul_spec _ _ _).bind
    apply (appendGate_spec _ _).bind
    apply (addPointGates_spec _ _ _).bind
    apply (addPointGates_spec _ _ _).bind
    apply (addPointGates_spec _ _ _).bind
    exact assertEqualPoint_spec _ _ _
  · decide
  · rfl
  · rfl
  · rfl
  · intro w
    simp only [addPointGates_wit_size, hw, gateAdd_wit_size, gateMul_eq,
      appendAffinePoint_wit_size, true_and]
    exact tf_wires_iff P c.wit.size w
  · exact fun _ _ h => h.1
  · -- the hypothesis of each step in turn; `r₁ …` are what the earlier rows say about `v`
    rintro v - - ⟨eQ, -⟩ ⟨hq, h8⟩
    simp only [addPointGates_wit_size, hw, gateAdd_wit_size, gateMul_eq,
      appendAffinePoint_wit_size, PtAlloc, Nat.add_assoc, Nat.reduceAdd]
    have lt₀ : ∀ {j : Nat}, 0 < j → c.wit.size < c.wit.size + j := Nat.lt_add_of_pos_right
    have lt : ∀ {i j : Nat}, i < j → c.wit.size + i < c.wit.size + j :=
      fun h => Nat.add_lt_add_left h _
    have hQ : OnCurveP (ptW v (c.wit.size, c.wit.size + 1)) := by rw [eQ]; exact hq
    refine ⟨trivial, fun _ => ⟨⟨lt₀ (by decide), lt₀ (by decide)⟩, fun r₁ =>
      ⟨⟨lt (by decide), lt (by decide)⟩, fun r₂ => ⟨⟨lt (by decide), lt (by decide)⟩, fun r₃ =>
      ⟨?_, fun _ => ⟨⟨⟨lt₀ (by decide), lt (by decide)⟩, ⟨lt₀ (by decide), lt (by decide)⟩,
        hQ, hQ⟩, fun r₅ => ?_⟩⟩⟩⟩⟩⟩
    · refine (tfCurveC_arithRel c.wit.size v).mpr ?_
      rw [r₃, r₂, r₁]
      have hc : OnCurveF (toF (v c.wit.size)) (toF (v (c.wit.size + 1))) := hQ
      unfold OnCurveF at hc
      linear_combination hc
    obtain ⟨-, s2⟩ := (varRowF_smul_iff hQ 1 (smulF_one _).symm _ _ _).mp r₅
    have c2 : OnCurveP (ptW v (c.wit.size + 6, c.wit.size + 7)) := by
      rw [ptW_mk, s2]; exact smulF_on_curve _ hQ
    refine ⟨⟨⟨lt (by decide), lt (by decide)⟩, ⟨lt (by decide), lt (by decide)⟩, c2, c2⟩,
      fun r₆ => ?_⟩
    obtain ⟨-, s4⟩ := (varRowF_smul_iff hQ 2 s2 _ _ _).mp r₆
    have c4 : OnCurveP (ptW v (c.wit.size + 9, c.wit.size + 10)) := by
      rw [ptW_mk, s4]; exact smulF_on_curve _ hQ
    refine ⟨⟨⟨lt (by decide), lt (by decide)⟩, ⟨lt (by decide), lt (by decide)⟩, c4, c4⟩,
      fun r₇ => ?_⟩
    obtain ⟨-, s8⟩ := (varRowF_smul_iff hQ 4 s4 _ _ _).mp r₇
    exact h8.symm.trans ((congrArg (smulF 8) eQ.symm).trans s8.symm)

theorem tfS10_wf (P q : Pt) (c : Composer) (h : WF c) : WF (tfS10 P q c) :=
  assertTorsionFreeGates_snd P q c ▸ (assertTorsionFreeGates_spec P q c).wf h
theorem tfS10_wit (P q : Pt) (c : Composer) : (tfS10 P q c).wit.size = c.wit.size + 14 :=
  assertTorsionFreeGates_snd P q c ▸ (assertTorsionFreeGates_spec P q c).wit
theorem tfS10_gates (P q : Pt) (c : Composer) : (tfS10 P q c).gates.size = c.gates.size + 12 :=
  assertTorsionFreeGates_snd P q c ▸ (assertTorsionFreeGates_spec P q c).gates


/-- For ANY assignment `w` (any auxiliary point the prover supplies on the
    wires `n, n+1`), all rows of `assert_torsion_free_gates P q` hold iff `Q = (w n, w (n+1))` is
    on the curve, the twelve auxiliary wires are the forced values (the three doublings are
    `[2]Q, [4]Q, [8]Q`), and `[8]Q = P`. -/
theorem tf_rows_iff (P q : Pt) (c : Composer) (h : WF c) (w : Nat → Nat) :
    ((assertTorsionFreeGates P q).run c).2.rowsHoldW w c.gates.size
        ((assertTorsionFreeGates P q).run c).2.gates.size ↔
      OnCurveP (ptW w (c.wit.size, c.wit.size + 1)) ∧ TFAux w c.wit.size ∧
      smulF 8 (ptW w (c.wit.size, c.wit.size + 1)) = ptW w P :=
  (assertTorsionFreeGates_spec P q c).rows_iff_self (Nat.le_refl 1) h.pis_zero w

/-! ### satisfiability -/

/-- the forced values of the 14 new wires, given the prover's point `Q` -/
def tfVals (Q : PtF) : List F :=
  [Q.1, Q.2, Q.1 * Q.1, Q.2 * Q.2, Q.1 * Q.1 * (Q.2 * Q.2), Q.1 * Q.2,
   (smulF 2 Q).1, (smulF 2 Q).2, (smulF 2 Q).1 * (smulF 2 Q).2,
   (smulF 4 Q).1, (smulF 4 Q).2, (smulF 4 Q).1 * (smulF 4 Q).2,
   (smulF 8 Q).1, (smulF 8 Q).2]

theorem tf_rows_extW (P q : Pt) (c : Composer) (h : WF c) (hP : PtAlloc c P) (w0 : Nat → Nat)
    (Q : PtF) (hQ : OnCurveP Q) (h8 : smulF 8 Q = ptW w0 P) :
    ((assertTorsionFreeGates P q).run c).2.rowsHoldW (extW w0 c.wit.size (tfVals Q)) c.gates.size
        ((assertTorsionFreeGates P q).run c).2.gates.size := by
  rw [tf_rows_iff P q c h]
  have hv : ∀ k, toF (extW w0 c.wit.size (tfVals Q) (c.wit.size + k)) = (tfVals Q).getD k 0 :=
    extW_new w0 _ _
  have eP : ptW (extW w0 c.wit.size (tfVals Q)) P = ptW w0 P := by
    unfold ptW; rw [extW_old _ _ _ hP.1, extW_old _ _ _ hP.2]
  generalize extW w0 c.wit.size (tfVals Q) = w at hv eP ⊢
  generalize c.wit.size = n at hv ⊢
  have v0 : toF (w n) = Q.1 := hv 0
  have v1 : toF (w (n + 1)) = Q.2 := hv 1
  have v2 : toF (w (n + 2)) = Q.1 * Q.1 := hv 2
  have v3 : toF (w (n + 3)) = Q.2 * Q.2 := hv 3
  have v4 : toF (w (n + 4)) = Q.1 * Q.1 * (Q.2 * Q.2) := hv 4
  have v5 : toF (w (n + 5)) = Q.1 * Q.2 := hv 5
  have v6 : toF (w (n + 6)) = (smulF 2 Q).1 := hv 6
  have v7 : toF (w (n + 7)) = (smulF 2 Q).2 := hv 7
  have v8 : toF (w (n + 8)) = (smulF 2 Q).1 * (smulF 2 Q).2 := hv 8
  have v9 : toF (w (n + 9)) = (smulF 4 Q).1 := hv 9
  have v10 : toF (w (n + 10)) = (smulF 4 Q).2 := hv 10
  have v11 : toF (w (n + 11)) = (smulF 4 Q).1 * (smulF 4 Q).2 := hv 11
  have v12 : toF (w (n + 12)) = (smulF 8 Q).1 := hv 12
  have v13 : toF (w (n + 13)) = (smulF 8 Q).2 := hv 13
  have eQ : ptW w (n, n + 1) = Q := by rw [ptW_mk, v0, v1]
  rw [eQ, eP]
  refine ⟨hQ, ?_, h8⟩
  unfold TFAux
  rw [eQ, ptW_mk, ptW_mk, ptW_mk, v0, v1, v2, v3, v4, v5, v6, v7, v8, v9, v10, v11, v12, v13]
  exact ⟨rfl, rfl, rfl, rfl, rfl, rfl, rfl, rfl, rfl⟩

/-- Whatever values `w0` the already-allocated wires carry (base wires and the
    coordinates of `P` included), the rows of `assert_torsion_free_gates P q` can be satisfied by
    some choice of the 14 new wires iff `P = [8]Q` for a curve point `Q`. -/
theorem tf_sat_iff (P q : Pt) (c : Composer) (h : WF c) (hP : PtAlloc c P) (w0 : Nat → Nat) :
    (∃ w, (∀ i, i < c.wit.size → w i = w0 i) ∧
      ((assertTorsionFreeGates P q).run c).2.rowsHoldW w c.gates.size
        ((assertTorsionFreeGates P q).run c).2.gates.size) ↔
    ∃ Q : PtF, OnCurveP Q ∧ smulF 8 Q = ptW w0 P := by
  constructor
  · rintro ⟨w, hold, hr⟩
    obtain ⟨hQ, -, h8⟩ := (tf_rows_iff P q c h w).mp hr
    refine ⟨_, hQ, ?_⟩
    rw [h8]; unfold ptW; rw [hold _ hP.1, hold _ hP.2]
  · rintro ⟨Q, hQ, h8⟩
    exact ⟨extW w0 c.wit.size (tfVals Q), fun i hi => extW_old _ _ _ hi, tf_rows_extW P q c h hP w0 Q hQ h8⟩

/-- `P` on the curve with `[r_J]P = O` ⇒ satisfiable (unconditional) -/
theorem tf_sat_of_torsion_free (P q : Pt) (c : Composer) (h : WF c) (hP : PtAlloc c P)
    (w0 : Nat → Nat) (hc : OnCurveP (ptW w0 P)) (hk : smulF RJ (ptW w0 P) = idF) :
    ∃ w, (∀ i, i < c.wit.size → w i = w0 i) ∧
      ((assertTorsionFreeGates P q).run c).2.rowsHoldW w c.gates.size
        ((assertTorsionFreeGates P q).run c).2.gates.size :=
  (tf_sat_iff P q c h hP w0).mpr
    ⟨smulF Generated.EIGHT_INV (ptW w0 P), smulF_on_curve _ hc, eight_smul_eight_inv hc hk⟩

/-! ### completeness: the model's own table -/

theorem tfS1_val0 (q : Pt) (c : Composer) : (tfS1 q c).val c.wit.size = q.1 % R := by
  unfold tfS1
  rw [(extends_appendWitness q.2 _).val_eq (by simp), appendWitness_val]

theorem tfS1_val1 (q : Pt) (c : Composer) : (tfS1 q c).val (c.wit.size + 1) = q.2 % R := by
  unfold tfS1
  have e : c.wit.size + 1 = ((appendWitness q.1).run c).2.wit.size := by simp
  rw [e, appendWitness_val]

theorem apS_ptW (a : Pt) (c : Composer) :
    ptW (apS a c).val (c.wit.size, c.wit.size + 1) = toFP a := by
  show ptW (tfS1 a c).val _ = _
  rw [ptW_mk, tfS1_val0, tfS1_val1, toF_mod, toF_mod]; rfl

/-- Completeness of `assert_torsion_free_gates`: if the supplied `q` is a curve point with
    `[8]q = P` (values of the wires of `P` in the model's table), the model's own witness table
    satisfies all twelve rows. -/
theorem assertTorsionFreeGates_complete (P q : Pt) (c : Composer) (h : WF c) (hP : PtAlloc c P)
    (hq : onCurve q = true) (h8 : smulF 8 (toFP q) = ptW c.val P) :
    ((assertTorsionFreeGates P q).run c).2.rowsHoldW ((assertTorsionFreeGates P q).run c).2.val
      c.gates.size ((assertTorsionFreeGates P q).run c).2.gates.size := by
  have s := assertTorsionFreeGates_spec P q c
  exact s.complete h.pis_zero (Extends.refl _)
    ⟨(onCurve_iff_P q).mp hq, by rw [h8, s.ext.ptW_val_eq hP]⟩

/-! ### `assert_torsion_free_point`: the host's own choice of `q` -/

/-- the auxiliary point the host computes: `[8⁻¹ mod r_J]P` when `P` is on the curve, else the
    identity -/
def tfHostQ (c : Composer) (P : Pt) : Pt :=
  if onCurve (c.val P.1, c.val P.2) then edMul Generated.EIGHT_INV (c.val P.1, c.val P.2)
  else Pt.id

theorem assertTorsionFreePoint_run (P : Pt) (c : Composer) :
    (assertTorsionFreePoint P).run c = (assertTorsionFreeGates P (tfHostQ c P)).run c := by
  unfold assertTorsionFreePoint tfHostQ
  rw [run_getVal_bind, run_getVal_bind]

theorem assertTorsionFreePoint_sat_iff (P : Pt) (c : Composer) (h : WF c) (hP : PtAlloc c P)
    (w0 : Nat → Nat) :
    (∃ w, (∀ i, i < c.wit.size → w i = w0 i) ∧
      ((assertTorsionFreePoint P).run c).2.rowsHoldW w c.gates.size
        ((assertTorsionFreePoint P).run c).2.gates.size) ↔
    ∃ Q : PtF, OnCurveP Q ∧ smulF 8 Q = ptW w0 P := by
  rw [assertTorsionFreePoint_run]; exact tf_sat_iff P _ c h hP w0

/-! ### host-side decision logic of the point entry points -/

/-- `apS` and the first stage `tfS1` of the torsion-free gadget are the same state: the `tfS1_*`
    lemmas serve both. -/
theorem apS_eq_tfS1 (a : Pt) (c : Composer) : apS a c = tfS1 a c := rfl

/-- `append_point`: `Z = 0` ⇒ `JubJubPointDegenerate`, state unchanged; otherwise the two
    affine coordinates are allocated (no gate). -/
theorem appendPoint_run (e : Ext) (c : Composer) :
    (appendPoint e).run c =
      if e.z = 0 then (.error .degenerate, c)
      else (.ok (c.wit.size, c.wit.size + 1), apS e.aff c) := by
  unfold appendPoint
  by_cases h : e.z = 0
  · rw [(Ext.toAffine?_eq_none_iff e).mpr h, if_pos h]; rfl
  · rw [Ext.toAffine?_of_ne h, if_neg h]
    show (appendAffinePoint e.aff >>= fun w => pure (Except.ok w)).run c = _
    rw [run_bind', appendAffinePoint_run]; rfl

/-- state after `append_constant_point` succeeded -/
def acpS (a : Pt) (c : Composer) : Composer :=
  ((appendConstant a.2).run ((appendConstant a.1).run c).2).2

theorem acpS_appends (a : Pt) (c : Composer) : Appends c (acpS a c) 2 2 :=
  (appendConstant_appends a.1 c).trans (appendConstant_appends a.2 _)

theorem acpS_wf (a : Pt) (c : Composer) (h : WF c) : WF (acpS a c) :=
  appendConstant_wf _ _ (appendConstant_wf _ _ h)

/-- `append_constant_point`: `Z = 0` ⇒ `JubJubPointDegenerate`; else not (on curve and torsion
    free) ⇒ `JubJubPointNotTorsionFree`; state unchanged on error; otherwise two `append_constant`
    rows for the affine point. -/
theorem appendConstantPoint_run_aff (e : Ext) (c : Composer) :
    (appendConstantPoint e).run c =
      if e.z = 0 then (.error .degenerate, c)
      else if e.onCurve = true ∧ e.torsionFree = true then
        (.ok (c.wit.size, c.wit.size + 1), acpS e.aff c)
      else (.error .notTorsionFree, c) := by
  rw [appendConstantPoint_run]
  by_cases hz : e.z = 0
  · rw [if_pos hz, if_pos hz]
  · rw [if_neg hz, if_neg hz, Ext.toAffine?_of_ne hz]
    by_cases h : e.onCurve = true ∧ e.torsionFree = true
    · rw [if_neg (not_not.mpr h), if_pos h]; rfl
    · rw [if_pos h, if_neg h]

theorem acpS_rows_iff (a : Pt) (c : Composer) (h : WF c) (w : Nat → Nat) :
    (acpS a c).rowsHoldW w c.gates.size (acpS a c).gates.size ↔
      ptW w (c.wit.size, c.wit.size + 1) = toFP a := by
  have h1 := appendConstant_appends a.1 c
  have h2 := appendConstant_appends a.2 ((appendConstant a.1).run c).2
  unfold acpS
  rw [h1.rows_split h2 w, appendConstant_rows_iff a.1 c h,
    appendConstant_rows_iff a.2 _ (appendConstant_wf _ _ h), h1.wit, ptW_mk]
  unfold toFP
  rw [Prod.mk.injEq]

theorem acpS_honest (a : Pt) (c : Composer) (h : WF c) :
    (acpS a c).rowsHoldW (acpS a c).val c.gates.size (acpS a c).gates.size := by
  have h1 := appendConstant_appends a.1 c
  have h2 := appendConstant_appends a.2 ((appendConstant a.1).run c).2
  unfold acpS
  rw [h1.rows_split h2]
  exact ⟨appendConstant_honest_ext a.1 c h h2.ext,
    appendConstant_honest a.2 _ (appendConstant_wf _ _ h)⟩

/-- state after `append_public_point` succeeded -/
def appS (a : Pt) (c : Composer) : Composer :=
  ((assertEqualConstant (c.wit.size + 1) 0 (some a.2)).run
    ((assertEqualConstant c.wit.size 0 (some a.1)).run (apS a c)).2).2

/-- `append_public_point`: `Z = 0` ⇒ `JubJubPointDegenerate`, state unchanged; otherwise the
    affine coordinates are allocated and constrained to two public inputs. -/
theorem appendPublicPoint_run (e : Ext) (c : Composer) :
    (appendPublicPoint e).run c =
      if e.z = 0 then (.error .degenerate, c)
      else (.ok (c.wit.size, c.wit.size + 1), appS e.aff c) := by
  unfold appendPublicPoint
  by_cases h : e.z = 0
  · rw [(Ext.toAffine?_eq_none_iff e).mpr h, if_pos h]; rfl
  · rw [Ext.toAffine?_of_ne h, if_neg h]
    show (appendAffinePoint e.aff >>= fun w =>
      assertEqualConstant w.1 0 (some e.aff.1) >>= fun _ =>
      assertEqualConstant w.2 0 (some e.aff.2) >>= fun _ => pure (Except.ok w)).run c = _
    rw [run_bind', appendAffinePoint_run]; rfl

theorem appS_appends (a : Pt) (c : Composer) : Appends c (appS a c) 2 2 :=
  ((tfS1_appends a c).trans (assertEqualConstant_appends _ _ _ _)).trans
    (assertEqualConstant_appends _ _ _ _)

/-- state after `assert_equal_public_point` succeeded -/
def aeppS (p a : Pt) (c : Composer) : Composer :=
  ((assertEqualConstant p.2 0 (some a.2)).run ((assertEqualConstant p.1 0 (some a.1)).run c).2).2

/-- `assert_equal_public_point`: `Z = 0` ⇒ `JubJubPointDegenerate`, state unchanged;
    otherwise two public-input rows. -/
theorem assertEqualPublicPoint_run (p : Pt) (e : Ext) (c : Composer) :
    (assertEqualPublicPoint p e).run c =
      if e.z = 0 then (.error .degenerate, c) else (.ok (), aeppS p e.aff c) := by
  unfold assertEqualPublicPoint
  by_cases h : e.z = 0
  · rw [(Ext.toAffine?_eq_none_iff e).mpr h, if_pos h]; rfl
  · rw [Ext.toAffine?_of_ne h, if_neg h]; rfl

theorem aeppS_rows_iff (p a : Pt) (c : Composer) (h : WF c) (w : Nat → Nat) :
    (aeppS p a c).rowsHoldW w c.gates.size (aeppS p a c).gates.size ↔ ptW w p = toFP a := by
  have h1 := assertEqualConstant_appends p.1 0 (some a.1) c
  have h2 := assertEqualConstant_appends p.2 0 (some a.2)
    ((assertEqualConstant p.1 0 (some a.1)).run c).2
  unfold aeppS
  rw [h1.rows_split h2 w, assertEqualConstant_rows_iff _ _ _ _ h,
    assertEqualConstant_rows_iff _ _ _ _ (assertEqualConstant_wf _ _ _ _ h)]
  unfold toFP pubF ptW
  simp only [toF_zero, zero_add]
  rw [Prod.mk.injEq]

/-- `append_public_point` ends like `assert_equal_public_point` on the two fresh wires -/
theorem appS_rows_iff (a : Pt) (c : Composer) (h : WF c) (w : Nat → Nat) :
    (appS a c).rowsHoldW w c.gates.size (appS a c).gates.size ↔
      ptW w (c.wit.size, c.wit.size + 1) = toFP a :=
  aeppS_rows_iff (c.wit.size, c.wit.size + 1) a (apS a c) (tfS1_wf a c h) w

/-! ### `component_mul_generator`: host-side checks -/

theorem not_genOk_iff (e : Ext) :
    ¬ genOk e ↔ (e.z = 0 ∨ e.onCurve = false ∨ e.primeOrder = false) := by
  unfold genOk
  cases e.onCurve <;> cases e.primeOrder <;> simp

/-- `component_mul_generator` past its host-side checks (`Z = 0` first, so no projection of a
    degenerate point is attempted, then `is_on_curve`, `is_prime_order`, then the scalar below
    `r_J`): the fixed-base gates are laid down for the affine generator `(U/Z, V/Z)`. -/
theorem componentMulGenerator_run_ok (j : Nat) (e : Ext) (c : Composer)
    (h : ¬ (e.z = 0 ∨ e.onCurve = false ∨ e.primeOrder = false)) (hs : c.val j < RJ) :
    (componentMulGenerator j e).run c =
      (appendFixedBaseSignedDigits j e.aff (wnaf2 (c.val j))).run c := by
  rw [componentMulGenerator_run, if_neg (fun hg => h ((not_genOk_iff e).mp hg)),
    if_neg (Nat.not_le.mpr hs), Ext.toAffine?_of_ne (fun hz => h (Or.inl hz))]
  rfl

/-! ### the decisions as equivalences -/

/-- a result of the form `if z = 0 then (degenerate, c) else y` is the `Z = 0` error exactly
    when `z = 0`, provided the other branch is a different result -/
theorem fst_eq_degenerate_iff {α : Type} {z : Nat} {c : Composer}
    {r y : Except CErr α × Composer} (h : r = if z = 0 then (.error .degenerate, c) else y)
    (hy : y.1 ≠ .error .degenerate) : r.1 = .error .degenerate ↔ z = 0 := by
  rw [h]
  split
  · exact iff_of_true rfl ‹_›
  · exact iff_of_false hy ‹_›

theorem appendPoint_degenerate_iff (e : Ext) (c : Composer) :
    ((appendPoint e).run c).1 = .error .degenerate ↔ e.z = 0 :=
  fst_eq_degenerate_iff (appendPoint_run e c) nofun

theorem appendPublicPoint_degenerate_iff (e : Ext) (c : Composer) :
    ((appendPublicPoint e).run c).1 = .error .degenerate ↔ e.z = 0 :=
  fst_eq_degenerate_iff (appendPublicPoint_run e c) nofun

theorem assertEqualPublicPoint_degenerate_iff (p : Pt) (e : Ext) (c : Composer) :
    ((assertEqualPublicPoint p e).run c).1 = .error .degenerate ↔ e.z = 0 :=
  fst_eq_degenerate_iff (assertEqualPublicPoint_run p e c) nofun

theorem appendConstantPoint_degenerate_iff (e : Ext) (c : Composer) :
    ((appendConstantPoint e).run c).1 = .error .degenerate ↔ e.z = 0 :=
  fst_eq_degenerate_iff (appendConstantPoint_run_aff e c) (by split <;> exact nofun)

theorem appendConstantPoint_notTorsionFree_iff (e : Ext) (c : Composer) :
    ((appendConstantPoint e).run c).1 = .error .notTorsionFree ↔
      e.z ≠ 0 ∧ ¬ (e.onCurve = true ∧ e.torsionFree = true) := by
  rw [appendConstantPoint_run_aff]
  split
  · next hz => exact iff_of_false nofun (fun h => h.1 hz)
  · next hz =>
    split
    · next h => exact iff_of_false nofun (fun h' => h'.2 h)
    · next h => exact iff_of_true rfl ⟨hz, h⟩

theorem appendConstantPoint_ok_iff (e : Ext) (c : Composer) :
    (∃ p, ((appendConstantPoint e).run c).1 = .ok p) ↔
      e.z ≠ 0 ∧ e.onCurve = true ∧ e.torsionFree = true := by
  rw [appendConstantPoint_run_aff]
  split
  · next hz => exact iff_of_false (fun ⟨_, h⟩ => nomatch h) (fun h => h.1 hz)
  · next hz =>
    split
    · next h => exact iff_of_true ⟨_, rfl⟩ ⟨hz, h⟩
    · next h => exact iff_of_false (fun ⟨_, h'⟩ => nomatch h') (fun h' => h h'.2)

theorem appendConstantPoint_error_state (e : Ext) (c : Composer)
    (h : ¬ (e.z ≠ 0 ∧ e.onCurve = true ∧ e.torsionFree = true)) :
    ((appendConstantPoint e).run c).2 = c := by
  rw [appendConstantPoint_run_aff]
  split
  · rfl
  · next hz =>
    split
    · next h' => exact absurd ⟨hz, h'⟩ h
    · rfl

theorem appendConstantPoint_accepts_iff (e : Ext) (hz : e.z < R) :
    (e.z ≠ 0 ∧ e.onCurve = true ∧ e.torsionFree = true) ↔
      toF e.z ≠ 0 ∧ OnCurveP e.affF ∧ e.affF.1 * e.affF.2 * toF e.z = toF e.t1 * toF e.t2 ∧
      smulF RJ e.affF = idF := by
  have hzz : toF e.z ≠ 0 ↔ e.z ≠ 0 := by rw [Ne, toF_eq_zero_of_lt hz]
  constructor
  · rintro ⟨h0, h1, h2⟩
    obtain ⟨-, hc, ht⟩ := (Ext.onCurve_iff e).mp h1
    exact ⟨hzz.mpr h0, hc, ht, (Ext.torsionFree_iff h1 hz).mp h2⟩
  · rintro ⟨h0, hc, ht, hk⟩
    have h1 : e.onCurve = true := (Ext.onCurve_iff e).mpr ⟨hzz.mp h0, hc, ht⟩
    exact ⟨hzz.mp h0, h1, (Ext.torsionFree_iff h1 hz).mpr hk⟩

theorem componentMulGenerator_generatorNotPrime_iff (j : Nat) (e : Ext) (c : Composer) :
    ((componentMulGenerator j e).run c).1 = .error .generatorNotPrime ↔
      (e.z = 0 ∨ e.onCurve = false ∨ e.primeOrder = false) := by
  rw [componentMulGenerator_error_iff, ← not_genOk_iff]
  exact ⟨fun h => h.elim (fun h => h.2) (fun h => nomatch h.1), fun h => .inl ⟨rfl, h⟩⟩

theorem componentMulGenerator_scalarMalformed_iff (j : Nat) (e : Ext) (c : Composer) :
    ((componentMulGenerator j e).run c).1 = .error .scalarMalformed ↔
      ¬ (e.z = 0 ∨ e.onCurve = false ∨ e.primeOrder = false) ∧ RJ ≤ c.val j := by
  rw [componentMulGenerator_error_iff, ← not_genOk_iff, not_not]
  exact ⟨fun h => h.elim (fun h => nomatch h.1) (fun h => h.2), fun h => .inr ⟨rfl, h⟩⟩

theorem componentMulGenerator_error_state (j : Nat) (e : Ext) (c : Composer)
    (h : (e.z = 0 ∨ e.onCurve = false ∨ e.primeOrder = false) ∨ RJ ≤ c.val j) :
    ((componentMulGenerator j e).run c).2 = c := by
  rw [componentMulGenerator_run]
  split
  · rfl
  · next h1 =>
    rcases h with h | h
    · exact absurd ((not_genOk_iff e).mpr h) h1
    · rw [if_pos h]

/-! ### concrete instances (non-vacuity) -/

theorem exG_ext_onCurve : (Ext.ofAffine exG).onCurve = true := by decide +kernel
/-- test vector: the 252 rounds of `[r_J]·exG` in extended coordinates -/
theorem exG_ext_torsionFree : (Ext.ofAffine exG).torsionFree = true := by decide +kernel
theorem exG_ext_primeOrder : (Ext.ofAffine exG).primeOrder = true := by
  unfold Ext.primeOrder
  rw [exG_ext_torsionFree]
  decide +kernel

theorem id_ext_not_primeOrder : Ext.id.primeOrder = false := by
  have h : Ext.id.isIdentity = true := by decide +kernel
  unfold Ext.primeOrder
  rw [h, Bool.not_true, Bool.and_false]

theorem id_ext_onCurve : Ext.id.onCurve = true := by decide +kernel

theorem id_ext_torsionFree : Ext.id.torsionFree = true := by
  rw [Ext.torsionFree_iff id_ext_onCurve (Nat.mod_lt _ R_pos), affF_id]
  exact smulF_id RJ

theorem exG_torsion : smulF RJ (toFP exG) = idF := by
  have h := (Ext.torsionFree_iff exG_ext_onCurve (Nat.mod_lt _ R_pos)).mp exG_ext_torsionFree
  rwa [affF_ofAffine] at h

theorem exG_ne_id : toFP exG ≠ idF := by
  have h := (Ext.primeOrder_iff exG_ext_onCurve (ofAffine_red exG_lt.1 exG_lt.2)).mp
    exG_ext_primeOrder
  rw [affF_ofAffine] at h
  exact h.2

/-- the point `(0, −1)` of order 2, extended and in the field -/
def exT2 : Ext := ⟨0, R - 1, 1, 0, 0⟩
def exT2F : PtF := (0, -1)

theorem exT2_onCurve : exT2.onCurve = true := by decide +kernel

theorem exT2F_on_curve : OnCurveP exT2F := by
  unfold OnCurveP OnCurveF exT2F; ring

theorem exT2F_two : smulF 2 exT2F = idF := by
  rw [smulF_two]; unfold addF exT2F idF; simp

theorem exT2F_ne_id : exT2F ≠ idF := by
  unfold exT2F idF
  intro h
  rw [Prod.mk.injEq] at h
  exact neg_one_ne_one_F h.2

theorem RJ_odd : RJ = (RJ / 2) * 2 + 1 := by decide +kernel

/-- `[r_J](0, −1) = (0, −1) ≠ O`: a curve point outside the prime-order subgroup -/
theorem exT2F_not_torsion : smulF RJ exT2F ≠ idF := by
  have h : smulF RJ exT2F = exT2F := by
    rw [RJ_odd, smulF_succ, smulF_mul _ _ exT2F_on_curve, exT2F_two, smulF_id, id_addF]
  rw [h]; exact exT2F_ne_id

theorem affF_exT2 : exT2.affF = exT2F := by
  unfold Ext.affF exT2 exT2F
  simp [toF_R_sub_one]

theorem exT2_not_torsionFree : exT2.torsionFree = false := by
  rw [Bool.eq_false_iff, Ne, Ext.torsionFree_iff exT2_onCurve R_gt_one, affF_exT2]
  exact exT2F_not_torsion

/-- a concrete composer: `initialized` plus the point `p` on the wires `(6, 7)` -/
def tfExC (p : Pt) : Composer := apS p initialized

theorem tfExC_wf (p : Pt) : WF (tfExC p) := tfS1_wf p _ initialized_wf

theorem tfExC_alloc (p : Pt) : PtAlloc (tfExC p) (6, 7) := by
  have h : (tfExC p).wit.size = 6 + 2 := by
    rw [← initialized_wit_size]; exact (tfS1_appends p initialized).wit
  exact ⟨by rw [h]; decide, by rw [h]; decide⟩

theorem tfExC_val_nat (p : Pt) : (tfExC p).val 6 = p.1 % R ∧ (tfExC p).val 7 = p.2 % R := by
  have h0 := tfS1_val0 p initialized
  have h1 := tfS1_val1 p initialized
  rw [initialized_wit_size] at h0 h1
  exact ⟨h0, h1⟩

theorem tfExC_val (p : Pt) : ptW (tfExC p).val (6, 7) = toFP p := by
  have h := apS_ptW p initialized
  rwa [initialized_wit_size] at h

theorem toFP_exT2 : toFP (0, R - 1) = exT2F := by
  unfold toFP exT2F; simp [toF_R_sub_one]

end Composer
end Plonk
