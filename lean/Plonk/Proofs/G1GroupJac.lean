/-
  G1 group law, part 2: the Jacobian model (`J1.ofAffine toAffine double add` of
  `Plonk/Model/Bls.lean`) agrees with the affine model `G1.add`, for every representable input
  (including `P = Q`, `P = −Q`, infinity: `J1.add` falls back to `double` / `inf`).
-/
import Plonk.Proofs.G1GroupAffine

set_option Elab.async false

namespace Plonk

theorem ne_zero_of_toP {a : Nat} (h : toP a ≠ 0) : a ≠ 0 := by rintro rfl; exact h toP_zero
theorem toP_ne_zero_of_lt {a : Nat} (h : a < P) (h0 : a ≠ 0) : toP a ≠ 0 :=
  fun e => h0 ((toP_eq_zero_of_lt h).mp e)

namespace J1

/-- `j` is a reduced Jacobian representative of the valid affine point `p`:
    `Z = 0` and `p = ∞`, or `Z ≠ 0`, `x = X / Z²`, `y = Y / Z³` -/
def Rep (j : J1) : G1 → Prop
  | .inf => j.x < P ∧ j.y < P ∧ j.z = 0
  | .aff x y => (G1.aff x y).Valid ∧ j.x < P ∧ j.y < P ∧ j.z < P ∧ j.z ≠ 0 ∧
      toP j.x = toP x * toP j.z ^ 2 ∧ toP j.y = toP y * toP j.z ^ 3

theorem Rep.valid {j : J1} {p : G1} (h : Rep j p) : p.Valid := by
  cases p with
  | inf => trivial
  | aff x y => exact h.1

theorem Rep.red {j : J1} {p : G1} (h : Rep j p) : j.x < P ∧ j.y < P ∧ j.z < P := by
  cases p with
  | inf => exact ⟨h.1, h.2.1, by have := h.2.2; have := P_pos; omega⟩
  | aff x y => exact ⟨h.2.1, h.2.2.1, h.2.2.2.1⟩

theorem Rep.z_eq_zero_iff {j : J1} {p : G1} (h : Rep j p) : j.z = 0 ↔ p = .inf := by
  cases p with
  | inf => exact ⟨fun _ => rfl, fun _ => h.2.2⟩
  | aff x y => exact ⟨fun e => absurd e h.2.2.2.2.1, fun e => by cases e⟩

/-! the affine case of `Rep`, by name -/

theorem Rep.z_ne {j : J1} {x y : Nat} (h : Rep j (.aff x y)) : j.z ≠ 0 := h.2.2.2.2.1
theorem Rep.toP_z_ne {j : J1} {x y : Nat} (h : Rep j (.aff x y)) : toP j.z ≠ 0 :=
  toP_ne_zero_of_lt h.2.2.2.1 h.z_ne
theorem Rep.x_eq {j : J1} {x y : Nat} (h : Rep j (.aff x y)) : toP j.x = toP x * toP j.z ^ 2 := h.2.2.2.2.2.1
theorem Rep.y_eq {j : J1} {x y : Nat} (h : Rep j (.aff x y)) : toP j.y = toP y * toP j.z ^ 3 := h.2.2.2.2.2.2

theorem one_lt_P : 1 < P := by decide +kernel

theorem inf_rep : Rep inf .inf := ⟨one_lt_P, one_lt_P, rfl⟩

theorem ofAffine_rep {p : G1} (hp : p.Valid) : Rep (ofAffine p) p := by
  cases p with
  | inf => exact inf_rep
  | aff x y =>
    refine ⟨hp, hp.1, hp.2.1, one_lt_P, Nat.one_ne_zero, ?_, ?_⟩
    · show toP x = toP x * toP 1 ^ 2; rw [toP_one]; ring
    · show toP y = toP y * toP 1 ^ 3; rw [toP_one]; ring

theorem toAffine_eq (p : J1) : p.toAffine =
    if p.z = 0 then .inf else
      .aff (pmul p.x (psq (pinv p.z))) (pmul p.y (pmul (psq (pinv p.z)) (pinv p.z))) := by
  simp only [J1.toAffine, beq_iff_eq]

theorem toAffine_rep {j : J1} {p : G1} (h : Rep j p) : j.toAffine = p := by
  cases p with
  | inf => rw [toAffine_eq, if_pos h.2.2]
  | aff x y =>
    obtain ⟨hv, _, _, _, hz, hX, hY⟩ := h
    have hz' : toP j.z ≠ 0 := toP_ne_zero_of_lt ‹_› hz
    rw [toAffine_eq, if_neg hz]
    have e1 : pmul j.x (psq (pinv j.z)) = x := by
      rw [← toP_inj_of_lt (pmul_lt _ _) hv.1]
      simp only [toP_pmul, toP_psq, toP_pinv, hX]
      field_simp
    have e2 : pmul j.y (pmul (psq (pinv j.z)) (pinv j.z)) = y := by
      rw [← toP_inj_of_lt (pmul_lt _ _) hv.2.1]
      simp only [toP_pmul, toP_psq, toP_pinv, hY]
      field_simp
    rw [e1, e2]

theorem double_eq (p : J1) : p.double =
    if p.z = 0 ∨ p.y = 0 then J1.inf else
      ⟨psub (psq (pmul 3 (psq p.x))) (pmul 2 (pmul 2 (psub (psub (psq (padd p.x (psq p.y))) (psq p.x)) (psq (psq p.y))))),
       psub (pmul (pmul 3 (psq p.x)) (psub (pmul 2 (psub (psub (psq (padd p.x (psq p.y))) (psq p.x)) (psq (psq p.y))))
         (psub (psq (pmul 3 (psq p.x))) (pmul 2 (pmul 2 (psub (psub (psq (padd p.x (psq p.y))) (psq p.x)) (psq (psq p.y))))))))
         (pmul 8 (psq (psq p.y))),
       pmul (pmul 2 p.y) p.z⟩ := by
  simp only [J1.double, Bool.or_eq_true, beq_iff_eq]

theorem add_eq (p q : J1) : p.add q =
    if p.z = 0 then q else if q.z = 0 then p else
    if pmul p.x (psq q.z) = pmul q.x (psq p.z) then
      (if pmul (pmul p.y q.z) (psq q.z) = pmul (pmul q.y p.z) (psq p.z) then p.double else J1.inf)
    else
      ⟨psub (psub (psq (pmul 2 (psub (pmul (pmul q.y p.z) (psq p.z)) (pmul (pmul p.y q.z) (psq q.z)))))
          (pmul (psub (pmul q.x (psq p.z)) (pmul p.x (psq q.z))) (psq (pmul 2 (psub (pmul q.x (psq p.z)) (pmul p.x (psq q.z)))))))
          (pmul 2 (pmul (pmul p.x (psq q.z)) (psq (pmul 2 (psub (pmul q.x (psq p.z)) (pmul p.x (psq q.z))))))),
       psub (pmul (pmul 2 (psub (pmul (pmul q.y p.z) (psq p.z)) (pmul (pmul p.y q.z) (psq q.z))))
          (psub (pmul (pmul p.x (psq q.z)) (psq (pmul 2 (psub (pmul q.x (psq p.z)) (pmul p.x (psq q.z))))))
            (psub (psub (psq (pmul 2 (psub (pmul (pmul q.y p.z) (psq p.z)) (pmul (pmul p.y q.z) (psq q.z)))))
          (pmul (psub (pmul q.x (psq p.z)) (pmul p.x (psq q.z))) (psq (pmul 2 (psub (pmul q.x (psq p.z)) (pmul p.x (psq q.z)))))))
          (pmul 2 (pmul (pmul p.x (psq q.z)) (psq (pmul 2 (psub (pmul q.x (psq p.z)) (pmul p.x (psq q.z))))))))))
          (pmul 2 (pmul (pmul (pmul p.y q.z) (psq q.z)) (pmul (psub (pmul q.x (psq p.z)) (pmul p.x (psq q.z))) (psq (pmul 2 (psub (pmul q.x (psq p.z)) (pmul p.x (psq q.z)))))))),
       pmul (psub (psub (psq (padd p.z q.z)) (psq p.z)) (psq q.z)) (psub (pmul q.x (psq p.z)) (pmul p.x (psq q.z)))⟩ := by
  simp only [J1.add, beq_iff_eq]

/-- Jacobian doubling (dbl-2009-l) represents the affine doubling -/
theorem double_rep {j : J1} {p : G1} (h : Rep j p) : Rep j.double (p.add p) := by
  cases p with
  | inf =>
    rw [double_eq, if_pos (Or.inl h.2.2)]; exact inf_rep
  | aff x y =>
    obtain ⟨hv, hjx, hjy, hjz, hz, hX, hY⟩ := h
    have hc := (G1.onCurve_aff_iff x y).mp hv.onCurve
    have hy0 : toP y ≠ 0 := G1.y_ne_zero hc
    have hy0' : y ≠ 0 := ne_zero_of_toP hy0
    have hz' : toP j.z ≠ 0 := toP_ne_zero_of_lt hjz hz
    have hY0 : toP j.y ≠ 0 := by rw [hY]; exact mul_ne_zero hy0 (pow_ne_zero _ hz')
    have hY0' : j.y ≠ 0 := ne_zero_of_toP hY0
    have h2 : (2 : Fp) ≠ 0 := Fp_two_ne_zero
    have hadd := G1.add_valid hv hv
    rw [G1.add_aff_eq, if_pos rfl, if_pos ⟨rfl, hy0'⟩] at hadd ⊢
    rw [double_eq, if_neg (by rintro (h | h); exact hz h; exact hY0' h)]
    refine ⟨hadd, psub_lt _ _, psub_lt _ _, pmul_lt _ _, ne_zero_of_toP ?_, ?_, ?_⟩
    · simp only [toP_pmul, toP_two]
      exact mul_ne_zero (mul_ne_zero Fp_two_ne_zero hY0) hz'
    · simp only [toP_psub, toP_psq, toP_pmul, toP_padd, toP_pinv, toP_two, toP_three, hX, hY]
      field_simp
      ring
    · simp only [toP_psub, toP_psq, toP_pmul, toP_padd, toP_pinv, toP_two, toP_three, toP_eight, hX, hY]
      field_simp
      ring

theorem u_eq_iff {X1 Z1 X2 Z2 x1 x2 : Nat} (hx1 : x1 < P) (hx2 : x2 < P)
    (hz1 : toP Z1 ≠ 0) (hz2 : toP Z2 ≠ 0)
    (hX1 : toP X1 = toP x1 * toP Z1 ^ 2) (hX2 : toP X2 = toP x2 * toP Z2 ^ 2) :
    pmul X1 (psq Z2) = pmul X2 (psq Z1) ↔ x1 = x2 := by
  rw [← toP_inj_of_lt (pmul_lt _ _) (pmul_lt _ _), ← toP_inj_of_lt hx1 hx2]
  simp only [toP_pmul, toP_psq, hX1, hX2]
  refine Iff.trans ?_ (mul_left_inj' (mul_ne_zero (pow_ne_zero 2 hz1) (pow_ne_zero 2 hz2)))
  constructor <;> intro h <;> linear_combination h

theorem s_eq_iff {Y1 Z1 Y2 Z2 y1 y2 : Nat} (hy1 : y1 < P) (hy2 : y2 < P)
    (hz1 : toP Z1 ≠ 0) (hz2 : toP Z2 ≠ 0)
    (hY1 : toP Y1 = toP y1 * toP Z1 ^ 3) (hY2 : toP Y2 = toP y2 * toP Z2 ^ 3) :
    pmul (pmul Y1 Z2) (psq Z2) = pmul (pmul Y2 Z1) (psq Z1) ↔ y1 = y2 := by
  rw [← toP_inj_of_lt (pmul_lt _ _) (pmul_lt _ _), ← toP_inj_of_lt hy1 hy2]
  simp only [toP_pmul, toP_psq, hY1, hY2]
  refine Iff.trans ?_ (mul_left_inj' (mul_ne_zero (pow_ne_zero 3 hz1) (pow_ne_zero 3 hz2)))
  constructor <;> intro h <;> linear_combination h

/-- the generic (chord) branch of `J1.add` (add-2007-bl) -/
theorem add_rep_chord {j k : J1} {x1 y1 x2 y2 : Nat} (h1 : Rep j (.aff x1 y1)) (h2 : Rep k (.aff x2 y2))
    (hx : x1 ≠ x2) : Rep (j.add k) ((G1.aff x1 y1).add (.aff x2 y2)) := by
  obtain ⟨hv1, hjx, hjy, hjz, hz1, hX1, hY1⟩ := h1
  obtain ⟨hv2, hkx, hky, hkz, hz2, hX2, hY2⟩ := h2
  have hz1' : toP j.z ≠ 0 := toP_ne_zero_of_lt hjz hz1
  have hz2' : toP k.z ≠ 0 := toP_ne_zero_of_lt hkz hz2
  have hu := (u_eq_iff hv1.1 hv2.1 hz1' hz2' hX1 hX2).not.mpr hx
  have hx' : toP x2 - toP x1 ≠ 0 :=
    sub_ne_zero.mpr fun h => hx ((toP_inj_of_lt hv2.1 hv1.1).mp h).symm
  have hadd := G1.add_valid hv1 hv2
  rw [G1.add_aff_eq, if_neg hx] at hadd ⊢
  rw [add_eq, if_neg hz1, if_neg hz2, if_neg hu]
  refine ⟨hadd, psub_lt _ _, psub_lt _ _, pmul_lt _ _, ne_zero_of_toP ?_, ?_, ?_⟩
  · simp only [toP_psub, toP_psq, toP_pmul, toP_padd, hX1, hX2]
    have e : ((toP j.z + toP k.z) * (toP j.z + toP k.z) - toP j.z * toP j.z - toP k.z * toP k.z) *
        (toP x2 * toP k.z ^ 2 * (toP j.z * toP j.z) - toP x1 * toP j.z ^ 2 * (toP k.z * toP k.z)) =
        2 * (toP j.z * toP k.z) ^ 3 * (toP x2 - toP x1) := by ring
    rw [e]
    exact mul_ne_zero (mul_ne_zero Fp_two_ne_zero (pow_ne_zero _ (mul_ne_zero hz1' hz2'))) hx'
  · simp only [toP_psub, toP_psq, toP_pmul, toP_padd, toP_pinv, toP_two, hX1, hX2, hY1, hY2]
    field_simp
    ring
  · simp only [toP_psub, toP_psq, toP_pmul, toP_padd, toP_pinv, toP_two, hX1, hX2, hY1, hY2]
    field_simp
    ring

/-- Jacobian addition represents the affine addition, in every case -/
theorem add_rep {j k : J1} {p q : G1} (h1 : Rep j p) (h2 : Rep k q) : Rep (j.add k) (p.add q) := by
  cases p with
  | inf => rw [G1.inf_add, add_eq, if_pos h1.2.2]; exact h2
  | aff x1 y1 =>
    cases q with
    | inf => rw [G1.add_inf, add_eq, if_neg h1.z_ne, if_pos h2.2.2]; exact h1
    | aff x2 y2 =>
      by_cases hx : x1 = x2
      · subst hx
        have hu := (u_eq_iff h1.valid.1 h2.valid.1 h1.toP_z_ne h2.toP_z_ne h1.x_eq h2.x_eq).mpr rfl
        have hs := s_eq_iff h1.valid.2.1 h2.valid.2.1 h1.toP_z_ne h2.toP_z_ne h1.y_eq h2.y_eq
        rw [add_eq, if_neg h1.z_ne, if_neg h2.z_ne, if_pos hu]
        by_cases hy : y1 = y2
        · subst hy
          rw [if_pos (hs.mpr rfl)]
          exact double_rep h1
        · rw [if_neg (hs.not.mpr hy), G1.add_aff_eq, if_pos rfl, if_neg (fun h => hy h.1)]
          exact inf_rep
      · exact add_rep_chord h1 h2 hx

end J1

end Plonk
