/-
  C05 (permutation half), part 1: the four cosets `H, K1·H, K2·H, K3·H` of the evaluation domain
  are pairwise disjoint, so `(col, i) ↦ K_col · ω^i` is injective on `{0..3} × {0..n-1}`.
-/
import Mathlib.RingTheory.RootsOfUnity.PrimitiveRoots
import Plonk.Model.Prover
import Plonk.Proofs.FieldBridge

namespace Plonk
namespace Perm

/-- the `2^32`-th powers of the coset representatives `1, K1, K2, K3` are pairwise different
    (kernel computation) -/
theorem kOf_pow_distinct :
    ∀ a, a < 4 → ∀ b, b < 4 → fpow (kOf a) (2 ^ 32) = fpow (kOf b) (2 ^ 32) → a = b := by
  decide +kernel

theorem kOf_lt (a : Nat) : kOf a < R := by
  unfold kOf; split <;> decide +kernel

theorem kOf_ne_zero (a : Nat) : toF (kOf a) ≠ 0 := by
  rw [Ne, toF_eq_zero_of_lt (kOf_lt a)]
  unfold kOf; split <;> decide

/-- a power of a `2^k`-th root of unity (`k ≤ 32`) is killed by the exponent `2^32` -/
theorem pow_two32_eq_one {ω : F} {k : Nat} (hk : k ≤ 32) (hω : ω ^ (2 ^ k) = 1) (i : Nat) :
    (ω ^ i) ^ (2 ^ 32) = 1 := by
  have e : (2:Nat) ^ 32 = 2 ^ k * 2 ^ (32 - k) := by rw [← Nat.pow_add]; congr 1; omega
  rw [← pow_mul, Nat.mul_comm, pow_mul, e, pow_mul, hω, one_pow, one_pow]

/-- the cosets are disjoint (field level): `K_a ω^i = K_b ω^j` forces `a = b` and
    `ω^i = ω^j` -/
theorem coset_disjoint {ω : F} {k : Nat} (hk : k ≤ 32) (hω : ω ^ (2 ^ k) = 1)
    {a b : Nat} (ha : a < 4) (hb : b < 4) {i j : Nat}
    (h : toF (kOf a) * ω ^ i = toF (kOf b) * ω ^ j) : a = b ∧ ω ^ i = ω ^ j := by
  have h2 := congrArg (· ^ (2 ^ 32)) h
  simp only [mul_pow, pow_two32_eq_one hk hω, mul_one] at h2
  have hlt : (2:Nat) ^ 32 < 2 ^ 256 := Nat.pow_lt_pow_right (by omega) (by omega)
  rw [← toF_fpow _ _ hlt, ← toF_fpow _ _ hlt,
    toF_inj_of_lt (fpow_lt _ _) (fpow_lt _ _)] at h2
  have hab := kOf_pow_distinct a ha b hb h2
  subst hab
  exact ⟨rfl, mul_left_cancel₀ (kOf_ne_zero a) h⟩

/-- the cosets are disjoint: for a primitive `n`-th root of unity, `n = 2^k`, `k ≤ 32`,
    `K_a ω^i = K_b ω^j → a = b ∧ i ≡ j (mod n)` -/
theorem coset_disjoint_mod {ω : F} {k : Nat} (hk : k ≤ 32) (hω : IsPrimitiveRoot ω (2 ^ k))
    {a b : Nat} (ha : a < 4) (hb : b < 4) {i j : Nat}
    (h : toF (kOf a) * ω ^ i = toF (kOf b) * ω ^ j) : a = b ∧ i ≡ j [MOD 2 ^ k] := by
  obtain ⟨hab, hij⟩ := coset_disjoint hk hω.pow_eq_one ha hb h
  have hfin : IsOfFinOrder ω := hω.isOfFinOrder (Nat.pos_iff_ne_zero.mp (Nat.pow_pos (by omega)))
  have := hfin.pow_eq_pow_iff_modEq.mp hij
  rw [← hω.eq_orderOf] at this
  exact ⟨hab, this⟩

/-- the identity permutation's field label of a wire position -/
noncomputable def idLabel (ω : F) (p : Nat × Nat) : F := toF (kOf p.1) * ω ^ p.2

/-- `(col, i) ↦ K_col · ω^i` is injective on `{0..3} × {0..n-1}` -/
theorem idLabel_injOn {ω : F} {k : Nat} (hk : k ≤ 32) (hω : IsPrimitiveRoot ω (2 ^ k))
    {p q : Nat × Nat} (hp1 : p.1 < 4) (hp2 : p.2 < 2 ^ k) (hq1 : q.1 < 4) (hq2 : q.2 < 2 ^ k)
    (h : idLabel ω p = idLabel ω q) : p = q := by
  obtain ⟨h1, h2⟩ := coset_disjoint hk hω.pow_eq_one hp1 hq1 h
  exact Prod.ext h1 (hω.pow_inj hp2 hq2 h2)

/-- the same for the model's `Nat` computation `fmul (kOf col) root` where `root` represents
    `ω^i` -/
theorem fmul_kOf_inj {ω : F} {k : Nat} (hk : k ≤ 32) (hω : IsPrimitiveRoot ω (2 ^ k))
    {a b i j ri rj : Nat} (ha : a < 4) (hb : b < 4) (hi : i < 2 ^ k) (hj : j < 2 ^ k)
    (hri : toF ri = ω ^ i) (hrj : toF rj = ω ^ j)
    (h : fmul (kOf a) ri = fmul (kOf b) rj) : a = b ∧ i = j := by
  have h' : toF (kOf a) * ω ^ i = toF (kOf b) * ω ^ j := by
    rw [← hri, ← hrj, ← toF_fmul, ← toF_fmul, h]
  obtain ⟨h1, h2⟩ := coset_disjoint hk hω.pow_eq_one ha hb h'
  exact ⟨h1, hω.pow_inj hi hj h2⟩

end Perm
end Plonk
