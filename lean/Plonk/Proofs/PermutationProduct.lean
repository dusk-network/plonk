/-
  C05 (permutation half), part 6: soundness and completeness of the grand-product check
  `∏ (val p + β·id p + γ) = ∏ (val p + β·id(σ p) + γ)` (mathematical level, any field).
-/
import Mathlib.Algebra.Polynomial.Roots
import Mathlib.Algebra.Polynomial.BigOperators
import Mathlib.Algebra.BigOperators.Group.Finset.Basic
import Mathlib.Tactic.LinearCombination
import Mathlib.Tactic.Ring

namespace Plonk
namespace Perm

open Polynomial

variable {K : Type} [Field K] {ι : Type}

/-- the polynomial (in `γ`) of one side of the check, for a fixed `β` -/
noncomputable def sidePoly (S : Finset ι) (val lab : ι → K) (β : K) : K[X] :=
  ∏ p ∈ S, (X + C (val p + β * lab p))

theorem sidePoly_natDegree_le (S : Finset ι) (val lab : ι → K) (β : K) :
    (sidePoly S val lab β).natDegree ≤ S.card := by
  unfold sidePoly
  refine (natDegree_prod_le _ _).trans ?_
  rw [Finset.card_eq_sum_ones]
  exact Finset.sum_le_sum (fun p _ => by rw [natDegree_X_add_C])

theorem sidePoly_eval (S : Finset ι) (val lab : ι → K) (β γ : K) :
    (sidePoly S val lab β).eval γ = ∏ p ∈ S, (val p + β * lab p + γ) := by
  unfold sidePoly
  rw [eval_prod]
  refine Finset.prod_congr rfl (fun p _ => ?_)
  simp only [eval_add, eval_X, eval_C]
  ring

/-- the set of challenges `β` for which two different (value, label) pairs collide -/
noncomputable def badBeta [DecidableEq K] (S : Finset ι) (val idl : ι → K) (σ : ι → ι) : Finset K :=
  (S ×ˢ S).image fun pq => (val pq.1 - val pq.2) / (idl pq.2 - idl (σ pq.1))

theorem badBeta_card_le [DecidableEq K] (S : Finset ι) (val idl : ι → K) (σ : ι → ι) :
    (badBeta S val idl σ).card ≤ S.card * S.card := by
  unfold badBeta
  refine Finset.card_image_le.trans ?_
  rw [Finset.card_product]

/-- soundness for one `β`: if `β` is not a bad challenge and the two sides agree as
    polynomials in `γ`, the values respect `σ` -/
theorem sound_of_sidePoly_eq [DecidableEq K] (S : Finset ι) (val idl : ι → K) (σ : ι → ι)
    (hσ : ∀ p ∈ S, σ p ∈ S) (hinj : Set.InjOn idl (S : Set ι)) (β : K) (hβ : β ∉ badBeta S val idl σ)
    (h : sidePoly S val idl β = sidePoly S val (fun p => idl (σ p)) β) :
    ∀ p ∈ S, val (σ p) = val p := by
  intro p hp
  -- `-(val p + β·idl (σ p))` is a root of the σ-side, hence of the identity side: some factor `q` vanishes
  have h1 : (sidePoly S val (fun p => idl (σ p)) β).eval (-(val p + β * idl (σ p))) = 0 := by
    rw [sidePoly_eval]
    exact Finset.prod_eq_zero hp (add_neg_cancel _)
  rw [← h, sidePoly_eval, Finset.prod_eq_zero_iff] at h1
  obtain ⟨q, hq, hq0⟩ := h1
  rw [add_neg_eq_zero] at hq0
  by_cases hl : idl q = idl (σ p)
  · have : q = σ p := hinj hq (hσ p hp) hl
    subst this
    exact add_right_cancel hq0
  · refine absurd (Finset.mem_image.2 ⟨(p, q), Finset.mem_product.mpr ⟨hp, hq⟩, ?_⟩) hβ
    rw [div_eq_iff (sub_ne_zero.mpr hl)]
    show val p - val q = β * (idl q - idl (σ p))
    linear_combination (-1 : K) * hq0

/-- there is a set of at most `|S|²` bad challenges `β` (depending only
    on the committed values, the labels and `σ`) such that for every other `β`, if the two grand
    products agree for more than `|S|` values of `γ`, then `val (σ p) = val p` for all `p ∈ S`. -/
theorem perm_product_sound [DecidableEq K] (S : Finset ι) (val idl : ι → K) (σ : ι → ι)
    (hσ : ∀ p ∈ S, σ p ∈ S) (hinj : Set.InjOn idl (S : Set ι)) :
    ∃ B : Finset K, B.card ≤ S.card * S.card ∧
      ∀ β, β ∉ B → ∀ Γ : Finset K, S.card < Γ.card →
        (∀ γ ∈ Γ, ∏ p ∈ S, (val p + β * idl p + γ) = ∏ p ∈ S, (val p + β * idl (σ p) + γ)) →
        ∀ p ∈ S, val (σ p) = val p := by
  refine ⟨badBeta S val idl σ, badBeta_card_le S val idl σ, ?_⟩
  intro β hβ Γ hΓ hprod
  apply sound_of_sidePoly_eq S val idl σ hσ hinj β hβ
  apply eq_of_natDegree_lt_card_of_eval_eq' _ _ Γ
  · intro γ hγ
    rw [sidePoly_eval, sidePoly_eval]
    exact hprod γ hγ
  · exact lt_of_le_of_lt (max_le (sidePoly_natDegree_le _ _ _ _) (sidePoly_natDegree_le _ _ _ _)) hΓ

/-- the two-variable form: the identity of the two products as polynomials in `γ` over `K[β]`
    forces `val (σ p) = val p` (no exceptional set) -/
theorem perm_product_sound_poly (S : Finset ι) (val idl : ι → K) (σ : ι → ι)
    (hσ : ∀ p ∈ S, σ p ∈ S) (hinj : Set.InjOn idl (S : Set ι))
    (h : (∏ p ∈ S, (X + C (C (val p) + X * C (idl p))) : K[X][X]) =
         ∏ p ∈ S, (X + C (C (val p) + X * C (idl (σ p))))) :
    ∀ p ∈ S, val (σ p) = val p := by
  intro p hp
  have h1 : (∏ p ∈ S, (X + C (C (val p) + X * C (idl (σ p)))) : K[X][X]).eval
      (-(C (val p) + X * C (idl (σ p)))) = 0 := by
    rw [eval_prod]
    exact Finset.prod_eq_zero hp (by rw [eval_add, eval_X, eval_C, neg_add_cancel])
  rw [← h, eval_prod, Finset.prod_eq_zero_iff] at h1
  obtain ⟨q, hq, hq0⟩ := h1
  rw [eval_add, eval_X, eval_C, neg_add_eq_zero] at hq0
  -- compare the coefficients of the two linear polynomials in `β`
  have e0 := congrArg (fun f => f.coeff 0) hq0
  have e1 := congrArg (fun f => f.coeff 1) hq0
  simp only [coeff_add, coeff_C_zero, coeff_X_mul_zero, add_zero, coeff_C_succ, coeff_X_mul, zero_add] at e0 e1
  have : q = σ p := hinj hq (hσ p hp) e1.symm
  subst this
  exact e0.symm

/-- completeness: if the values respect a `σ` that permutes `S`, the two grand products agree
    for all `β`, `γ` -/
theorem perm_product_complete (S : Finset ι) (val idl : ι → K) (σ : ι → ι)
    (hσ : ∀ p ∈ S, σ p ∈ S) (hinj : Set.InjOn σ (S : Set ι)) (hsurj : Set.SurjOn σ (S : Set ι) (S : Set ι))
    (hval : ∀ p ∈ S, val (σ p) = val p) (β γ : K) :
    ∏ p ∈ S, (val p + β * idl p + γ) = ∏ p ∈ S, (val p + β * idl (σ p) + γ) := by
  symm
  refine Finset.prod_nbij σ hσ hinj hsurj ?_
  intro p hp
  rw [hval p hp]

end Perm
end Plonk
