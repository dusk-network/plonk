/-
  Glue for `fixed_base.rs`: `assert_canonical_jubjub_scalar`, `append_fixed_base_signed_digits`,
  `component_mul_generator`.  The canonical-scalar check is the chain of the specifications of
  its three steps.  The inner rows of the ladder read their successor, so the ladder is
  specified as a unit from its explicit output state `fbOut`: its rows are a relation between
  consecutive accumulators (`FbChain`), from which digit extraction, the no-wrap argument and
  `[s]G` for the returned point follow (`fbRel_sound`), and which a table holding the host's
  accumulators satisfies for any admissible digit vector (`fbRel_honest`).  The component is the
  chain of the two (`appendFixedBaseSignedDigits_spec`).
-/
import Plonk.Proofs.Range
import Plonk.Proofs.Trunc
import Plonk.Proofs.Arith
import Plonk.Proofs.ScalarMath
import Plonk.Proofs.FixedBaseRows
import Plonk.Proofs.EdwardsExamples

namespace Plonk
open Plonk.Composer

namespace Composer

/-! ### general facts: framing, specifications, `gate_add` -/

theorem AppendsL.lastPlain {a b : Composer} {k m : Nat} (h : AppendsL a b (k + 1) m) :
    LastPlain b :=
  fun i hi => h.last_plain i (by have := h.gates; omega) hi

/-- a program whose final state is known explicitly and whose rows mean exactly `S` there (only
    the last appended gate need be plain) -/
theorem Spec.of_state {α : Type} {m : CM α} {c c' : Composer} {a : α} {g j : Nat}
    {S V : (Nat → Nat) → Prop} (h : m.run c = (a, c')) (hA : AppendsL c c' g j)
    (hpi : PiFresh c → PiFresh c') (hred : ∀ i, c.wit.size ≤ i → c'.val i < R)
    (hrows : PiFresh c → ∀ w, c'.rowsHoldW w c.gates.size c'.gates.size ↔ S w)
    (hV : ∀ {c''}, Extends c' c'' → V c''.val) : Spec 1 m c a g j S V S := by
  obtain rfl : (m.run c).1 = a := congrArg Prod.fst h
  obtain rfl : (m.run c).2 = c' := congrArg Prod.snd h
  exact
    { fst := rfl, appendsL := hA, piFresh := hpi, red := hred, vals := hV
      sound := fun hc _ hext w hr => (hrows hc w).mp ((hA.rows_ext hext w).mp hr)
      complete := fun hc _ hext hS => (hA.rows_ext hext _).mpr ((hrows hc _).mpr hS)
      conv := fun _ hc w hS => (hrows hc w).mpr hS
      plain := fun hk => absurd hk (by decide) }

theorem gateAdd_pis (s : Constraint) (c : Composer) (h : s.hasPi = false) :
    ((gateAdd s).run c).2.pis = c.pis := by
  rw [gateAdd_snd]
  obtain ⟨cv, -, hr⟩ := appendEvaluatedOutput_some (gateAddC s) c (toF_gateAddC_qo s)
  rw [hr]
  have : (Constraint.arithmetic { gateAddC s with c := c.wit.size }).hasPi = false := by
    unfold gateAddC Constraint.arithmetic Constraint.fromExternal; exact h
  simp only [appendGate_run, appendCustomGate_run, appendWitness_run, this]
  rfl

/-! ### `assert_canonical_jubjub_scalar`

  The width `n` is a parameter (instantiated with `JUBJUB_SCALAR_BITS` only in the final
  statement): with a literal width the unifier evaluates the range check symbolically as soon as
  it has to compare a run of the gadget with anything but the same term.  So below a state
  `(r, c').2` is reduced (`dsimp only`) before a fact about `c'` is applied to it. -/

theorem scalar_bits_le : JUBJUB_SCALAR_BITS ≤ 254 := by decide

/-- `assert_canonical_jubjub_scalar` with the width as a parameter -/
def canonM (n s : Nat) : CM Unit := do
  rangeCheck s n
  let dist ← gateAdd { ql := R - 1, a := s, qc := (RJ - 1) % R }
  rangeCheck dist n

theorem assertCanonicalJubjubScalar_eq (s : Nat) :
    assertCanonicalJubjubScalar s = canonM JUBJUB_SCALAR_BITS s := rfl

/-- gates appended by the canonical-scalar gadget: two range checks and the distance gate -/
def canonGateCount (n : Nat) : Nat := 2 * rangeGateCount n + 1
/-- witnesses appended: the accumulators of the two range checks and the distance -/
def canonWitCount (n : Nat) : Nat := 2 * rangeWitCount n + 1

/-- Both range bounds, for any width: the scalar and its distance `(r_J − 1) − scalar` from the
    largest canonical value are below `2^n`. -/
theorem canonM_spec (n s : Nat) (c : Composer) :
    Spec 0 (canonM n s) c () (canonGateCount n) (canonWitCount n)
      (fun w => n ≤ 254 → toF (w 0) = 0 →
        (toF (w s)).val < 2 ^ n ∧ (toF ((RJ - 1) % R) - toF (w s)).val < 2 ^ n)
      (fun _ => True)
      (fun v => s < c.wit.size ∧ v 0 = 0 ∧ v s < 2 ^ n ∧
        (toF ((RJ - 1) % R) - toF (v s)).val < 2 ^ n) := by
  unfold canonM
  apply Spec.mono
  · apply (rangeCheck_spec _ _ _).bind
    apply (gateSub_spec _ _ _).bind
    exact rangeCheck_spec _ _ _
  · exact Nat.le_refl 0
  · rfl
  · unfold canonGateCount; omega
  · unfold canonWitCount; omega
  · rintro w ⟨b₁, r, b₂⟩ hn h0
    exact ⟨b₁ hn h0, r ▸ b₂ hn h0⟩
  · exact fun h => absurd h (by decide)
  · exact fun _ _ _ => trivial
  · rintro v - hred - ⟨hs, hz, hv1, hv2⟩
    simp only [rangeCheck_wit_size, gateAdd_wit_size] at hred ⊢
    refine ⟨⟨hs, hz, hv1⟩, fun _ => ⟨by omega, fun r => ⟨by omega, hz, ?_⟩⟩⟩
    -- the distance witness is new, hence reduced: it holds the canonical value of the difference
    rw [← val_toF_of_lt (hred _ (Nat.le_add_right _ _) (by omega)), r]
    exact hv2

/-- `assert_canonical_jubjub_scalar`: given the zero witness, the rows force the canonical value of
    the scalar below `r_J`; the model's table satisfies them when the stored scalar is below
    `r_J`. -/
theorem assertCanonicalJubjubScalar_spec (s : Nat) (c : Composer) :
    Spec 0 (assertCanonicalJubjubScalar s) c () (canonGateCount JUBJUB_SCALAR_BITS)
      (canonWitCount JUBJUB_SCALAR_BITS) (fun w => toF (w 0) = 0 → (toF (w s)).val < RJ)
      (fun _ => True) (fun v => s < c.wit.size ∧ v 0 = 0 ∧ v s < RJ) := by
  rw [assertCanonicalJubjubScalar_eq]
  refine (canonM_spec JUBJUB_SCALAR_BITS s c).mono (Nat.le_refl 0) rfl rfl rfl
    (fun w h h0 => (canonical_scalar_iff _).mp (h scalar_bits_le h0))
    (fun h => absurd h (by decide)) (fun _ _ h => h) fun v _ _ _ ⟨hs, hz, hv⟩ => ?_
  have e : (toF (v s)).val = v s := val_toF_of_lt (Nat.lt_trans hv RJ_lt_R)
  have h := (canonical_scalar_iff (toF (v s))).mpr (e.symm ▸ hv)
  exact ⟨hs, hz, e ▸ h.1, h.2⟩

theorem canonM_pis (n s : Nat) (c : Composer) : ((canonM n s).run c).2.pis = c.pis := by
  unfold canonM
  rw [run_bind_of_fst rfl, run_bind_of_fst (gateAdd_fst _ _), rangeCheck_pis,
    gateAdd_pis _ _ rfl, rangeCheck_pis]

theorem assertCanonicalJubjubScalar_pis (s : Nat) (c : Composer) :
    ((assertCanonicalJubjubScalar s).run c).2.pis = c.pis := by
  rw [assertCanonicalJubjubScalar_eq]
  exact canonM_pis _ s c

/-! ### `append_fixed_base_signed_digits`: explicit output state -/

/-- the witness values laid down by the ladder: per round `acc_x, acc_y, accumulated_bit,
    xy_alpha`, then the final `acc_x, acc_y, accumulated_bit` -/
def fbWitList (acc : List (Nat × Pt × Nat) × (Nat × Pt)) : List Nat :=
  acc.1.flatMap (fun (sa, pa, xy) => [pa.1, pa.2, sa, xy]) ++ [acc.2.2.1, acc.2.2.2, acc.2.1]

/-- the fixed-base constraints, one per table entry -/
def fbConstraints (base : Nat) (mults : List Pt) : List Constraint :=
  (mults.zipIdx).map fun (m, i) => Constraint.groupAddFixedBase
    { ql := m.1, qr := m.2, qc := fmul m.1 m.2, a := base + 4 * i, b := base + 4 * i + 1,
      c := base + 4 * i + 3, d := base + 4 * i + 2 }

/-- the part of `append_fixed_base_signed_digits` after the canonical-scalar check and the digit
    validation, with the table of multiples, the host-side accumulators and the number of pinned
    leading rounds as parameters -/
def fbLadder (L s : Nat) (mults : List Pt) (acc : List (Nat × Pt × Nat) × (Nat × Pt)) :
    CM (Except CErr Pt) := do
  let base := (← get).wit.size
  appendWitnesses (fbWitList acc)
  assertEqualConstant (base + 4 * 0) 0 none
  assertEqualConstant (base + 4 * 0 + 1) 1 none
  assertEqualConstant (base + 4 * 0 + 2) 0 none
  appendCustomGates (fbConstraints base mults)
  let n := acc.1.length
  appendGate { a := base + 4 * n, b := base + 4 * n + 1, d := base + 4 * n + 2 }
  assertEqualConstant (base + 4 * L + 2) 0 none
  assertEqual (base + 4 * n + 2) s
  pure (.ok (base + 4 * n, base + 4 * n + 1))

/-- number of rounds (from the extracted constant) -/
abbrev fbN : Nat := Generated.FIXED_BASE_SIGNED_DIGIT_ROUNDS

/-- the host-side table `[2^(rounds−1−i)]G` -/
def fbMults (g : Pt) : List Pt := (doublings fbN g).reverse
/-- the host-side accumulators -/
def fbAccs (g : Pt) (digits : List Int) : List (Nat × Pt × Nat) × (Nat × Pt) :=
  fixedAccs (digits.reverse.zip (fbMults g)) 0 Pt.id

def digitsBad (digits : List Int) : Bool := digits.any (fun d => d != 0 && d != 1 && d != -1)

/-- a digit vector as accepted by the widget: 256 entries in `{−1, 0, 1}` -/
def ValidDigits (digits : List Int) : Prop :=
  digits.length = 256 ∧ ∀ d ∈ digits, d = -1 ∨ d = 0 ∨ d = 1

theorem validDigits_iff (digits : List Int) :
    ValidDigits digits ↔ digits.length = fbN ∧ digitsBad digits = false := by
  unfold ValidDigits digitsBad
  rw [List.any_eq_false]
  constructor
  · rintro ⟨h1, h2⟩
    refine ⟨h1, fun d hd => ?_⟩
    rcases h2 d hd with h | h | h <;> rw [h] <;> decide
  · rintro ⟨h1, h2⟩
    refine ⟨h1, fun d hd => ?_⟩
    have := h2 d hd
    by_cases a : d = 0
    · exact Or.inr (Or.inl a)
    by_cases b : d = 1
    · exact Or.inr (Or.inr b)
    by_cases e : d = -1
    · exact Or.inl e
    · simp [a, b, e] at this

/-- the component: the canonical-scalar check, the digit validation, the ladder -/
theorem appendFixedBaseSignedDigits_eq (s : Nat) (g : Pt) (digits : List Int) :
    appendFixedBaseSignedDigits s g digits = assertCanonicalJubjubScalar s >>= fun _ =>
      if digitsBad digits then pure (.error .unsupportedWnaf)
      else fbLadder FIXED_BASE_LEADING_ZERO_ROUNDS s (fbMults g) (fbAccs g digits) := rfl

/-- the gate of `assert_equal_constant(a, k)` without public input -/
def pinGate (a k : Nat) : Gate :=
  (Constraint.arithmetic { ql := R - 1, a := a, qc := k % R }).toGate

/-- the closing row carrying the final accumulators on wires `a, b, d` -/
def fbCloseGate (base n : Nat) : Gate :=
  (Constraint.arithmetic { a := base + 4 * n, b := base + 4 * n + 1, d := base + 4 * n + 2 }).toGate

/-- explicit output state of the ladder part -/
def fbOut (cs : Composer) (L s : Nat) (mults : List Pt)
    (acc : List (Nat × Pt × Nat) × (Nat × Pt)) : Composer :=
  { gates := cs.gates
      ++ #[pinGate cs.wit.size 0, pinGate (cs.wit.size + 1) 1, pinGate (cs.wit.size + 2) 0]
      ++ ((fbConstraints cs.wit.size mults).map Constraint.toGate).toArray
      ++ #[fbCloseGate cs.wit.size acc.1.length, pinGate (cs.wit.size + 4 * L + 2) 0,
           eqGate (cs.wit.size + 4 * acc.1.length + 2) s],
    wit := cs.wit ++ ((fbWitList acc).map (· % R)).toArray,
    pis := cs.pis }

theorem fbConstraints_hasPi (base : Nat) (mults : List Pt) :
    ∀ s ∈ fbConstraints base mults, s.hasPi = false := by
  intro s hs
  simp only [fbConstraints, List.mem_map] at hs
  obtain ⟨x, _, rfl⟩ := hs
  rfl

theorem get_run' (c : Composer) : (get : CM Composer).run c = (c, c) := rfl

theorem assertEqualConstant_none_run (a k : Nat) (c : Composer) :
    (assertEqualConstant a k none).run c =
      ((), { c with gates := c.gates.push (pinGate a k) }) := rfl

theorem assertEqual_run' (a b : Nat) (c : Composer) :
    (assertEqual a b).run c = ((), { c with gates := c.gates.push (eqGate a b) }) := rfl

theorem appendGate_close_run (base n : Nat) (c : Composer) :
    (appendGate { a := base + 4 * n, b := base + 4 * n + 1, d := base + 4 * n + 2 }).run c =
      ((), { c with gates := c.gates.push (fbCloseGate base n) }) := rfl

theorem fbLadder_run (L s : Nat) (mults : List Pt) (acc : List (Nat × Pt × Nat) × (Nat × Pt))
    (cs : Composer) :
    (fbLadder L s mults acc).run cs =
      (.ok (cs.wit.size + 4 * acc.1.length, cs.wit.size + 4 * acc.1.length + 1),
        fbOut cs L s mults acc) := by
  unfold fbLadder
  simp only [run_bind', get_run', appendWitnesses_run, assertEqualConstant_none_run,
    appendCustomGates_run _ (fbConstraints_hasPi _ _), appendGate_close_run, assertEqual_run']
  simp only [Nat.mul_zero, Nat.add_zero]
  show (_, _) = (_, _)
  congr 1

/-! ### the emitted gates -/

/-- the fixed-base gate of round `i` with table entry `m` -/
def fbGateAt (base : Nat) (m : Pt) (i : Nat) : Gate :=
  (Constraint.groupAddFixedBase
    { ql := m.1, qr := m.2, qc := fmul m.1 m.2, a := base + 4 * i, b := base + 4 * i + 1,
      c := base + 4 * i + 3, d := base + 4 * i + 2 }).toGate

theorem fbConstraints_length (base : Nat) (mults : List Pt) :
    ((fbConstraints base mults).map Constraint.toGate).length = mults.length := by
  simp [fbConstraints]

theorem fbConstraints_get (base : Nat) (mults : List Pt) (i : Nat) (hi : i < mults.length) :
    ((fbConstraints base mults).map Constraint.toGate)[i]? = some (fbGateAt base mults[i] i) := by
  simp [fbConstraints, hi, fbGateAt]

/-- the gates appended by the ladder part, in order: three pins, the rounds, the closing row, the
    pin of round `L` and the equality with the scalar (`n` is the number of rounds) -/
def fbGates (base L s : Nat) (mults : List Pt) (n : Nat) : List Gate :=
  pinGate base 0 :: pinGate (base + 1) 1 :: pinGate (base + 2) 0 ::
    ((fbConstraints base mults).map Constraint.toGate ++
      [fbCloseGate base n, pinGate (base + 4 * L + 2) 0, eqGate (base + 4 * n + 2) s])

theorem fbGates_length (base L s : Nat) (mults : List Pt) (n : Nat) :
    (fbGates base L s mults n).length = mults.length + 6 := by
  simp only [fbGates, List.length_cons, List.length_append, fbConstraints_length, List.length_nil]

theorem fbGates_get_fixed (base L s : Nat) (mults : List Pt) (n i : Nat) (hi : i < mults.length) :
    (fbGates base L s mults n)[i + 3]? = some (fbGateAt base mults[i] i) := by
  rw [fbGates, List.getElem?_cons_succ, List.getElem?_cons_succ, List.getElem?_cons_succ,
    List.getElem?_append_left (by rw [fbConstraints_length]; exact hi)]
  exact fbConstraints_get _ _ _ hi

theorem fbGates_get_tail (base L s : Nat) (mults : List Pt) (n j : Nat) :
    (fbGates base L s mults n)[mults.length + j + 3]? =
      [fbCloseGate base n, pinGate (base + 4 * L + 2) 0, eqGate (base + 4 * n + 2) s][j]? := by
  rw [fbGates, List.getElem?_cons_succ, List.getElem?_cons_succ, List.getElem?_cons_succ,
    List.getElem?_append_right (by rw [fbConstraints_length]; exact Nat.le_add_right _ _),
    fbConstraints_length, Nat.add_sub_cancel_left]

/-- the gate after round `i` carries the accumulators of round `i + 1` on `a, b, d` -/
theorem fbGates_next (base L s : Nat) (mults : List Pt) (i : Nat) (hi : i < mults.length) :
    ∃ g', (fbGates base L s mults mults.length)[i + 1 + 3]? = some g' ∧
      g'.a = base + 4 * (i + 1) ∧ g'.b = base + 4 * (i + 1) + 1 ∧ g'.d = base + 4 * (i + 1) + 2 := by
  rcases Nat.lt_or_ge (i + 1) mults.length with h | h
  · exact ⟨_, fbGates_get_fixed base L s mults _ (i + 1) h, rfl, rfl, rfl⟩
  · have e : i + 1 = mults.length := Nat.le_antisymm hi h
    rw [e]
    exact ⟨_, fbGates_get_tail base L s mults _ 0, rfl, rfl, rfl⟩

section out
variable (cs : Composer) (L s : Nat) (mults : List Pt) (acc : List (Nat × Pt × Nat) × (Nat × Pt))

theorem fbOut_gates : (fbOut cs L s mults acc).gates =
    cs.gates ++ (fbGates cs.wit.size L s mults acc.1.length).toArray := by
  simp only [fbOut, fbGates, Array.append_assoc, List.append_toArray, List.cons_append,
    List.nil_append]

theorem fbOut_get (j : Nat) :
    (fbOut cs L s mults acc).gates[cs.gates.size + j]? =
      (fbGates cs.wit.size L s mults acc.1.length)[j]? := by
  rw [fbOut_gates, Array.getElem?_append_right (Nat.le_add_right _ _), Nat.add_sub_cancel_left,
    List.getElem?_toArray]

theorem fbOut_gates_size :
    (fbOut cs L s mults acc).gates.size = cs.gates.size + mults.length + 6 := by
  simp only [fbOut_gates, Array.size_append, List.size_toArray, fbGates_length, Nat.add_assoc]

theorem fbWitList_length : (fbWitList acc).length = 4 * acc.1.length + 3 := by
  simp only [fbWitList, List.length_append, List.length_flatMap, List.length_cons, List.length_nil,
    List.map_const', List.sum_replicate, smul_eq_mul, Nat.mul_comm]

theorem fbOut_wit_size :
    (fbOut cs L s mults acc).wit.size = cs.wit.size + (4 * acc.1.length + 3) := by
  simp only [fbOut, Array.size_append, List.size_toArray, List.length_map, fbWitList_length]

theorem fbOut_pis : (fbOut cs L s mults acc).pis = cs.pis := by unfold fbOut; rfl

theorem fbOut_piAt (i : Nat) : (fbOut cs L s mults acc).piAt i = cs.piAt i := by
  unfold piAt; rw [fbOut_pis]

theorem fbOut_extends : Extends cs (fbOut cs L s mults acc) :=
  extends_of_append _ _ (fbOut_gates cs L s mults acc) (by unfold fbOut; rfl)
    (fbOut_pis cs L s mults acc)

/-! ### the emitted rows -/

theorem rowHoldsW_pin {c : Composer} {w : Nat → Nat} {i a k : Nat}
    (h1 : c.gates[i]? = some (pinGate a k)) (hp : c.piAt i = 0) :
    c.rowHoldsW w i = true ↔ toF (w a) = toF k := by
  rw [rowHoldsW_arithmetic_noPi h1 rfl hp]
  simp only [Constraint.arithRel, Constraint.piF, Bool.false_eq_true, if_false, toF_R_sub_one,
    toF_zero, toF_mod, zero_mul, add_zero, zero_add, neg_one_mul, neg_add_eq_zero]

theorem rowHoldsW_fbClose {c : Composer} {w : Nat → Nat} {i base n : Nat}
    (h1 : c.gates[i]? = some (fbCloseGate base n)) (hp : c.piAt i = 0) :
    c.rowHoldsW w i = true := by
  rw [rowHoldsW_arithmetic_noPi h1 rfl hp]
  simp only [Constraint.arithRel, Constraint.piF, Bool.false_eq_true, if_false, toF_zero, zero_mul,
    add_zero]

/-- Meaning of fixed-base row `i`: the widget relation between the accumulators of rounds
    `i` and `i + 1`, with the table entry `mults[i]` as `(x_β, y_β)` and the scalar increment
    `acc_bit(i+1) − 2·acc_bit(i)` as the signed digit. -/
theorem fb_row_iff (hpi : PiFresh cs) (hn : acc.1.length = mults.length) (w : Nat → Nat)
    (i : Nat) (hi : i < mults.length) :
    (fbOut cs L s mults acc).rowHoldsW w (cs.gates.size + (i + 3)) = true ↔
      FixedRowF (toF mults[i].1) (toF mults[i].2) (toF (fmul mults[i].1 mults[i].2))
        (toF (w (cs.wit.size + 4 * i))) (toF (w (cs.wit.size + 4 * i + 1)))
        (toF (w (cs.wit.size + 4 * i + 3)))
        (toF (w (cs.wit.size + 4 * (i + 1)))) (toF (w (cs.wit.size + 4 * (i + 1) + 1)))
        (toF (w (cs.wit.size + 4 * (i + 1) + 2)) - 2 * toF (w (cs.wit.size + 4 * i + 2))) := by
  have h1 := fbOut_get cs L s mults acc (i + 3)
  have h2 := fbOut_get cs L s mults acc (i + 1 + 3)
  rw [hn] at h1 h2
  rw [fbGates_get_fixed _ _ _ _ _ _ hi] at h1
  obtain ⟨g', hg', ha, hb, hd⟩ := fbGates_next cs.wit.size L s mults i hi
  rw [hg'] at h2
  rw [rowHoldsW_of_get h1 h2 ((fbOut_piAt cs L s mults acc _).trans (hpi _ (Nat.le_add_right _ _))),
    rowHolds_fixed _ rfl rfl rfl rfl rfl, ha, hb, hd]
  exact Iff.rfl

/-- the relation of the ladder rows on the sequences of point accumulators `A k`, scalar
    accumulators `S k` and products `xy k`, with `L` pinned rounds and stored scalar `sv` -/
def FbChain (mults : List Pt) (L : Nat) (A : Nat → PtF) (S xy : Nat → F) (sv : F) : Prop :=
  A 0 = idF ∧ S 0 = 0 ∧
  (∀ i (hi : i < mults.length),
    FixedRowF (toF mults[i].1) (toF mults[i].2) (toF (fmul mults[i].1 mults[i].2))
      (A i).1 (A i).2 (xy i) (A (i + 1)).1 (A (i + 1)).2 (S (i + 1) - 2 * S i)) ∧
  S L = 0 ∧ S mults.length = sv

/-- the relation expressed by all rows of the ladder part: round `k` keeps its point accumulator
    at `base + 4k, base + 4k + 1`, its scalar accumulator at `base + 4k + 2` and `xy_α` at
    `base + 4k + 3` -/
def FbRel (base L s : Nat) (mults : List Pt) (w : Nat → Nat) : Prop :=
  FbChain mults L (fun k => (toF (w (base + 4 * k)), toF (w (base + 4 * k + 1))))
    (fun k => toF (w (base + 4 * k + 2))) (fun k => toF (w (base + 4 * k + 3))) (toF (w s))

theorem fb_rows_iff (hpi : PiFresh cs) (hn : acc.1.length = mults.length) (w : Nat → Nat) :
    (fbOut cs L s mults acc).rowsHoldW w cs.gates.size (fbOut cs L s mults acc).gates.size ↔
      FbRel cs.wit.size L s mults w := by
  have hp : ∀ j, (fbOut cs L s mults acc).piAt (cs.gates.size + j) = 0 :=
    fun j => (fbOut_piAt cs L s mults acc _).trans (hpi _ (Nat.le_add_right _ _))
  have get := fbOut_get cs L s mults acc
  rw [hn] at get
  have tail := fun j => (get (mults.length + j + 3)).trans (fbGates_get_tail _ _ _ _ _ j)
  have r0 : _ ↔ toF (w cs.wit.size) = toF 0 := rowHoldsW_pin (w := w) (get 0) (hp 0)
  have r1 : _ ↔ toF (w (cs.wit.size + 1)) = toF 1 := rowHoldsW_pin (w := w) (get 1) (hp 1)
  have r2 : _ ↔ toF (w (cs.wit.size + 2)) = toF 0 := rowHoldsW_pin (w := w) (get 2) (hp 2)
  have t0 := rowHoldsW_fbClose (w := w) (tail 0) (hp _)
  have t1 : _ ↔ _ = toF 0 := rowHoldsW_pin (w := w) (tail 1) (hp _)
  have t2 := rowHoldsW_eqGate (w := w) (tail 2) (hp _)
  rw [toF_zero] at r0 r2 t1
  rw [toF_one] at r1
  have hrow := fb_row_iff cs L s mults acc hpi hn w
  rw [fbOut_gates_size, Nat.add_assoc]
  constructor
  · intro h
    have h' : ∀ j, j < mults.length + 6 →
        (fbOut cs L s mults acc).rowHoldsW w (cs.gates.size + j) = true :=
      fun j hj => h _ (Nat.le_add_right _ _) (Nat.add_lt_add_left hj _)
    have small : ∀ j, j < 6 → j < mults.length + 6 := fun j hj => Nat.lt_add_left _ hj
    exact ⟨Prod.ext (r0.mp (h' 0 (small 0 (by decide)))) (r1.mp (h' 1 (small 1 (by decide)))),
      r2.mp (h' 2 (small 2 (by decide))),
      fun i hi => (hrow i hi).mp
        (h' _ ((Nat.add_lt_add_right hi 3).trans (Nat.add_lt_add_left (by decide) _))),
      t1.mp (h' _ (by omega)), t2.mp (h' _ (by omega))⟩
  · rintro ⟨a0, a2, hf, aL, aE⟩ i hlo hhi
    obtain ⟨j, rfl⟩ := Nat.exists_eq_add_of_le hlo
    match j with
    | 0 => exact r0.mpr (congrArg Prod.fst a0)
    | 1 => exact r1.mpr (congrArg Prod.snd a0)
    | 2 => exact r2.mpr a2
    | j + 3 =>
      rcases Nat.lt_or_ge j mults.length with hj | hj
      · exact (hrow j hj).mpr (hf j hj)
      · obtain ⟨k, rfl⟩ := Nat.exists_eq_add_of_le hj
        match k with
        | 0 => exact t0
        | 1 => exact t1.mpr aL
        | 2 => exact t2.mpr aE
        | k + 3 => omega

end out

end Composer

/-! ### field-level ladder -/

/-- the iterated Edwards sum of the ladder (field-level addition law), most significant digit
    first: `P₀ = O`, `P_{k+1} = P_k + d_(n−1−k) • [2^(n−1−k)]G` -/
def sdPointF (G : PtF) (d : Nat → ℤ) (n : Nat) : Nat → PtF
  | 0 => idF
  | k + 1 => addF (sdPointF G d n k) (zsmulF (d (n - 1 - k)) (smulF (2 ^ (n - 1 - k)) G))

/-- the integer accumulated by the first `k` rounds, each digit with its weight; it is
    `2^(n−k)` times the Horner accumulator `sdAccZ d n k`, and both are `Σ dᵢ·2^i` at `k = n` -/
def sdPartZ (d : Nat → ℤ) (n : Nat) : Nat → ℤ
  | 0 => 0
  | k + 1 => sdPartZ d n k + d (n - 1 - k) * 2 ^ (n - 1 - k)

theorem sdPointF_on_curve {G : PtF} (hG : OnCurveP G) (d : Nat → ℤ) (n k : Nat) :
    OnCurveP (sdPointF G d n k) := by
  induction k with
  | zero => exact id_on_curveP
  | succ k ih => exact add_on_curveP ih (zsmulF_on_curve _ (smulF_on_curve _ hG))

/-- the iterated sum is the scalar multiple by the accumulated integer (by `zsmulF_add`,
    `zsmulF_mul`) -/
theorem sdPointF_eq {G : PtF} (hG : OnCurveP G) (d : Nat → ℤ) (n k : Nat) :
    sdPointF G d n k = zsmulF (sdPartZ d n k) G := by
  induction k with
  | zero => rfl
  | succ k ih =>
    simp only [sdPointF, sdPartZ]
    rw [ih, zsmulF_add _ _ hG, zsmulF_mul _ _ hG]
    have : ((2 : ℤ) ^ (n - 1 - k)) = ((2 ^ (n - 1 - k) : ℕ) : ℤ) := by push_cast; rfl
    rw [this, zsmulF_natCast]

open Finset in
theorem sdPartZ_eq_sum (d : Nat → ℤ) (n k : Nat) :
    sdPartZ d n k = ∑ i ∈ range k, d (n - 1 - i) * 2 ^ (n - 1 - i) := by
  induction k with
  | zero => simp [sdPartZ]
  | succ k ih => rw [sdPartZ, ih, Finset.sum_range_succ]

open Finset in
theorem sdPartZ_full (d : Nat → ℤ) (n : Nat) :
    sdPartZ d n n = ∑ i ∈ range n, d i * 2 ^ i := by
  rw [sdPartZ_eq_sum]
  exact Finset.sum_range_reflect (fun i => d i * 2 ^ i) n

/-! ### soundness of the ladder rows (generic table) -/

namespace Composer.FbChain
variable {mults : List Pt} {L : Nat} {A A' : Nat → PtF} {S S' xy : Nat → F} {sv : F}

/-- the relation only reads `A k`, `S k` for `k ≤ mults.length` -/
theorem congr (h : FbChain mults L A S xy sv) (hA : ∀ k, k ≤ mults.length → A' k = A k)
    (hS : ∀ k, k ≤ mults.length → S' k = S k) (hL : L ≤ mults.length) :
    FbChain mults L A' S' xy sv := by
  obtain ⟨h0, h1, h2, h3, h4⟩ := h
  refine ⟨(hA 0 (Nat.zero_le _)).trans h0, (hS 0 (Nat.zero_le _)).trans h1, fun i hi => ?_,
    (hS L hL).trans h3, (hS _ (Nat.le_refl _)).trans h4⟩
  rw [hA i (Nat.le_of_lt hi), hA (i + 1) hi, hS i (Nat.le_of_lt hi), hS (i + 1) hi]
  exact h2 i hi

theorem on_curve (h : FbChain mults L A S xy sv) (hm : ∀ m ∈ mults, onCurve m = true) :
    ∀ k, k ≤ mults.length → OnCurveP (A k)
  | 0, _ => h.1 ▸ id_on_curveP
  | k + 1, hk =>
    fixedRowF_on_curve ((onCurve_iff mults[k]).mp (hm _ (List.getElem_mem hk))) (toF_fmul _ _)
      (on_curve h hm k (Nat.le_of_lt hk)) (h.2.2.1 k hk)

theorem step (h : FbChain mults L A S xy sv) (hm : ∀ m ∈ mults, onCurve m = true)
    (i : Nat) (hi : i < mults.length) :
    A (i + 1) = addF (A i) (selF (S (i + 1) - 2 * S i) (toFP mults[i])) :=
  ((fixedRowF_iff_of_on_curve ((onCurve_iff mults[i]).mp (hm _ (List.getElem_mem hi)))
    (toF_fmul _ _) (h.on_curve hm i (Nat.le_of_lt hi)) _ _ _ _).mp (h.2.2.1 i hi)).2.2

/-- with integer digits for the scalar increments and `mults[i] = [2^(n−1−i)]G`, the point
    accumulators are the iterated Edwards sum -/
theorem point (h : FbChain mults L A S xy sv) (hm : ∀ m ∈ mults, onCurve m = true)
    (G : PtF) (d : Nat → ℤ)
    (hmG : ∀ i (hi : i < mults.length), toFP mults[i] = smulF (2 ^ (mults.length - 1 - i)) G)
    (hd : ∀ i, i < mults.length → d i = -1 ∨ d i = 0 ∨ d i = 1)
    (hinc : ∀ i, i < mults.length → S (i + 1) - 2 * S i = ((d (mults.length - 1 - i) : ℤ) : F)) :
    ∀ k, k ≤ mults.length → A k = sdPointF G d mults.length k := by
  intro k
  induction k with
  | zero => intro _; rw [h.1]; rfl
  | succ k ih =>
    intro hk
    rw [h.step hm k hk, hinc k hk, selF_intCast (hd _ (Nat.sub_one_sub_lt_of_lt hk)),
      hmG k hk, ih (Nat.le_of_lt hk)]
    rfl

end Composer.FbChain

/-! ### the table of the model -/

namespace Composer

theorem fbMults_length (g : Pt) : (fbMults g).length = fbN := by
  unfold fbMults; rw [List.length_reverse, doublings_length]

theorem fbMults_on_curve (g : Pt) (hg : onCurve g = true) :
    ∀ m ∈ fbMults g, onCurve m = true := by
  intro m hm
  unfold fbMults at hm
  rw [List.mem_reverse] at hm
  exact doublings_on_curve _ g hg m hm

theorem reverse_doublings_get (n : Nat) (g : Pt) (hg : onCurve g = true) (i : Nat)
    (hi : i < (doublings n g).reverse.length) :
    toFP (doublings n g).reverse[i] = smulF (2 ^ ((doublings n g).reverse.length - 1 - i)) (toFP g) := by
  have hlen : (doublings n g).reverse.length = n := by rw [List.length_reverse, doublings_length]
  have hi2 : i < n := by rw [← hlen]; exact hi
  rw [hlen]
  apply doublings_getElem? n g hg
  have hj : n - 1 - i < (doublings n g).length := by rw [doublings_length]; omega
  rw [List.getElem?_eq_getElem hj]
  congr 1
  simp only [List.getElem_reverse, doublings_length]

theorem fbMults_get (g : Pt) (hg : onCurve g = true) (i : Nat) (hi : i < (fbMults g).length) :
    toFP (fbMults g)[i] = smulF (2 ^ ((fbMults g).length - 1 - i)) (toFP g) :=
  reverse_doublings_get _ g hg i hi

/-! ### soundness of the ladder part -/

open Finset in
/-- Soundness of the ladder rows (generic table of length `FIXED_BASE_SIGNED_DIGIT_ROUNDS`
    whose entry `i` is `[2^(n−1−i)]G`): every assignment satisfying the relation of the rows
    determines integer digits in `{−1,0,1}` — the increments of the scalar accumulator — with the
    leading ones zero, recomposing the scalar over ℤ; every point accumulator is the iterated
    Edwards sum of those digits and the final one is `[s]G`. -/
theorem fbRel_sound (mults : List Pt) (hlen : mults.length = Generated.FIXED_BASE_SIGNED_DIGIT_ROUNDS)
    (hm : ∀ m ∈ mults, onCurve m = true) (G : PtF) (hG : OnCurveP G)
    (hmG : ∀ i (hi : i < mults.length), toFP mults[i] = smulF (2 ^ (mults.length - 1 - i)) G)
    (base s : Nat) (w : Nat → Nat)
    (hrel : FbRel base Generated.FIXED_BASE_LEADING_ZERO_ROUNDS s mults w)
    (hs : (toF (w s)).val < 2 ^ Generated.JUBJUB_SCALAR_BITS) :
    ∃ d : Nat → ℤ,
      (∀ i < Generated.FIXED_BASE_SIGNED_DIGIT_ROUNDS, d i = -1 ∨ d i = 0 ∨ d i = 1) ∧
      (∀ i < Generated.FIXED_BASE_SIGNED_DIGIT_ROUNDS,
        toF (w (base + 4 * (i + 1) + 2)) - 2 * toF (w (base + 4 * i + 2))
          = ((d (Generated.FIXED_BASE_SIGNED_DIGIT_ROUNDS - 1 - i) : ℤ) : F)) ∧
      (∀ j < Generated.FIXED_BASE_LEADING_ZERO_ROUNDS,
        d (Generated.FIXED_BASE_SIGNED_DIGIT_ROUNDS - 1 - j) = 0) ∧
      (∑ i ∈ range Generated.FIXED_BASE_SIGNED_DIGIT_ROUNDS, d i * 2 ^ i = ((toF (w s)).val : ℤ)) ∧
      (∀ k ≤ Generated.FIXED_BASE_SIGNED_DIGIT_ROUNDS,
        (toF (w (base + 4 * k)), toF (w (base + 4 * k + 1)))
          = sdPointF G d Generated.FIXED_BASE_SIGNED_DIGIT_ROUNDS k) ∧
      (toF (w (base + 4 * Generated.FIXED_BASE_SIGNED_DIGIT_ROUNDS)),
        toF (w (base + 4 * Generated.FIXED_BASE_SIGNED_DIGIT_ROUNDS + 1)))
          = smulF (toF (w s)).val G := by
  obtain ⟨d, hd, hinc, htop, hsum⟩ := signed_digit_chain (fun k => toF (w (base + 4 * k + 2)))
    (toF (w s)) hrel.2.1 (fun i hi => (hrel.2.2.1 i (hlen ▸ hi)).1) hrel.2.2.2.1
    (hlen ▸ hrel.2.2.2.2) hs
  have hpt := hrel.point hm G d hmG (fun i hi => hd i (hlen ▸ hi))
    (fun i hi => by rw [hlen]; exact hinc i (hlen ▸ hi))
  rw [hlen] at hpt
  refine ⟨d, hd, hinc, htop, hsum, hpt, ?_⟩
  have := hpt _ (Nat.le_refl _)
  rw [sdPointF_eq hG, sdPartZ_full, hsum, zsmulF_natCast] at this
  exact this

/-! ### the host-side accumulators (`fixedAccs`) -/

/-- host state `(scalarAcc, pointAcc)` after `k` rounds over the list `l` of `(digit, multiple)` -/
def hostAt : List (Int × Pt) → Nat → Pt → Nat → Nat × Pt
  | [], sa, pa, _ => (sa, pa)
  | _ :: _, sa, pa, 0 => (sa, pa)
  | (e, m) :: rest, sa, pa, k + 1 =>
    hostAt rest (fadd (fmul 2 sa) (digitSel e m).1) (edAddOrId pa (digitSel e m).2) k

theorem hostAt_zero (l : List (Int × Pt)) (sa : Nat) (pa : Pt) : hostAt l sa pa 0 = (sa, pa) := by
  cases l <;> rfl

theorem fixedAccs_length (l : List (Int × Pt)) (sa : Nat) (pa : Pt) :
    (fixedAccs l sa pa).1.length = l.length := by
  induction l generalizing sa pa with
  | nil => rfl
  | cons x rest ih =>
    obtain ⟨e, m⟩ := x
    rw [fixedAccs_cons]; simp [ih]

theorem hostAt_succ (l : List (Int × Pt)) (sa : Nat) (pa : Pt) (k : Nat) (hk : k < l.length) :
    hostAt l sa pa (k + 1) =
      (fadd (fmul 2 (hostAt l sa pa k).1) (digitSel l[k].1 l[k].2).1,
        edAddOrId (hostAt l sa pa k).2 (digitSel l[k].1 l[k].2).2) := by
  induction l generalizing sa pa k with
  | nil => simp at hk
  | cons x rest ih =>
    obtain ⟨e, m⟩ := x
    cases k with
    | zero => simp [hostAt, hostAt_zero]
    | succ k =>
      simp only [hostAt, List.getElem_cons_succ]
      exact ih _ _ k (by simpa using hk)

theorem hostAt_on_curve (l : List (Int × Pt)) (hl : ∀ x ∈ l, onCurve x.2 = true) (sa : Nat) (pa : Pt)
    (hpa : onCurve pa = true) (k : Nat) : onCurve (hostAt l sa pa k).2 = true := by
  induction l generalizing sa pa k with
  | nil => exact hpa
  | cons x rest ih =>
    obtain ⟨e, m⟩ := x
    cases k with
    | zero => exact hpa
    | succ k =>
      simp only [hostAt]
      have hm : onCurve m = true := hl (e, m) List.mem_cons_self
      exact ih (fun x hx => hl x (List.mem_cons_of_mem _ hx)) _ _
        (edAddOrId_on_curve _ _ hpa (digitSel_on_curve e m hm)) k

/-- the scalar accumulator of the host is the cast of the integer chain `sdAccZ` -/
theorem hostAt_scalar (l : List (Int × Pt)) (d : Nat → ℤ) (n : Nat) (pa : Pt)
    (hd : ∀ k (hk : k < l.length), l[k].1 = d (n - 1 - k))
    (hv : ∀ k, d k = -1 ∨ d k = 0 ∨ d k = 1) :
    ∀ k, k ≤ l.length → toF (hostAt l 0 pa k).1 = ((sdAccZ d n k : ℤ) : F) := by
  intro k
  induction k with
  | zero => intro _; rw [hostAt_zero, sdAccZ, Int.cast_zero]; exact toF_zero
  | succ k ih =>
    intro hk
    have hk' : k < l.length := hk
    rw [hostAt_succ l 0 pa k hk']
    have hsel := (digitSel_spec (hd k hk' ▸ hv (n - 1 - k)) l[k].2).1
    rw [hd k hk'] at hsel
    simp only [toF_fadd, toF_fmul, toF_two, hsel, ih (Nat.le_of_lt hk'), sdAccZ, hd k hk']
    push_cast; ring

/-! ### the witness table -/

theorem fbWitList_cons (e : ℤ) (m : Pt) (rest : List (Int × Pt)) (sa : Nat) (pa : Pt) :
    fbWitList (fixedAccs ((e, m) :: rest) sa pa) =
      pa.1 :: pa.2 :: sa :: fmul (digitSel e m).2.1 (digitSel e m).2.2 ::
        fbWitList (fixedAccs rest (fadd (fmul 2 sa) (digitSel e m).1)
          (edAddOrId pa (digitSel e m).2)) := by
  rw [fixedAccs_cons]; rfl

/-- round `k` of the table holds the host's accumulators at `4k, 4k + 1, 4k + 2` and, except
    after the last round, `xy_α` at `4k + 3` -/
theorem fbWitList_get (l : List (Int × Pt)) (sa : Nat) (pa : Pt) (k : Nat) (hk : k ≤ l.length) :
    (fbWitList (fixedAccs l sa pa))[4 * k]? = some (hostAt l sa pa k).2.1 ∧
    (fbWitList (fixedAccs l sa pa))[4 * k + 1]? = some (hostAt l sa pa k).2.2 ∧
    (fbWitList (fixedAccs l sa pa))[4 * k + 2]? = some (hostAt l sa pa k).1 ∧
    ∀ h : k < l.length, (fbWitList (fixedAccs l sa pa))[4 * k + 3]? =
      some (fmul (digitSel l[k].1 l[k].2).2.1 (digitSel l[k].1 l[k].2).2.2) := by
  induction l generalizing sa pa k with
  | nil =>
    obtain rfl : k = 0 := Nat.le_zero.mp hk
    exact ⟨rfl, rfl, rfl, fun h => absurd h (Nat.lt_irrefl 0)⟩
  | cons x rest ih =>
    obtain ⟨e, m⟩ := x
    rw [fbWitList_cons]
    cases k with
    | zero => exact ⟨rfl, rfl, rfl, fun _ => rfl⟩
    | succ k =>
      simp only [Nat.mul_succ, Nat.add_right_comm _ 4, List.getElem?_cons_succ,
        List.getElem_cons_succ, List.length_cons, Nat.succ_lt_succ_iff]
      exact ih _ _ k (Nat.le_of_succ_le_succ hk)

/-- the value, in any later state, of the witness laid down at position `idx` of the table -/
theorem fbOut_val (cs : Composer) (L s : Nat) (mults : List Pt)
    (acc : List (Nat × Pt × Nat) × (Nat × Pt)) {c'' : Composer}
    (hext : Extends (fbOut cs L s mults acc) c'') (idx v : Nat)
    (h : (fbWitList acc)[idx]? = some v) :
    toF (c''.val (cs.wit.size + idx)) = toF v := by
  have hlt : cs.wit.size + idx < (fbOut cs L s mults acc).wit.size := by
    rw [fbOut_wit_size, ← fbWitList_length]
    exact Nat.add_lt_add_left (List.getElem?_eq_some_iff.mp h).1 _
  rw [hext.val_eq hlt]
  unfold fbOut
  rw [val_append_ge]
  simp [h]

/-! ### completeness of the ladder part -/

section honest
variable (base L s : Nat) (mults : List Pt) (l : List (Int × Pt)) {v : Nat → Nat}
  (hv : ∀ idx x, (fbWitList (fixedAccs l 0 Pt.id))[idx]? = some x → toF (v (base + idx)) = toF x)
include hv

/-- a table that holds the ladder's witness list from `base` on (`hv`): the accumulator positions -/
theorem fbTable_acc (k : Nat) (hk : k ≤ l.length) :
    toF (v (base + 4 * k)) = toF (hostAt l 0 Pt.id k).2.1 ∧
    toF (v (base + 4 * k + 1)) = toF (hostAt l 0 Pt.id k).2.2 ∧
    toF (v (base + 4 * k + 2)) = toF (hostAt l 0 Pt.id k).1 := by
  obtain ⟨h0, h1, h2, -⟩ := fbWitList_get l 0 Pt.id k hk
  simp only [Nat.add_assoc]
  exact ⟨hv _ _ h0, hv _ _ h1, hv _ _ h2⟩

theorem fbTable_xy (k : Nat) (hk : k < l.length) :
    toF (v (base + 4 * k + 3)) =
      toF (fmul (digitSel l[k].1 l[k].2).2.1 (digitSel l[k].1 l[k].2).2.2) := by
  rw [Nat.add_assoc]
  exact hv _ _ ((fbWitList_get l 0 Pt.id k (Nat.le_of_lt hk)).2.2.2 hk)

/-- Completeness of the ladder rows: a table that holds the host's accumulators satisfies the
    relation of the rows, provided the host's scalar accumulator vanishes after the `L` pinned
    rounds and ends in the value the table gives the scalar. -/
theorem fbRel_honest (hlen : mults.length = l.length)
    (hml : ∀ i (h1 : i < mults.length) (h2 : i < l.length), mults[i] = l[i].2)
    (hcurve : ∀ m ∈ mults, onCurve m = true)
    (hdig : ∀ i (h : i < l.length), l[i].1 = -1 ∨ l[i].1 = 0 ∨ l[i].1 = 1)
    (hL : L ≤ l.length) (hLz : toF (hostAt l 0 Pt.id L).1 = 0)
    (hfin : toF (hostAt l 0 Pt.id l.length).1 = toF (v s)) :
    FbRel base L s mults v := by
  have hl2 : ∀ x ∈ l, onCurve x.2 = true := by
    intro x hx
    obtain ⟨i, hi, rfl⟩ := List.getElem_of_mem hx
    rw [← hml i (hlen ▸ hi) hi]; exact hcurve _ (List.getElem_mem _)
  have acc := fbTable_acc base l hv
  -- the relation holds of the host's accumulators, which are what the table stores
  refine FbChain.congr (A := fun k => toFP (hostAt l 0 Pt.id k).2)
    (S := fun k => toF (hostAt l 0 Pt.id k).1) ⟨?_, ?_, fun i hi => ?_, hLz, ?_⟩
    (fun k hk => Prod.ext (acc k (hlen ▸ hk)).1 (acc k (hlen ▸ hk)).2.1)
    (fun k hk => (acc k (hlen ▸ hk)).2.2) (hlen ▸ hL)
  · dsimp only; rw [hostAt_zero]; exact toFP_id
  · dsimp only; rw [hostAt_zero]; exact toF_zero
  · dsimp only
    have hi' : i < l.length := hlen ▸ hi
    have := fixedComps_honest (hdig i hi') l[i].2 (hl2 _ (List.getElem_mem _))
      (hostAt l 0 Pt.id i).2.1 (hostAt l 0 Pt.id i).2.2 (hostAt l 0 Pt.id i).1
      (hostAt_on_curve l hl2 0 Pt.id id_on_curve_model i)
    rw [fixedComps_zero_iff] at this
    rw [fbTable_xy base l hv i hi', hostAt_succ l 0 Pt.id i hi', hml i hi hi']
    exact this
  · dsimp only; rw [hlen, hfin]

end honest

/-! ### the component as a whole -/

theorem fbAccs_length (g : Pt) (digits : List Int) (hlen : digits.length = fbN) :
    (fbAccs g digits).1.length = (fbMults g).length := by
  unfold fbAccs
  rw [fixedAccs_length, List.length_zip, List.length_reverse, fbMults_length, hlen, Nat.min_self]

theorem fbOut_last_plain (cs : Composer) (L s : Nat) (mults : List Pt)
    (acc : List (Nat × Pt × Nat) × (Nat × Pt)) : LastPlain (fbOut cs L s mults acc) := by
  intro i hi
  rw [fbOut_gates_size] at hi
  have : i = cs.gates.size + (mults.length + 2 + 3) := by omega
  subst this
  rw [gateAt_of_get ((fbOut_get cs L s mults acc _).trans (fbGates_get_tail _ _ _ _ _ 2))]
  exact eqGate_plain _ _

/-- The ladder part as a unit: its rows say exactly `FbRel`, and the table holds the witness
    list `fbWitList acc` from the first new index on. -/
theorem fbLadder_spec (L s : Nat) (mults : List Pt) (acc : List (Nat × Pt × Nat) × (Nat × Pt))
    (cs : Composer) (hn : acc.1.length = mults.length) :
    Spec 1 (fbLadder L s mults acc) cs
      (.ok (cs.wit.size + 4 * mults.length, cs.wit.size + 4 * mults.length + 1))
      (mults.length + 6) (4 * mults.length + 3) (FbRel cs.wit.size L s mults)
      (fun v => ∀ idx x, (fbWitList acc)[idx]? = some x → toF (v (cs.wit.size + idx)) = toF x)
      (FbRel cs.wit.size L s mults) := by
  have e := fbLadder_run L s mults acc cs
  rw [hn] at e
  have hx := fbOut_extends cs L s mults acc
  exact .of_state e
    ⟨hx, fbOut_gates_size cs L s mults acc, hn ▸ fbOut_wit_size cs L s mults acc,
      fun i _ => fbOut_last_plain cs L s mults acc i⟩
    (fun hpi => piFresh_of_pis hpi (fbOut_pis cs L s mults acc) hx.gates_size)
    (red_of_wit_append _ rfl fun j hj => by simp [Nat.mod_lt _ R_pos])
    (fun hpi => fb_rows_iff cs L s mults acc hpi hn)
    fun hext => fbOut_val cs L s mults acc hext

/-- first witness index of the ladder -/
def fbBase (c : Composer) : Nat := c.wit.size + canonWitCount JUBJUB_SCALAR_BITS
/-- gates appended by the whole component -/
def fbGateCount : Nat := canonGateCount JUBJUB_SCALAR_BITS + fbN + 6
/-- witnesses appended by the whole component -/
def fbWitCount : Nat := canonWitCount JUBJUB_SCALAR_BITS + (4 * fbN + 3)

theorem assertCanonicalJubjubScalar_wit_size (s : Nat) (c : Composer) :
    ((assertCanonicalJubjubScalar s).run c).2.wit.size = fbBase c :=
  (assertCanonicalJubjubScalar_spec s c).wit

/-- `append_fixed_base_signed_digits` with admissible digits (they only fix the layout): the rows
    say that the scalar is canonical — given the zero witness — and that the ladder relation holds
    from `fbBase c` on; the table holds the host's accumulators there, and satisfies the rows when
    the stored scalar is below `r_J` and the table satisfies the ladder relation
    (`fbRel_honest`). -/
theorem appendFixedBaseSignedDigits_spec (s : Nat) (g : Pt) (digits : List Int) (c : Composer)
    (hd : ValidDigits digits) :
    Spec 0 (appendFixedBaseSignedDigits s g digits) c
      (.ok (fbBase c + 4 * fbN, fbBase c + 4 * fbN + 1)) fbGateCount fbWitCount
      (fun w => (toF (w 0) = 0 → (toF (w s)).val < RJ) ∧
        FbRel (fbBase c) FIXED_BASE_LEADING_ZERO_ROUNDS s (fbMults g) w)
      (fun v => ∀ idx x, (fbWitList (fbAccs g digits))[idx]? = some x →
        toF (v (fbBase c + idx)) = toF x)
      (fun v => (s < c.wit.size ∧ v 0 = 0 ∧ v s < RJ) ∧
        FbRel (fbBase c) FIXED_BASE_LEADING_ZERO_ROUNDS s (fbMults g) v) := by
  obtain ⟨hlen, hbad⟩ := (validDigits_iff digits).mp hd
  rw [appendFixedBaseSignedDigits_eq, hbad, if_neg Bool.false_ne_true]
  apply Spec.mono
  · apply (assertCanonicalJubjubScalar_spec s c).bind
    exact fbLadder_spec _ _ _ _ _ (fbAccs_length g digits hlen)
  · exact Nat.zero_le _
  · rw [assertCanonicalJubjubScalar_wit_size, fbMults_length]
  · rw [fbMults_length]; exact (Nat.add_assoc ..).symm
  · rw [fbMults_length]; rfl
  · intro w
    rw [assertCanonicalJubjubScalar_wit_size]
    exact id
  · exact fun h => absurd h (by decide)
  · intro v _ h
    rw [assertCanonicalJubjubScalar_wit_size] at h
    exact h.2
  · intro v _ _ _ h
    rw [assertCanonicalJubjubScalar_wit_size]
    exact ⟨h.1, fun _ => h.2⟩

theorem appendFixedBaseSignedDigits_pis (s : Nat) (g : Pt) (digits : List Int) (c : Composer) :
    ((appendFixedBaseSignedDigits s g digits).run c).2.pis = c.pis := by
  rw [appendFixedBaseSignedDigits_eq, run_bind']
  split
  · rw [pure_run_snd]
    exact assertCanonicalJubjubScalar_pis s c
  · rw [fbLadder_run]
    exact (fbOut_pis ..).trans (assertCanonicalJubjubScalar_pis s c)

/-- Completeness of `append_fixed_base_signed_digits`: for a stored scalar below `r_J`, an
    on-curve generator and any admissible digit vector (256 digits in `{−1,0,1}`, the leading
    rounds accumulating to `0`, the whole vector recomposing the scalar), the model's own witness
    table — read in any later state — satisfies all rows of the component. -/
theorem fixedBase_complete (c : Composer) (s : Nat) (g : Pt) (digits : List Int) (hpi : PiFresh c)
    (hs : s < c.wit.size) (hz : c.val 0 = 0) (hg : onCurve g = true) (hd : ValidDigits digits)
    (hLz : sdAccZ (fun i => digits.getD i 0) fbN FIXED_BASE_LEADING_ZERO_ROUNDS = 0)
    (hfin : sdAccZ (fun i => digits.getD i 0) fbN fbN = (c.val s : ℤ))
    (hv : c.val s < RJ) {c'' : Composer}
    (hext : Extends ((appendFixedBaseSignedDigits s g digits).run c).2 c'') :
    c''.rowsHoldW c''.val c.gates.size
      ((appendFixedBaseSignedDigits s g digits).run c).2.gates.size := by
  have S := appendFixedBaseSignedDigits_spec s g digits c hd
  have hx := S.ext.trans hext
  have hlen := ((validDigits_iff digits).mp hd).1
  have hl : (digits.reverse.zip (fbMults g)).length = fbN := by
    rw [List.length_zip, List.length_reverse, fbMults_length, hlen, Nat.min_self]
  have hld : ∀ k (hk : k < (digits.reverse.zip (fbMults g)).length),
      (digits.reverse.zip (fbMults g))[k].1 = digits.getD (fbN - 1 - k) 0 := by
    intro k hk
    rw [hl] at hk
    simp only [List.getElem_zip, List.getElem_reverse, hlen]
    rw [List.getD_eq_getElem]
  have hsc := hostAt_scalar (digits.reverse.zip (fbMults g)) (fun i => digits.getD i 0) fbN
    Pt.id hld (getD_digit hd.2)
  refine S.complete hpi hext ⟨⟨hs, ?_, ?_⟩, ?_⟩
  · rw [hx.val_eq (Nat.zero_lt_of_lt hs)]; exact hz
  · rw [hx.val_eq hs]; exact hv
  refine fbRel_honest _ _ s (fbMults g) (digits.reverse.zip (fbMults g)) (S.vals hext)
    (by rw [hl, fbMults_length]) (fun i _ _ => by rw [List.getElem_zip])
    (fbMults_on_curve g hg) ?_ ?_ ?_ ?_
  · intro i h
    rw [hld i h]
    exact getD_digit hd.2 (fbN - 1 - i)
  · rw [hl]; exact leading_le_rounds
  · rw [hsc _ (by rw [hl]; exact leading_le_rounds), hLz, Int.cast_zero]
  · rw [hsc _ (Nat.le_refl _), hl, hfin, hx.val_eq hs, Int.cast_natCast]; rfl

/-! ### the width-2 NAF and `component_mul_generator` -/

theorem wnaf2_length_fbN (k : Nat) : (wnaf2 k).length = fbN := by
  rw [wnaf2_eq, nafList_length]; rfl

theorem wnaf2_not_bad (k : Nat) : digitsBad (wnaf2 k) = false := by
  unfold digitsBad
  rw [List.any_eq_false]
  intro d hd
  rw [wnaf2_eq] at hd
  rcases nafList_digits _ _ d hd with h | h | h <;> rw [h] <;> decide

theorem validDigits_wnaf2 (k : Nat) : ValidDigits (wnaf2 k) :=
  (validDigits_iff _).mpr ⟨wnaf2_length_fbN k, wnaf2_not_bad k⟩

/-- completeness with the digits the host actually uses -/
theorem fixedBase_complete_naf (c : Composer) (s : Nat) (g : Pt) (hpi : PiFresh c)
    (hs : s < c.wit.size) (hz : c.val 0 = 0) (hg : onCurve g = true) (hv : c.val s < RJ)
    {c'' : Composer}
    (hext : Extends ((appendFixedBaseSignedDigits s g (wnaf2 (c.val s))).run c).2 c'') :
    c''.rowsHoldW c''.val c.gates.size
      ((appendFixedBaseSignedDigits s g (wnaf2 (c.val s))).run c).2.gates.size := by
  obtain ⟨-, h2, h3⟩ := naf_chain_complete (c.val s) ((Nat.le_of_lt hv).trans RJ_le_two_pow)
  exact fixedBase_complete c s g _ hpi hs hz hg (validDigits_wnaf2 _) h2 h3 hv hext

/-- the affine generator used by `component_mul_generator` -/
def genAffine (gen : Ext) : Pt := (gen.toAffine?).getD Pt.id

/-- the host-side validation of the generator -/
def genOk (gen : Ext) : Bool := !(gen.z == 0 || !gen.onCurve || !gen.primeOrder)

/-- the host-side validation of the generator, as written in the source -/
theorem genOk_iff (gen : Ext) :
    genOk gen = true ↔ gen.z ≠ 0 ∧ gen.onCurve = true ∧ gen.primeOrder = true := by
  unfold genOk
  simp [and_assoc]

theorem genOk_eq_false_iff (gen : Ext) :
    genOk gen = false ↔ gen.z = 0 ∨ gen.onCurve = false ∨ gen.primeOrder = false := by
  unfold genOk
  cases gen.onCurve <;> cases gen.primeOrder <;> simp

/-- `component_mul_generator`, all three outcomes -/
theorem componentMulGenerator_run (s : Nat) (gen : Ext) (c : Composer) :
    (componentMulGenerator s gen).run c =
      if genOk gen = false then (.error .generatorNotPrime, c)
      else if RJ ≤ c.val s then (.error .scalarMalformed, c)
      else (appendFixedBaseSignedDigits s (genAffine gen) (wnaf2 (c.val s))).run c := by
  unfold componentMulGenerator genOk
  by_cases h1 : (gen.z == 0 || !gen.onCurve || !gen.primeOrder) = true
  · simp only [h1, if_true, Bool.not_true]; rfl
  · have h1' : (gen.z == 0 || !gen.onCurve || !gen.primeOrder) = false := by
      simpa using h1
    simp only [h1', Bool.not_false, Bool.false_eq_true, if_false, Bool.true_eq_false]
    rw [run_bind', getVal_run]
    by_cases h2 : RJ ≤ c.val s
    · simp only [ge_iff_le, h2, if_true]; rfl
    · simp only [ge_iff_le, h2, if_false]
      rfl

/-- a validated generator is an affine point on the curve -/
theorem genOk_on_curve (gen : Ext) (h : genOk gen = true) : onCurve (genAffine gen) = true := by
  unfold genOk at h
  simp only [Bool.not_eq_true', Bool.or_eq_false_iff, Bool.not_eq_false'] at h
  obtain ⟨⟨-, h2⟩, -⟩ := h
  unfold Ext.onCurve at h2
  unfold genAffine
  cases ha : gen.toAffine? with
  | none => rw [ha] at h2; simp at h2
  | some a =>
    rw [ha] at h2
    simp only [Bool.and_eq_true] at h2
    exact h2.1

/-! ### the layout does not depend on the witness values -/

theorem canonM_layout {c₁ c₂ : Composer} (h : SameLayout c₁ c₂) (n s : Nat) :
    SameLayout ((canonM n s).run c₁).2 ((canonM n s).run c₂).2 := by
  unfold canonM
  refine .bind rfl rfl (rangeCheck_layout h _ _) fun c₁ c₂ h => ?_
  refine .bind (gateAdd_fst _ _) (by rw [gateAdd_fst, h.wsize]) (gateAdd_layout h _)
    fun c₁ c₂ h => ?_
  exact rangeCheck_layout h _ _

theorem assertCanonicalJubjubScalar_layout {c₁ c₂ : Composer} (h : SameLayout c₁ c₂) (s : Nat) :
    SameLayout ((assertCanonicalJubjubScalar s).run c₁).2
      ((assertCanonicalJubjubScalar s).run c₂).2 := by
  rw [assertCanonicalJubjubScalar_eq]
  exact canonM_layout h _ s

theorem fbOut_layout {cs1 cs2 : Composer} (h : SameLayout cs1 cs2) (L s : Nat) (mults : List Pt)
    (acc1 acc2 : List (Nat × Pt × Nat) × (Nat × Pt)) (hl : acc1.1.length = acc2.1.length) :
    SameLayout (fbOut cs1 L s mults acc1) (fbOut cs2 L s mults acc2) :=
  ⟨by simp only [fbOut, h.gates, h.wsize, hl],
   by rw [fbOut_wit_size, fbOut_wit_size, h.wsize, hl],
   by rw [fbOut_pis, fbOut_pis, h.pis]⟩

theorem appendFixedBaseSignedDigits_layout {c₁ c₂ : Composer} (h : SameLayout c₁ c₂) (s : Nat)
    (g : Pt) (d₁ d₂ : List Int) (h₁ : ValidDigits d₁) (h₂ : ValidDigits d₂) :
    SameLayout ((appendFixedBaseSignedDigits s g d₁).run c₁).2
      ((appendFixedBaseSignedDigits s g d₂).run c₂).2 := by
  obtain ⟨l₁, b₁⟩ := (validDigits_iff d₁).mp h₁
  obtain ⟨l₂, b₂⟩ := (validDigits_iff d₂).mp h₂
  rw [appendFixedBaseSignedDigits_eq, appendFixedBaseSignedDigits_eq, run_bind', run_bind', b₁, b₂,
    if_neg Bool.false_ne_true, if_neg Bool.false_ne_true, fbLadder_run, fbLadder_run]
  dsimp only
  exact fbOut_layout (assertCanonicalJubjubScalar_layout h s) _ _ _ _ _
    (by rw [fbAccs_length g d₁ l₁, fbAccs_length g d₂ l₂])

/-- for the layout of a successful ladder call, and any target value `v` of the scalar witness:
    a satisfying assignment exists iff `v < r_J` -/
theorem fixedBase_satisfiable_iff (c : Composer) (s : Nat) (g : Pt) (digits : List Int)
    (hwf : WF c) (hs : s < c.wit.size) (hg : onCurve g = true) (hd : ValidDigits digits)
    (v : Nat) (hvR : v < R) (hs0 : s = 0 → v = 0) :
    (∃ w : Nat → Nat, w s = v ∧ w 0 = 0 ∧
      ((appendFixedBaseSignedDigits s g digits).run c).2.rowsHoldW w c.gates.size
        ((appendFixedBaseSignedDigits s g digits).run c).2.gates.size) ↔ v < RJ := by
  constructor
  · rintro ⟨w, hws, hw0, hrows⟩
    have := ((appendFixedBaseSignedDigits_spec s g digits c hd).sound hwf.pis_zero
      (Extends.refl _) w hrows).1 (by rw [hw0]; exact toF_zero)
    rwa [hws, val_toF_of_lt hvR] at this
  · intro hv
    -- the same circuit, built from a state in which the scalar witness holds `v`
    obtain ⟨c₂, hl, hwf₂, hval, hz₂, -⟩ := exists_sameLayout_val c s v hwf hvR hs hs0
    have hs₂ : s < c₂.wit.size := hl.wsize ▸ hs
    have hd₂ := validDigits_wnaf2 (c₂.val s)
    have hL := appendFixedBaseSignedDigits_layout hl s g digits _ hd hd₂
    have hext := (appendFixedBaseSignedDigits_spec s g _ c₂ hd₂).ext
    refine ⟨((appendFixedBaseSignedDigits s g (wnaf2 (c₂.val s))).run c₂).2.val, ?_, ?_, ?_⟩
    · rw [hext.val_eq hs₂, hval]
    · rw [hext.val_eq (Nat.zero_lt_of_lt hs₂), hz₂]
    · rw [hL.rowsHoldW_iff, hL.gates, hl.gates]
      exact fixedBase_complete_naf c₂ s g hwf₂.pis_zero hs₂ hz₂ hg (hval.symm ▸ hv)
        (Extends.refl _)

/-- inversion of a successful `component_mul_generator` call (the state on the left of the last
    equation: `subst` reduces the right-hand side looking for a variable, and would run the
    range checks) -/
theorem componentMulGenerator_ok_inv (c : Composer) (s : Nat) (gen : Ext) (p : Pt) (c' : Composer)
    (hrun : (componentMulGenerator s gen).run c = (.ok p, c')) :
    genOk gen = true ∧ c.val s < RJ ∧ p = (fbBase c + 4 * fbN, fbBase c + 4 * fbN + 1) ∧
    ((appendFixedBaseSignedDigits s (genAffine gen) (wnaf2 (c.val s))).run c).2 = c' := by
  rw [componentMulGenerator_run] at hrun
  split at hrun
  · cases hrun
  · split at hrun
    · cases hrun
    · next h1 h2 =>
      have S := appendFixedBaseSignedDigits_spec s (genAffine gen) _ c (validDigits_wnaf2 (c.val s))
      exact ⟨Bool.eq_true_of_not_eq_false h1, Nat.lt_of_not_le h2,
        Except.ok.inj ((congrArg Prod.fst hrun).symm.trans S.fst), congrArg Prod.snd hrun⟩

/-! ### the example generator `exG` -/

/-- the extended form of `exG` passes the host-side validation (evaluated by the kernel: curve
    equation and `[r_J]·exG = O`) -/
theorem genOk_exG : genOk (Ext.ofAffine exG) = true := by decide +kernel

/-- `component_mul_generator(2, exG)` on `initialized` (scalar witness `6 < r_J`) succeeds -/
theorem mulGenerator_exG_run :
    (componentMulGenerator 2 (Ext.ofAffine exG)).run initialized =
      (.ok (fbBase initialized + 4 * fbN, fbBase initialized + 4 * fbN + 1),
        ((appendFixedBaseSignedDigits 2 (genAffine (Ext.ofAffine exG))
          (wnaf2 (initialized.val 2))).run initialized).2) := by
  have g2 : ¬ (RJ ≤ initialized.val 2) := by decide +kernel
  rw [componentMulGenerator_run, genOk_exG, if_neg Bool.noConfusion, if_neg g2,
    ← (appendFixedBaseSignedDigits_spec 2 (genAffine (Ext.ofAffine exG)) (wnaf2 (initialized.val 2))
      initialized (validDigits_wnaf2 _)).fst]
  exact Prod.mk.eta.symm

end Composer
end Plonk
