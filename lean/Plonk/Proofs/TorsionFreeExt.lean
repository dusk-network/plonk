/-
  C13, host side — the extended-coordinate arithmetic of `Plonk/Model/Jubjub.lean`
  (`Ext.add`, `Ext.double`, `Ext.mulBits`, `edMul`, `Ext.onCurve`, `Ext.torsionFree`,
  `Ext.primeOrder`, `Ext.toAffine?`) against the affine group law `addF` / `smulF` over
  `F = ZMod R`: the extended formulas compute the affine law on curve points (`Z ≠ 0` is an
  invariant because the law is complete), hence `edMul k p = [k]p` for `k < 2^252`, and the Boolean
  tests mean what their names say.
-/
import Plonk.Proofs.EdwardsGroup

namespace Plonk
open Plonk

/-! ### representation of an affine point by extended coordinates -/

/-- `e = (U, V, Z, T1, T2)` represents the affine point `X = (U/Z, V/Z)`, with `T1·T2 = U·V/Z` -/
structure RepF (e : Ext) (X : PtF) : Prop where
  z_ne : toF e.z ≠ 0
  hu : toF e.u = X.1 * toF e.z
  hv : toF e.v = X.2 * toF e.z
  ht : toF e.t1 * toF e.t2 = X.1 * X.2 * toF e.z

/-- the three coordinates that are compared with `==` are canonical -/
def Ext.Red (e : Ext) : Prop := e.u < R ∧ e.v < R ∧ e.z < R

/-- the affine point an extended representation denotes (field level) -/
def Ext.affF (e : Ext) : PtF := (toF e.u / toF e.z, toF e.v / toF e.z)

theorem RepF.eq_affF {e : Ext} {X : PtF} (h : RepF e X) : X = e.affF := by
  unfold Ext.affF
  apply Prod.ext
  · simp only; rw [h.hu, mul_div_assoc, div_self h.z_ne, mul_one]
  · simp only; rw [h.hv, mul_div_assoc, div_self h.z_ne, mul_one]

theorem RepF.unique {e : Ext} {X Y : PtF} (h : RepF e X) (h' : RepF e Y) : X = Y := by
  rw [h.eq_affF, h'.eq_affF]

theorem repF_id : RepF Ext.id idF := by
  refine ⟨?_, ?_, ?_, ?_⟩ <;> simp [Ext.id, idF]

theorem red_id : Ext.id.Red := by
  refine ⟨?_, ?_, ?_⟩ <;> simp only [Ext.id]
  · exact R_pos
  · exact Nat.mod_lt _ R_pos
  · exact Nat.mod_lt _ R_pos

theorem repF_ofAffine (p : Pt) : RepF (Ext.ofAffine p) (toFP p) := by
  refine ⟨?_, ?_, ?_, ?_⟩ <;> simp [Ext.ofAffine, toFP]

theorem affF_ofAffine (p : Pt) : (Ext.ofAffine p).affF = toFP p := by
  unfold Ext.affF Ext.ofAffine toFP
  simp

theorem ofAffine_red {p : Pt} (h1 : p.1 < R) (h2 : p.2 < R) : (Ext.ofAffine p).Red :=
  ⟨h1, h2, Nat.mod_lt _ R_pos⟩

theorem affF_id : Ext.id.affF = idF := by
  unfold Ext.affF Ext.id idF
  simp

theorem Ext.double_red (e : Ext) : e.double.Red :=
  ⟨fmul_lt _ _, fmul_lt _ _, fmul_lt _ _⟩

theorem Ext.add_red (e p : Ext) : (e.add p).Red :=
  ⟨fmul_lt _ _, fmul_lt _ _, fmul_lt _ _⟩

/-- Both `Ext.double` and `Ext.add` end in a "completed" point `(E : F : G : H)` with
    `U = E·F`, `V = G·H`, `Z = F·G`, `T1·T2 = E·H`; with `E = N₁·S`, `G = S·D₁`, `H = N₂·S`,
    `F = S·D₂` for a common scale `S ≠ 0` it represents the affine point `(N₁/D₁, N₂/D₂)`. -/
theorem RepF.of_completed {e : Ext} {E F' G H S N1 D1 N2 D2 : F} (hu : toF e.u = E * F')
    (hv : toF e.v = G * H) (hz : toF e.z = F' * G) (ht : toF e.t1 * toF e.t2 = E * H)
    (hS : S ≠ 0) (hD1 : D1 ≠ 0) (hD2 : D2 ≠ 0) (hE : E = N1 * S) (hG : G = S * D1)
    (hH : H = N2 * S) (hF : F' = S * D2) : RepF e (N1 / D1, N2 / D2) := by
  have h1 : E = N1 / D1 * G := by
    rw [hE, hG, mul_comm S D1, ← mul_assoc, div_mul_cancel₀ _ hD1]
  have h2 : H = N2 / D2 * F' := by
    rw [hH, hF, mul_comm S D2, ← mul_assoc, div_mul_cancel₀ _ hD2]
  refine ⟨by rw [hz, hF, hG]; exact mul_ne_zero (mul_ne_zero hS hD2) (mul_ne_zero hS hD1),
    ?_, ?_, ?_⟩
  · show toF e.u = N1 / D1 * toF e.z
    rw [hu, hz, h1, mul_assoc, mul_comm G]
  · show toF e.v = N2 / D2 * toF e.z
    rw [hv, hz, h2, mul_left_comm, mul_comm G]
  · show toF e.t1 * toF e.t2 = N1 / D1 * (N2 / D2) * toF e.z
    rw [ht, hz, h1, h2, mul_mul_mul_comm, mul_comm G]

/-- `Ext.double` (dbl-2008-hwcd, `a = −1`) computes `X + X` on curve points -/
theorem RepF.double {e : Ext} {X : PtF} (h : RepF e X) (hX : OnCurveP X) :
    RepF e.double (addF X X) := by
  obtain ⟨x, y⟩ := X
  obtain ⟨hA, hB⟩ := add_completeP hX hX
  obtain ⟨hz, hu, hv, -⟩ := h
  simp only at hA hB hu hv
  have hc : OnCurveF x y := hX
  unfold OnCurveF at hc
  have hzz : toF e.z * toF e.z ≠ 0 := mul_ne_zero hz hz
  have cu : toF (fsub (fsq (fadd e.u e.v)) (fadd (fsq e.v) (fsq e.u))) =
      (x * y + y * x) * (toF e.z * toF e.z) := by
    simp only [toF_fsub, toF_fadd, toF_fsq, hu, hv]; ring
  have cv : toF (fadd (fsq e.v) (fsq e.u)) = (y * y + x * x) * (toF e.z * toF e.z) := by
    simp only [toF_fadd, toF_fsq, hu, hv]; ring
  have cz : toF (fsub (fsq e.v) (fsq e.u)) =
      toF e.z * toF e.z * (1 + dF * x * x * y * y) := by
    simp only [toF_fsub, toF_fsq, hu, hv]; linear_combination (toF e.z * toF e.z) * hc
  have ct : toF (fsub (fmul 2 (fsq e.z)) (fsub (fsq e.v) (fsq e.u))) =
      toF e.z * toF e.z * (1 - dF * x * x * y * y) := by
    simp only [toF_fsub, toF_fmul, toF_fsq, toF_two, hu, hv]
    linear_combination (-(toF e.z * toF e.z)) * hc
  exact RepF.of_completed (toF_fmul _ _) ((toF_fmul _ _).trans (mul_comm _ _))
    ((toF_fmul _ _).trans (mul_comm _ _)) rfl hzz hA hB cu cz cv ct

/-- `Ext.add` (add-2008-hwcd-3, `a = −1`) computes `X + Y` on curve points -/
theorem RepF.add {e p : Ext} {X Y : PtF} (h : RepF e X) (h' : RepF p Y) (hX : OnCurveP X)
    (hY : OnCurveP Y) : RepF (e.add p) (addF X Y) := by
  obtain ⟨x1, y1⟩ := X
  obtain ⟨x2, y2⟩ := Y
  obtain ⟨hA, hB⟩ := add_completeP hX hY
  obtain ⟨hz, hu, hv, ht⟩ := h
  obtain ⟨hz', hu', hv', ht'⟩ := h'
  simp only at hA hB hu hv ht hu' hv' ht'
  have h2zz : 2 * (toF e.z * toF p.z) ≠ 0 := mul_ne_zero two_ne_zero_F (mul_ne_zero hz hz')
  -- the four completed coordinates `E = B − A`, `F = D − C`, `G = D + C`, `H = B + A`
  have cE : toF (fsub (fmul (fadd e.v e.u) (fadd p.v p.u)) (fmul (fsub e.v e.u) (fsub p.v p.u))) =
      (x1 * y2 + y1 * x2) * (2 * (toF e.z * toF p.z)) := by
    simp only [toF_fsub, toF_fadd, toF_fmul, hu, hv, hu', hv']; ring
  have cH : toF (fadd (fmul (fadd e.v e.u) (fadd p.v p.u)) (fmul (fsub e.v e.u) (fsub p.v p.u))) =
      (y1 * y2 + x1 * x2) * (2 * (toF e.z * toF p.z)) := by
    simp only [toF_fsub, toF_fadd, toF_fmul, hu, hv, hu', hv']; ring
  have cF : toF (fsub (fmul (fmul e.z p.z) 2)
        (fmul (fmul (fmul e.t1 e.t2) (fmul (fmul p.t1 p.t2) (fmul 2 EDWARDS_D))) 1)) =
      2 * (toF e.z * toF p.z) * (1 - dF * x1 * x2 * y1 * y2) := by
    simp only [toF_fsub, toF_fmul, toF_two, toF_one, toF_EDWARDS_D, ht, ht']; ring
  have cG : toF (fadd (fmul (fmul e.z p.z) 2)
        (fmul (fmul (fmul e.t1 e.t2) (fmul (fmul p.t1 p.t2) (fmul 2 EDWARDS_D))) 1)) =
      2 * (toF e.z * toF p.z) * (1 + dF * x1 * x2 * y1 * y2) := by
    simp only [toF_fadd, toF_fmul, toF_two, toF_one, toF_EDWARDS_D, ht, ht']; ring
  exact RepF.of_completed (toF_fmul _ _) (toF_fmul _ _) (toF_fmul _ _) rfl h2zz hA hB cE cG cH cF

/-! ### `Ext.mulBits`: the MSB-first double-and-add over bits 251..0 -/

/-- one round of `Ext.mulBits` -/
def Ext.mulStep (p : Ext) (k : Nat) (acc : Ext) (i : Nat) : Ext :=
  let acc := acc.double
  if bit k (251 - i) == 1 then acc.add p else acc

theorem Ext.mulBits_eq (p : Ext) (k : Nat) :
    p.mulBits k = (List.range 252).foldl (p.mulStep k) Ext.id := rfl

theorem Ext.mulStep_red (p : Ext) (k : Nat) (acc : Ext) (i : Nat) : (p.mulStep k acc i).Red := by
  unfold Ext.mulStep
  simp only
  split
  · exact Ext.add_red _ _
  · exact Ext.double_red _

theorem mulBits_fold_red (p : Ext) (k : Nat) (l : List Nat) (acc : Ext) (ha : acc.Red) :
    (l.foldl (p.mulStep k) acc).Red := by
  induction l generalizing acc with
  | nil => exact ha
  | cons i l ih =>
    simp only [List.foldl_cons]
    exact ih _ (Ext.mulStep_red p k acc i)

theorem Ext.mulBits_red (p : Ext) (k : Nat) : (p.mulBits k).Red :=
  mulBits_fold_red p k _ _ red_id

/-- `Ext.mulBits p k` represents `[k mod 2^252]P` whenever `p` represents the curve point `P` -/
theorem mulBits_rep {p : Ext} {P : PtF} (k : Nat) (hp : RepF p P) (hP : OnCurveP P) :
    RepF (p.mulBits k) (smulF (k % 2 ^ 252) P) := by
  have h := ladder_rep (G := CurvePt) (Rep := fun e Q => RepF e Q.val) (P := ⟨P, hP⟩)
    (step := fun acc b => if b then acc.double.add p else acc.double)
    (fun {acc A} b ha => by
      have hd : RepF acc.double (A + A).val := ha.double A.on
      cases b
      · simpa using hd
      · simpa using hd.add hp (A + A).on hP)
    ((List.range 252).map fun i => bit k (252 - 1 - i) == 1) (acc := Ext.id) (n := 0)
    (by simpa using repF_id)
  rw [bitsValMSB_bits, Nat.zero_mul, Nat.zero_add, ← foldl_range_bits] at h
  exact h

/-! ### `toAffine?`, `isIdentity`, `edMul` -/

theorem Ext.toAffine?_eq_none_iff (e : Ext) : e.toAffine? = none ↔ e.z = 0 := by
  unfold Ext.toAffine?
  split
  · next h => simp only [beq_iff_eq] at h; simp [h]
  · next h => simp only [beq_iff_eq] at h; simp [h]

theorem Ext.toAffine?_of_ne {e : Ext} (h : e.z ≠ 0) :
    e.toAffine? = some (fmul e.u (finv e.z), fmul e.v (finv e.z)) := by
  unfold Ext.toAffine?
  have : (e.z == 0) = false := by simpa using h
  simp [this]

/-- the affine point returned by `toAffine?` (when `z ≠ 0`) -/
def Ext.aff (e : Ext) : Pt := (fmul e.u (finv e.z), fmul e.v (finv e.z))

theorem Ext.aff_lt (e : Ext) : e.aff.1 < R ∧ e.aff.2 < R := ⟨fmul_lt _ _, fmul_lt _ _⟩

theorem Ext.toFP_aff (e : Ext) : toFP e.aff = e.affF := by
  unfold Ext.aff Ext.affF toFP
  simp only [toF_fmul, toF_finv, div_eq_mul_inv]

theorem Ext.toAffine?_eq (e : Ext) : e.toAffine? = if e.z = 0 then none else some e.aff := by
  split
  · next h => exact (Ext.toAffine?_eq_none_iff e).mpr h
  · next h => exact Ext.toAffine?_of_ne h

theorem RepF.toAffine? {e : Ext} {X : PtF} (h : RepF e X) :
    e.toAffine? = some e.aff ∧ toFP e.aff = X := by
  refine ⟨Ext.toAffine?_of_ne fun h0 => h.z_ne (h0 ▸ toF_zero), ?_⟩
  rw [Ext.toFP_aff, ← h.eq_affF]

theorem RepF.isIdentity_iff {e : Ext} {X : PtF} (h : RepF e X) (hr : e.Red) :
    e.isIdentity = true ↔ X = idF := by
  obtain ⟨x, y⟩ := X
  obtain ⟨hu, hv, hz⟩ := hr
  unfold Ext.isIdentity idF
  simp only [Bool.and_eq_true, beq_iff_eq, Prod.mk.injEq]
  rw [eq_zero_iff_toF hu, ← toF_inj_of_lt hv hz, h.hu, h.hv]
  simp only
  constructor
  · rintro ⟨h1, h2⟩
    refine ⟨?_, ?_⟩
    · rcases mul_eq_zero.mp h1 with h1 | h1
      · exact h1
      · exact absurd h1 h.z_ne
    · have : (y - 1) * toF e.z = 0 := by linear_combination h2
      rcases mul_eq_zero.mp this with h3 | h3
      · linear_combination h3
      · exact absurd h3 h.z_ne
  · rintro ⟨rfl, rfl⟩
    simp

/-- the host's scalar multiplication of an affine curve point is the scalar
    multiple of the group law, for scalars below `2^252` (all `JubJubScalar`s). -/
theorem edMul_eq_smulF (k : Nat) (p : Pt) (hp : onCurve p = true) (hk : k < 2 ^ 252) :
    toFP (edMul k p) = smulF k (toFP p) := by
  have hP := (onCurve_iff_P p).mp hp
  have h := mulBits_rep k (repF_ofAffine p) hP
  rw [Nat.mod_eq_of_lt hk] at h
  unfold edMul
  rw [h.toAffine?.1]
  exact h.toAffine?.2

theorem edMul_lt (k : Nat) (p : Pt) : (edMul k p).1 < R ∧ (edMul k p).2 < R := by
  unfold edMul
  rw [Ext.toAffine?_eq]
  split
  · exact ⟨R_pos, R_gt_one⟩
  · exact Ext.aff_lt _

theorem edMul_on_curve (k : Nat) (p : Pt) (hp : onCurve p = true) (hk : k < 2 ^ 252) :
    onCurve (edMul k p) = true := by
  rw [onCurve_iff_P, edMul_eq_smulF k p hp hk]
  exact smulF_on_curve k ((onCurve_iff_P p).mp hp)

theorem EIGHT_INV_lt : Generated.EIGHT_INV < 2 ^ 252 := by decide +kernel
theorem RJ_lt : RJ < 2 ^ 252 := by decide +kernel

/-! ### the Boolean tests of `JubJubExtended` -/

theorem Ext.onCurve_iff (e : Ext) :
    e.onCurve = true ↔ e.z ≠ 0 ∧ OnCurveP e.affF ∧
      e.affF.1 * e.affF.2 * toF e.z = toF e.t1 * toF e.t2 := by
  unfold Ext.onCurve
  by_cases h : e.z = 0
  · rw [(Ext.toAffine?_eq_none_iff e).mpr h]; simp [h]
  · rw [Ext.toAffine?_of_ne h]
    change (Plonk.onCurve e.aff && fmul (fmul e.aff.1 e.aff.2) e.z == fmul e.t1 e.t2) = true ↔ _
    simp only [Bool.and_eq_true, beq_iff_eq, ne_eq, h, not_false_eq_true, true_and]
    rw [onCurve_iff_P, Ext.toFP_aff, ← toF_inj_of_lt (fmul_lt _ _) (fmul_lt _ _)]
    simp only [toF_fmul]
    have e1 : toF e.aff.1 = e.affF.1 := by rw [← Ext.toFP_aff, toFP_fst]
    have e2 : toF e.aff.2 = e.affF.2 := by rw [← Ext.toFP_aff, toFP_snd]
    rw [e1, e2]

theorem Ext.repF_of_onCurve {e : Ext} (h : e.onCurve = true) (hz : e.z < R) :
    RepF e e.affF ∧ OnCurveP e.affF := by
  obtain ⟨h0, hc, ht⟩ := (Ext.onCurve_iff e).mp h
  have hz' : toF e.z ≠ 0 := by rwa [Ne, toF_eq_zero_of_lt hz]
  refine ⟨⟨hz', ?_, ?_, ht.symm⟩, hc⟩
  · unfold Ext.affF; simp only; rw [div_mul_cancel₀ _ hz']
  · unfold Ext.affF; simp only; rw [div_mul_cancel₀ _ hz']

theorem Ext.torsionFree_iff {e : Ext} (h : e.onCurve = true) (hz : e.z < R) :
    e.torsionFree = true ↔ smulF RJ e.affF = idF := by
  obtain ⟨hr, hc⟩ := Ext.repF_of_onCurve h hz
  have hm := mulBits_rep RJ hr hc
  rw [Nat.mod_eq_of_lt RJ_lt] at hm
  unfold Ext.torsionFree
  exact hm.isIdentity_iff (Ext.mulBits_red e RJ)

theorem Ext.primeOrder_iff {e : Ext} (h : e.onCurve = true) (hr : e.Red) :
    e.primeOrder = true ↔ smulF RJ e.affF = idF ∧ e.affF ≠ idF := by
  obtain ⟨hrep, hc⟩ := Ext.repF_of_onCurve h hr.2.2
  unfold Ext.primeOrder
  simp only [Bool.and_eq_true, Bool.not_eq_true', ← Bool.not_eq_true]
  rw [Ext.torsionFree_iff h hr.2.2, hrep.isIdentity_iff hr]

end Plonk
