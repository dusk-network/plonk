/-
  G1 group law, part 1: the affine model (`G1.onCurve`, `G1.neg`, `G1.add` of `Plonk/Model/Bls.lean`)
  refines the group of nonsingular points of the Weierstrass curve `y² = x³ + 4` over `ZMod P`
  (Mathlib: `WeierstrassCurve.Affine.Point`, an `AddCommGroup`).

  Everything is stated for *valid* model points (`G1.Valid` of `CodecG1.lean`: the identity, or
  reduced coordinates `< P` on the curve) — the model's `G1.add` compares raw `Nat` coordinates
  (`x1 == x2`), so reducedness is needed, and all values the model produces are reduced.
-/
import Mathlib.AlgebraicGeometry.EllipticCurve.Affine.Point
import Mathlib.Tactic.FieldSimp
import Mathlib.Tactic.Ring
import Mathlib.Tactic.LinearCombination
import Plonk.Proofs.PrimeP
import Plonk.Proofs.CodecRoundtrip

set_option Elab.async false

namespace Plonk

open WeierstrassCurve

theorem toP_ofNat (n : Nat) [n.AtLeastTwo] : toP (OfNat.ofNat n) = (OfNat.ofNat n : Fp) := by
  unfold toP; exact Nat.cast_ofNat
@[simp] theorem toP_two : toP 2 = 2 := toP_ofNat 2
@[simp] theorem toP_three : toP 3 = 3 := toP_ofNat 3
@[simp] theorem toP_eight : toP 8 = 8 := toP_ofNat 8

theorem P_sub_two_lt : P - 2 < 2 ^ 384 := by decide +kernel
theorem P_gt_two : 2 < P := by decide +kernel

/-- `pinv` is the field inverse (Fermat), including `pinv 0 = 0 = 0⁻¹` -/
@[simp] theorem toP_pinv (a : Nat) : toP (pinv a) = (toP a)⁻¹ := by
  unfold pinv
  rw [toP_ppow _ _ P_sub_two_lt]
  by_cases h : toP a = 0
  · rw [h]
    have h2 : P - 2 ≠ 0 := by have := P_gt_two; omega
    rw [inv_zero]
    exact zero_pow (M₀ := Fp) h2
  · have hc : (toP a) ^ (P - 1) = 1 := ZMod.pow_card_sub_one_eq_one h
    have h2 : (toP a) ^ (P - 2) * toP a = 1 := by
      rw [← pow_succ]
      have : P - 2 + 1 = P - 1 := by have := P_gt_two; omega
      rw [this]; exact hc
    exact eq_inv_of_mul_eq_one_left h2

theorem pinv_lt (a : Nat) : pinv a < P := ppow_lt _ _

theorem Fp_two_ne_zero : (2 : Fp) ≠ 0 := by
  rw [← toP_two, Ne, toP_eq_zero_of_lt P_gt_two]; omega

namespace G1

/-- the Weierstrass curve `y² = x³ + 4` over `ZMod P` -/
def W : WeierstrassCurve Fp := ⟨0, 0, 0, 0, 4⟩

@[simp] theorem W_a₁ : W.a₁ = 0 := rfl
@[simp] theorem W_a₂ : W.a₂ = 0 := rfl
@[simp] theorem W_a₃ : W.a₃ = 0 := rfl
@[simp] theorem W_a₄ : W.a₄ = 0 := rfl
@[simp] theorem W_a₆ : W.a₆ = 4 := rfl

theorem W_Δ : W.Δ = -6912 := by
  simp only [WeierstrassCurve.Δ, WeierstrassCurve.b₂, WeierstrassCurve.b₄, WeierstrassCurve.b₆,
    WeierstrassCurve.b₈, W_a₁, W_a₂, W_a₃, W_a₄, W_a₆]
  ring

theorem W_Δ_ne_zero : W.Δ ≠ 0 := by
  rw [W_Δ, neg_ne_zero]
  have h : ((6912 : Nat) : Fp) ≠ 0 := by
    change toP 6912 ≠ 0
    rw [Ne, toP_eq_zero_of_lt (by decide +kernel)]; omega
  exact_mod_cast h

instance W_isElliptic : W.IsElliptic := ⟨isUnit_iff_ne_zero.mpr W_Δ_ne_zero⟩

/-- the group of points of `y² = x³ + 4` over `ZMod P` -/
abbrev Pt := W.toAffine.Point

theorem W_equation_iff (x y : Fp) : W.toAffine.Equation x y ↔ y * y = x * x * x + 4 := by
  rw [Affine.equation_iff]
  simp only [toAffine, W_a₁, W_a₂, W_a₃, W_a₄, W_a₆]
  constructor <;> intro h <;> linear_combination h

theorem W_nonsingular_iff (x y : Fp) : W.toAffine.Nonsingular x y ↔ y * y = x * x * x + 4 := by
  rw [← Affine.equation_iff_nonsingular_of_Δ_ne_zero W_Δ_ne_zero, W_equation_iff]

theorem nonsingular_of_onCurve {x y : Nat} (h : (G1.aff x y).onCurve = true) :
    W.toAffine.Nonsingular (toP x) (toP y) :=
  (W_nonsingular_iff _ _).mpr ((onCurve_aff_iff x y).mp h)

/-- the point of the Mathlib curve that an on-curve model point denotes -/
def toPoint : {p : G1 // p.onCurve = true} → Pt
  | ⟨.inf, _⟩ => 0
  | ⟨.aff x y, h⟩ => .some (toP x) (toP y) (nonsingular_of_onCurve h)

/-- total version of `toPoint` (off-curve junk is sent to `0`) -/
def pt (p : G1) : Pt := if h : p.onCurve = true then toPoint ⟨p, h⟩ else 0

theorem pt_eq_toPoint {p : G1} (h : p.onCurve = true) : pt p = toPoint ⟨p, h⟩ := dif_pos h

@[simp] theorem pt_inf : pt .inf = 0 := rfl

theorem Valid.onCurve {p : G1} (h : p.Valid) : p.onCurve = true := by
  cases p with
  | inf => rfl
  | aff x y => exact h.2.2

theorem pt_aff {x y : Nat} (h : (G1.aff x y).onCurve = true) :
    pt (.aff x y) = .some (toP x) (toP y) (nonsingular_of_onCurve h) := by
  rw [pt_eq_toPoint h]; rfl

/-- a reduced pair whose image is a nonsingular point is a valid model point denoting that point -/
theorem valid_of_nonsingular {x y : Nat} (hx : x < P) (hy : y < P) {a b : Fp}
    (hn : W.toAffine.Nonsingular a b) (ea : toP x = a) (eb : toP y = b) :
    (G1.aff x y).Valid ∧ pt (.aff x y) = .some a b hn := by
  subst ea eb
  have hc : (G1.aff x y).onCurve = true :=
    (onCurve_aff_iff x y).mpr ((W_nonsingular_iff _ _).mp hn)
  exact ⟨⟨hx, hy, hc⟩, pt_aff hc⟩

theorem pt_injective {p q : G1} (hp : p.Valid) (hq : q.Valid) (h : pt p = pt q) : p = q := by
  cases p with
  | inf =>
    cases q with
    | inf => rfl
    | aff x y => rw [pt_aff hq.onCurve] at h; exact absurd h.symm (Affine.Point.some_ne_zero _)
  | aff x y =>
    cases q with
    | inf => rw [pt_aff hp.onCurve] at h; exact absurd h (Affine.Point.some_ne_zero _)
    | aff x' y' =>
      rw [pt_aff hp.onCurve, pt_aff hq.onCurve, Affine.Point.some.injEq] at h
      rw [(toP_inj_of_lt hp.1 hq.1).mp h.1, (toP_inj_of_lt hp.2.1 hq.2.1).mp h.2]

theorem pt_eq_zero_iff {p : G1} (hp : p.Valid) : pt p = 0 ↔ p = .inf := by
  constructor
  · intro h; exact pt_injective hp trivial (h.trans pt_inf.symm)
  · rintro rfl; rfl

theorem neg_spec {p : G1} (hp : p.Valid) : p.neg.Valid ∧ pt p.neg = - pt p := by
  cases p with
  | inf => exact ⟨trivial, rfl⟩
  | aff x y =>
    have hn := nonsingular_of_onCurve hp.onCurve
    rw [pt_aff hp.onCurve, Affine.Point.neg_some]
    refine valid_of_nonsingular hp.1 (pneg_lt _) _ rfl ?_
    simp [Affine.negY]

theorem y_ne_zero {x y : Fp} (h : y * y = x * x * x + 4) : y ≠ 0 := by
  rintro rfl
  exact no_cube_root x (by linear_combination -h)

@[simp] theorem inf_add (q : G1) : G1.add .inf q = q := by cases q <;> rfl
@[simp] theorem add_inf (p : G1) : G1.add p .inf = p := by cases p <;> rfl

theorem add_aff_eq (x1 y1 x2 y2 : Nat) : G1.add (.aff x1 y1) (.aff x2 y2) =
    if x1 = x2 then
      if y1 = y2 ∧ y1 ≠ 0 then
        .aff (psub (psq (pmul (pmul 3 (psq x1)) (pinv (pmul 2 y1)))) (pmul 2 x1))
          (psub (pmul (pmul (pmul 3 (psq x1)) (pinv (pmul 2 y1)))
            (psub x1 (psub (psq (pmul (pmul 3 (psq x1)) (pinv (pmul 2 y1)))) (pmul 2 x1)))) y1)
      else .inf
    else
      .aff (psub (psub (psq (pmul (psub y2 y1) (pinv (psub x2 x1)))) x1) x2)
        (psub (pmul (pmul (psub y2 y1) (pinv (psub x2 x1)))
          (psub x1 (psub (psub (psq (pmul (psub y2 y1) (pinv (psub x2 x1)))) x1) x2))) y1) := by
  simp only [G1.add, beq_iff_eq, bne_iff_ne, Bool.and_eq_true]

theorem add_spec_chord {x1 y1 x2 y2 : Nat} (hp : (G1.aff x1 y1).Valid) (hq : (G1.aff x2 y2).Valid)
    (hx : x1 ≠ x2) :
    ((G1.aff x1 y1).add (.aff x2 y2)).Valid ∧
      pt ((G1.aff x1 y1).add (.aff x2 y2)) = pt (.aff x1 y1) + pt (.aff x2 y2) := by
  have hx' : toP x1 ≠ toP x2 := fun h => hx ((toP_inj_of_lt hp.1 hq.1).mp h)
  rw [add_aff_eq, if_neg hx, pt_aff hp.onCurve, pt_aff hq.onCurve, Affine.Point.add_of_X_ne hx']
  have h12 : toP x1 - toP x2 ≠ 0 := sub_ne_zero.mpr hx'
  have h21 : toP x2 - toP x1 ≠ 0 := sub_ne_zero.mpr (Ne.symm hx')
  have hl : (toP y2 - toP y1) * (toP x2 - toP x1)⁻¹ = (toP y1 - toP y2) / (toP x1 - toP x2) := by
    field_simp; ring
  refine valid_of_nonsingular (psub_lt _ _) (psub_lt _ _) _ ?_ ?_
  · simp only [toP_psub, toP_psq, toP_pmul, toP_pinv, Affine.slope_of_X_ne hx', Affine.addX,
      toAffine, W_a₁, W_a₂, hl]
    ring
  · simp only [toP_psub, toP_psq, toP_pmul, toP_pinv, Affine.slope_of_X_ne hx', Affine.addX,
      Affine.addY, Affine.negAddY, Affine.negY, toAffine, W_a₁, W_a₂, W_a₃, hl]
    ring

theorem add_spec_double {x y : Nat} (hp : (G1.aff x y).Valid) :
    ((G1.aff x y).add (.aff x y)).Valid ∧
      pt ((G1.aff x y).add (.aff x y)) = pt (.aff x y) + pt (.aff x y) := by
  have hc := (onCurve_aff_iff x y).mp hp.onCurve
  have hy0 : toP y ≠ 0 := y_ne_zero hc
  have hy0' : y ≠ 0 := by rintro rfl; exact hy0 toP_zero
  have hy : toP y ≠ W.toAffine.negY (toP x) (toP y) := by
    simp only [Affine.negY, toAffine, W_a₁, W_a₃]
    intro h
    have : (2 : Fp) * toP y = 0 := by linear_combination h
    rcases mul_eq_zero.mp this with h | h
    · exact Fp_two_ne_zero h
    · exact hy0 h
  rw [add_aff_eq, if_pos rfl, if_pos ⟨rfl, hy0'⟩, pt_aff hp.onCurve,
    Affine.Point.add_self_of_Y_ne hy]
  have h2y : (2 : Fp) * toP y ≠ 0 := mul_ne_zero Fp_two_ne_zero hy0
  have hl : 3 * (toP x * toP x) * (2 * toP y)⁻¹ =
      (3 * toP x ^ 2) / (toP y - (-toP y)) := by
    field_simp; ring
  refine valid_of_nonsingular (psub_lt _ _) (psub_lt _ _) _ ?_ ?_
  · simp only [toP_psub, toP_psq, toP_pmul, toP_pinv, toP_two, toP_three,
      Affine.slope_of_Y_ne rfl hy, Affine.addX, Affine.negY, toAffine, W_a₁, W_a₂, W_a₃, W_a₄, hl]
    ring
  · simp only [toP_psub, toP_psq, toP_pmul, toP_pinv, toP_two, toP_three,
      Affine.slope_of_Y_ne rfl hy, Affine.addX, Affine.addY, Affine.negAddY, Affine.negY,
      toAffine, W_a₁, W_a₂, W_a₃, W_a₄, hl]
    ring

/-- the model's affine addition is the group law (all branches), and it preserves validity -/
theorem add_spec {p q : G1} (hp : p.Valid) (hq : q.Valid) :
    (p.add q).Valid ∧ pt (p.add q) = pt p + pt q := by
  cases p with
  | inf => rw [inf_add, pt_inf, zero_add]; exact ⟨hq, rfl⟩
  | aff x1 y1 =>
    cases q with
    | inf => rw [add_inf, pt_inf, add_zero]; exact ⟨hp, rfl⟩
    | aff x2 y2 =>
      by_cases hx : x1 = x2
      · subst hx
        by_cases hy : y1 = y2
        · subst hy; exact add_spec_double hp
        · -- opposite points
          have hc1 := (onCurve_aff_iff x1 y1).mp hp.onCurve
          have hc2 := (onCurve_aff_iff x1 y2).mp hq.onCurve
          have hne : toP y1 ≠ toP y2 := fun h => hy ((toP_inj_of_lt hp.2.1 hq.2.1).mp h)
          have hneg : toP y1 = W.toAffine.negY (toP x1) (toP y2) := by
            simp only [Affine.negY, toAffine, W_a₁, W_a₃]
            -- on-curve points with the same `x` have equal or opposite `y`
            rcases mul_self_eq_mul_self_iff.mp (hc1.trans hc2.symm) with h | h
            · exact absurd h hne
            · rw [h]; ring
          rw [add_aff_eq, if_pos rfl, if_neg (fun h => hy h.1), pt_aff hp.onCurve, pt_aff hq.onCurve,
            Affine.Point.add_of_Y_eq rfl hneg]
          exact ⟨trivial, rfl⟩
      · exact add_spec_chord hp hq hx

theorem add_valid {p q : G1} (hp : p.Valid) (hq : q.Valid) : (p.add q).Valid := (add_spec hp hq).1
theorem pt_add {p q : G1} (hp : p.Valid) (hq : q.Valid) : pt (p.add q) = pt p + pt q :=
  (add_spec hp hq).2
theorem neg_valid {p : G1} (hp : p.Valid) : p.neg.Valid := (neg_spec hp).1
theorem pt_neg {p : G1} (hp : p.Valid) : pt p.neg = - pt p := (neg_spec hp).2

end G1

end Plonk
