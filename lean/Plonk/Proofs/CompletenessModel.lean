/-
  C01 (completeness), algebraic core, on the model's data — the SAME objects as the soundness
  composition (`SoundnessModel`): a compiled layout `lay` (gate rows `lay.gateAt`, public inputs
  `lay.piAt`, permutation `sigmaFn lay`), the row check `Plonk.rowHolds`, prover polynomials
  `P : ProverPolys F` with `KeyInterp ω n lay P`, the per-row quantities `gateAtRow`, `permAtRow`,
  `l1AtRow` and the numerator polynomial `NumP`.

  A row that passes `rowHolds` makes the gate expression vanish for ALL separation challenges (no
  `SelReduced` hypothesis: this direction does not need canonical selectors).  With wire values
  constant on the wiring classes, `γ ∉ denBadM β` (at most `4n` values) and an accumulator
  interpolating the running product (`AccInterp`), both permutation identities vanish on every row
  of the domain.  Hence `Num` vanishes on the domain for every `α` and every separation challenge,
  i.e. `Num = T·(Xⁿ − 1)`.
-/
import Plonk.Proofs.CompletenessCore
import Plonk.Proofs.SoundnessModel

namespace Plonk.Complete
open Polynomial Plonk Plonk.Quot Plonk.Perm Plonk.Sound

/-- row form of `C01Complete.gate_identity_vanishes`: the row check of the soundness composition
    (`rowOKP`, values read off the wire polynomials, next row cyclic) makes the gate expression of
    that row vanish for ALL separation challenges -/
theorem gate_row_vanishes (ω : F) (n : Nat) (lay : Composer) (P : ProverPolys F) (i : Nat)
    (h : rowOKP ω n lay P i) (s : Seps F) : gateAtRow ω n lay P i s = 0 := by
  unfold gateAtRow
  rw [wiresAt_eq_wiresF]
  exact gate_sum_zero_of_rowHolds _ _ _ _ _ _ _ _ _ h s

/-- the numerator of row `i`: `∏_col (w + β·K_col·ω^i + γ)` -/
noncomputable def numRow (ω : F) (P : ProverPolys F) (β γ : F) (i : Nat) : F :=
  permNumR β γ (wireVal ω P (0, i)) (wireVal ω P (1, i)) (wireVal ω P (2, i)) (wireVal ω P (3, i))
    (ω ^ i)

/-- the denominator of row `i`: `∏_col (w + β·id(σ(col,i)) + γ)` -/
noncomputable def denRow (ω : F) (lay : Composer) (P : ProverPolys F) (β γ : F) (i : Nat) : F :=
  permDenR β γ (wireVal ω P (0, i)) (wireVal ω P (1, i)) (wireVal ω P (2, i)) (wireVal ω P (3, i))
    (idLabel ω (sigmaFn lay (0, i))) (idLabel ω (sigmaFn lay (1, i)))
    (idLabel ω (sigmaFn lay (2, i))) (idLabel ω (sigmaFn lay (3, i)))

theorem permAtRow_eq (ω : F) (n : Nat) (lay : Composer) (P : ProverPolys F) (β γ : F) (i : Nat) :
    permAtRow ω n lay P β γ i =
      numRow ω P β γ i * P.z.eval (ω ^ i) - denRow ω lay P β γ i * P.z.eval (ω ^ ((i + 1) % n)) :=
  rfl

/-- bad `γ` of the honest prover for a given `β`: at most `4n` values, fixed by the wire values -/
noncomputable def denBadM (ω : F) (n : Nat) (lay : Composer) (P : ProverPolys F) (β : F) : Finset F :=
  denBad (posSet n) (wireVal ω P) (idLabel ω) (sigmaFn lay) β

theorem denBadM_card_le (ω : F) (n : Nat) (lay : Composer) (P : ProverPolys F) (β : F) :
    (denBadM ω n lay P β).card ≤ 4 * n := by
  have := denBad_card_le (posSet n) (wireVal ω P) (idLabel ω) (sigmaFn lay) β
  rwa [posSet_card] at this

/-- a `γ` outside the soundness bad set is outside the completeness bad set -/
theorem notMem_denBadM_of_notMem_gammaBadM (ω : F) (n : Nat) (lay : Composer) (P : ProverPolys F)
    (β γ : F) (h : γ ∉ gammaBadM ω n lay P β) : γ ∉ denBadM ω n lay P β :=
  fun hm => h (denBad_subset_gammaBad _ _ _ _ _ hm)

/-- `γ` is good for the honest prover iff no row denominator vanishes -/
theorem notMem_denBadM_iff (ω : F) (n : Nat) (lay : Composer) (P : ProverPolys F) (β γ : F) :
    γ ∉ denBadM ω n lay P β ↔ ∀ i < n, denRow ω lay P β γ i ≠ 0 := by
  unfold denBadM denRow
  rw [notMem_denBad_iff]
  constructor
  · intro h i hi
    have m (c : Nat) (hc : c < 4) := h (c, i) ((mem_posSet _ _).mpr ⟨hc, hi⟩)
    exact (permDenR_ne_zero_iff ..).mpr ⟨m 0 (by decide), m 1 (by decide), m 2 (by decide), m 3 (by decide)⟩
  · rintro h ⟨c, i⟩ hp
    obtain ⟨hc, hi⟩ := (mem_posSet _ _).mp hp
    obtain ⟨h0, h1, h2, h3⟩ := (permDenR_ne_zero_iff ..).mp (h i hi)
    have hc : c < 4 := hc
    interval_cases c
    exacts [h0, h1, h2, h3]

/-- **the two grand products agree** for wire values that respect `σ` (all `β`, `γ`) -/
theorem prod_rows_eq (ω : F) (n : Nat) (lay : Composer) (hn : lay.gates.size ≤ n)
    (P : ProverPolys F) (hres : ∀ p, wireVal ω P (sigmaFn lay p) = wireVal ω P p) (β γ : F) :
    ∏ i ∈ Finset.range n, numRow ω P β γ i = ∏ i ∈ Finset.range n, denRow ω lay P β γ i := by
  have h := perm_product_complete_model lay n hn (idLabel ω) (wireVal ω P) hres β γ
  rw [prod_posSet_rows, prod_posSet_rows] at h
  simp only [numRow, permNum_eq_factors, denRow, permDenR]
  exact h

/-- the value of the honest accumulator at row `i`: the running product -/
noncomputable def accVal (ω : F) (lay : Composer) (P : ProverPolys F) (β γ : F) (i : Nat) : F :=
  accSeq (numRow ω P β γ) (denRow ω lay P β γ) i

/-- the accumulator polynomial `P.z` interpolates the running product on the domain (true of the
    interpolant of the model's `permVec`, whatever the blinders) -/
def AccInterp (ω : F) (n : Nat) (lay : Composer) (P : ProverPolys F) (β γ : F) : Prop :=
  ∀ i < n, P.z.eval (ω ^ i) = accVal ω lay P β γ i

/-- both permutation identities vanish on every row.  Wire values that respect
    `σ`, `γ ∉ denBadM β`, accumulator interpolating the running product. -/
theorem perm_rows_vanish (ω : F) (n : Nat) (hn0 : 0 < n) (lay : Composer) (hn : lay.gates.size ≤ n)
    (P : ProverPolys F) (hres : ∀ p, wireVal ω P (sigmaFn lay p) = wireVal ω P p) (β γ : F)
    (hγ : γ ∉ denBadM ω n lay P β) (hz : AccInterp ω n lay P β γ) :
    (∀ i < n, permAtRow ω n lay P β γ i = 0) ∧ (∀ i < n, l1AtRow ω P i = 0) := by
  obtain ⟨h0, hs⟩ := (cyclic_steps_iff hn0 (numRow ω P β γ) (denRow ω lay P β γ)
    (fun i => P.z.eval (ω ^ i)) ((notMem_denBadM_iff ω n lay P β γ).mp hγ)).mpr
    ⟨hz, prod_rows_eq ω n lay hn P hres β γ⟩
  refine ⟨hs, fun i _ => ?_⟩
  unfold l1AtRow
  split
  · next hi0 => rw [hi0, show P.z.eval (ω ^ 0) = 1 from h0, sub_self, mul_zero]
  · exact zero_mul _

/-- `∏_col (W_col + β·K_col·X + γ)` -/
noncomputable def permNumP (P : ProverPolys F) (β γ : F) : F[X] :=
  permNumR (C β) (C γ) P.a P.b P.c P.d X

/-- `∏_col (W_col + β·S_σ,col + γ)` -/
noncomputable def permDenP (P : ProverPolys F) (β γ : F) : F[X] :=
  permDenR (C β) (C γ) P.a P.b P.c P.d P.s1 P.s2 P.s3 P.s4

theorem eval_permNumP (ω : F) (P : ProverPolys F) (β γ : F) (i : Nat) :
    (permNumP P β γ).eval (ω ^ i) = numRow ω P β γ i := by
  simp [permNumP, numRow, permNumR, wireVal, wireP]

theorem eval_permDenP {ω : F} {n : Nat} {lay : Composer} {P : ProverPolys F}
    (I : KeyInterp ω n lay P) (β γ : F) {i : Nat} (hi : i < n) :
    (permDenP P β γ).eval (ω ^ i) = denRow ω lay P β γ i := by
  simp only [permDenP, denRow, permDenR, wireVal, wireP, eval_mul, eval_add, eval_C]
  rw [I.s1 i hi, I.s2 i hi, I.s3 i hi, I.s4 i hi]

theorem omega_mul_pow {ω : F} {n : Nat} (hω : ω ^ n = 1) (i : Nat) :
    ω * ω ^ i = ω ^ ((i + 1) % n) := by
  rw [← pow_succ', FftMath.pow_mod_of_pow_eq_one hω]

/-- **the numerator vanishes on the domain**, for EVERY `α` and EVERY separation challenge -/
theorem numerator_vanishes {ω : F} {n : Nat} (hn0 : 0 < n) (hω : IsPrimitiveRoot ω n)
    (lay : Composer) (hn : lay.gates.size ≤ n) (P : ProverPolys F) (I : KeyInterp ω n lay P)
    (hrows : ∀ i < n, rowOKP ω n lay P i)
    (hres : ∀ p, wireVal ω P (sigmaFn lay p) = wireVal ω P p) (β γ : F)
    (hγ : γ ∉ denBadM ω n lay P β) (hz : AccInterp ω n lay P β γ) (α : F) (s : Seps F) :
    ∀ i < n, (NumP ω n P ⟨β, γ, α⟩ s).eval (ω ^ i) = 0 := by
  obtain ⟨h1, h2⟩ := perm_rows_vanish ω n hn0 lay hn P hres β γ hγ hz
  intro i hi
  rw [NumP_eval_domain hn0 hω I β γ α s hi, gate_row_vanishes ω n lay P i (hrows i hi) s, h1 i hi,
    h2 i hi]
  ring

/-- the same polynomials with another accumulator -/
def withZ (P : ProverPolys F) (Z : F[X]) : ProverPolys F := { P with z := Z }

@[simp] theorem withZ_z (P : ProverPolys F) (Z : F[X]) : (withZ P Z).z = Z := rfl

theorem wireP_withZ (P : ProverPolys F) (Z : F[X]) (col : Nat) : wireP (withZ P Z) col = wireP P col := by
  unfold wireP
  split <;> rfl

@[simp] theorem wireVal_withZ (ω : F) (P : ProverPolys F) (Z : F[X]) (p : Pos) :
    wireVal ω (withZ P Z) p = wireVal ω P p := by
  unfold wireVal; rw [wireP_withZ]

@[simp] theorem wireNat_withZ (ω : F) (P : ProverPolys F) (Z : F[X]) (col i : Nat) :
    wireNat ω (withZ P Z) col i = wireNat ω P col i := by
  unfold wireNat; rw [wireVal_withZ]

theorem rowOKP_withZ (ω : F) (n : Nat) (lay : Composer) (P : ProverPolys F) (Z : F[X]) (i : Nat) :
    rowOKP ω n lay (withZ P Z) i ↔ rowOKP ω n lay P i := by
  unfold rowOKP; simp only [wireNat_withZ]

@[simp] theorem numRow_withZ (ω : F) (P : ProverPolys F) (Z : F[X]) (β γ : F) (i : Nat) :
    numRow ω (withZ P Z) β γ i = numRow ω P β γ i := by
  unfold numRow; simp only [wireVal_withZ]

@[simp] theorem denRow_withZ (ω : F) (lay : Composer) (P : ProverPolys F) (Z : F[X]) (β γ : F)
    (i : Nat) : denRow ω lay (withZ P Z) β γ i = denRow ω lay P β γ i := by
  unfold denRow; simp only [wireVal_withZ]

@[simp] theorem accVal_withZ (ω : F) (lay : Composer) (P : ProverPolys F) (Z : F[X]) (β γ : F)
    (i : Nat) : accVal ω lay (withZ P Z) β γ i = accVal ω lay P β γ i := by
  unfold accVal accSeq; simp only [numRow_withZ, denRow_withZ]

@[simp] theorem denBadM_withZ (ω : F) (n : Nat) (lay : Composer) (P : ProverPolys F) (Z : F[X])
    (β : F) : denBadM ω n lay (withZ P Z) β = denBadM ω n lay P β := by
  unfold denBadM denBad; simp only [wireVal_withZ]

theorem keyInterp_withZ {ω : F} {n : Nat} {lay : Composer} {P : ProverPolys F}
    (I : KeyInterp ω n lay P) (Z : F[X]) : KeyInterp ω n lay (withZ P Z) :=
  ⟨I.sel, I.pi, I.s1, I.s2, I.s3, I.s4⟩

/-- an accumulator polynomial of degree `< n` interpolating the running
    product exists, and every blinding `Z + B·(Xⁿ − 1)` of it still does -/
theorem accumulator_exists_core {ω : F} {n : Nat} (hω : IsPrimitiveRoot ω n) (lay : Composer)
    (P : ProverPolys F) (β γ : F) :
    ∃ Z : F[X], Z.degree < n ∧
      ∀ B : F[X], AccInterp ω n lay (withZ P (Z + B * (X ^ n - 1))) β γ := by
  obtain ⟨Z, hd, hZ⟩ := exists_interpolant hω (accVal ω lay P β γ)
  refine ⟨Z, hd, fun B i hi => ?_⟩
  rw [withZ_z, accVal_withZ, eval_add_mul_vanishing hω.pow_eq_one, hZ i hi]

end Plonk.Complete
