/-
  C03 — algebra of the verifier: the regrouped multi-scalar multiplication that `Proof::verify`
  builds (`verifyTerms`) is the textbook verification equation (`verifyRefTerms`), for every
  additive commutative group `G` with an `F`-module structure and every interpretation
  `ι : G1 → G` of the model's points (the group law of the executable `G1` model is not used).

  Technical note (kernel safety).  `verifyTerms` and `verifyRefTerms` start with a `match` on
  `d.lagrangeAndPi roots pis ch.z`.  Both Lean's elaborator and its kernel diverge when they try to
  put that discriminant into weak head normal form for symbolic arguments (it adds the literal
  `R − 1` to a variable and then peels successors).  Therefore these functions are never unfolded
  against their `match`; instead the command `abstract_lagrange f as g` builds `g` from the
  *stored body of the model function `f`* by replacing the call `d.lagrangeAndPi roots pis ch.z`
  with a new parameter `o`, and `f … = g … (d.lagrangeAndPi roots pis ch.z)` holds by `rfl`
  (`verifyTerms_eq_core`, `verifyRefTerms_eq_core`: both sides unfold to the same term).  All
  reasoning is then done for an arbitrary `o`.
-/
import Lean
import Mathlib.Tactic.Module
import Mathlib.Tactic.Ring
import Mathlib.Tactic.LinearCombination
import Plonk.Proofs.FieldBridge
import Plonk.Proofs.RowBridge
import Plonk.Proofs.LogicRows
import Plonk.Proofs.EdwardsRows
import Plonk.Proofs.FixedBaseRows
import Plonk.Proofs.FftDomain
import Plonk.Model.Verifier
import Plonk.Proofs.AggL

namespace Plonk
open Plonk

attribute [local irreducible] Domain.lagrangeAndPi

open Lean Meta Elab Command in

/-- `abstract_lagrange f as g`: defines `g := fun args o => (body of f)[d.lagrangeAndPi … := o]`,
    i.e. the model function `f` with the result of `Domain.lagrangeAndPi` turned into a parameter. -/
elab "abstract_lagrange " src:ident " as " tgt:ident : command => liftTermElabM do
  let srcName ← realizeGlobalConstNoOverloadWithInfo src
  let ci ← getConstInfo srcName
  let v := ci.value!
  lambdaTelescope v fun xs body => do
    let some lap := body.find? (fun e => e.isAppOfArity ``Plonk.Domain.lagrangeAndPi 4)
      | throwError "no call of lagrangeAndPi"
    if lap.hasLooseBVars then throwError "call under a binder"
    let oTy := mkApp (mkConst ``Option [Level.zero])
      (mkApp2 (mkConst ``Prod [Level.zero, Level.zero]) (mkConst ``Nat) (mkConst ``Nat))
    withLocalDeclD `o oTy fun o => do
      let body' := body.replace (fun e => if e == lap then some o else none)
      let val ← instantiateMVars (← mkLambdaFVars (xs.push o) body')
      let resTy ← inferType (mkAppN (mkConst srcName) xs)
      let type ← mkForallFVars (xs.push o) resTy
      let name := (← getCurrNamespace) ++ tgt.getId
      addDecl <| Declaration.defnDecl {
        name := name, levelParams := [], type := type, value := val,
        hints := .regular (getMaxHeight (← getEnv) val + 1), safety := .safe }

abstract_lagrange verifyTerms as verifyTermsCore
abstract_lagrange verifyRefTerms as verifyRefTermsCore

theorem verifyTerms_eq_core (vkey : VKey) (g : G1) (d : Domain) (roots pis : List Nat) (p : ProofM)
    (ch : Challenges) (legacy : Bool) :
    verifyTerms vkey g d roots pis p ch legacy =
      verifyTermsCore vkey g d roots pis p ch legacy (d.lagrangeAndPi roots pis ch.z) := rfl

theorem verifyRefTerms_eq_core (vkey : VKey) (g : G1) (d : Domain) (roots pis : List Nat) (p : ProofM)
    (ch : Challenges) (legacy : Bool) :
    verifyRefTerms vkey g d roots pis p ch legacy =
      verifyRefTermsCore vkey g d roots pis p ch legacy (d.lagrangeAndPi roots pis ch.z) := rfl

/-! ### symbolic evaluation of term lists -/

section
variable {G : Type*} [AddCommGroup G] [Module F G]

/-- `Σ toF(sᵢ) • ι(Pᵢ)` -/
def evalTerms (ι : G1 → G) (ts : List (Nat × G1)) : G := (ts.map fun t => toF t.1 • ι t.2).sum

@[simp] theorem evalTerms_nil (ι : G1 → G) : evalTerms ι [] = 0 := rfl
@[simp] theorem evalTerms_cons (ι : G1 → G) (s : Nat) (p : G1) (ts : List (Nat × G1)) :
    evalTerms ι ((s, p) :: ts) = toF s • ι p + evalTerms ι ts := by simp [evalTerms]
@[simp] theorem evalTerms_append (ι : G1 → G) (a b : List (Nat × G1)) :
    evalTerms ι (a ++ b) = evalTerms ι a + evalTerms ι b := by simp [evalTerms]

theorem vPowers_11 (v : Nat) : vPowers v 11 =
    [v % R, fmul (v % R) v, fmul (fmul (v % R) v) v, fmul (fmul (fmul (v % R) v) v) v,
     fmul (fmul (fmul (fmul (v % R) v) v) v) v, fmul (fmul (fmul (fmul (fmul (v % R) v) v) v) v) v,
     fmul (fmul (fmul (fmul (fmul (fmul (v % R) v) v) v) v) v) v,
     fmul (fmul (fmul (fmul (fmul (fmul (fmul (v % R) v) v) v) v) v) v) v,
     fmul (fmul (fmul (fmul (fmul (fmul (fmul (fmul (v % R) v) v) v) v) v) v) v) v,
     fmul (fmul (fmul (fmul (fmul (fmul (fmul (fmul (fmul (v % R) v) v) v) v) v) v) v) v) v,
     fmul (fmul (fmul (fmul (fmul (fmul (fmul (fmul (fmul (fmul (v % R) v) v) v) v) v) v) v) v) v) v] := rfl

theorem vPowers_7 (v : Nat) : vPowers v 7 =
    [v % R, fmul (v % R) v, fmul (fmul (v % R) v) v, fmul (fmul (fmul (v % R) v) v) v,
     fmul (fmul (fmul (fmul (v % R) v) v) v) v, fmul (fmul (fmul (fmul (fmul (v % R) v) v) v) v) v,
     fmul (fmul (fmul (fmul (fmul (fmul (v % R) v) v) v) v) v) v] := rfl

/-- code form = textbook form, for the current equation (`Proof::verify`, `V_MAX_DEGREE = 11`) and the legacy one
    (`verify_legacy`, `V_MAX_DEGREE_LEGACY = 7`) -/
theorem core_eq (ι : G1 → G) (vkey : VKey) (g : G1) (d : Domain) (roots pis : List Nat)
    (p : ProofM) (ch : Challenges) (legacy : Bool) (l1 piEval : Nat) (right left ref : List (Nat × G1))
    (hc : verifyTermsCore vkey g d roots pis p ch legacy (some (l1, piEval)) = some (right, left))
    (hr : verifyRefTermsCore vkey g d roots pis p ch legacy (some (l1, piEval)) = some ref) :
    evalTerms ι right = evalTerms ι ref ∧ evalTerms ι left = -(ι p.wz + toF ch.u • ι p.wzw) := by
  unfold verifyTermsCore at hc
  unfold verifyRefTermsCore at hr
  simp only [Option.some.injEq, Prod.mk.injEq] at hc hr
  obtain ⟨rfl, rfl⟩ := hc
  subst hr
  constructor
  · cases legacy
    all_goals
      simp only [Bool.false_eq_true, if_false, if_true, show Generated.V_MAX_DEGREE = 11 from rfl,
        show Generated.V_MAX_DEGREE_LEGACY = 7 from rfl, vPowers_11, vPowers_7]
      simp only [List.append_nil, List.cons_append, List.nil_append, List.foldl_cons, List.foldl_nil,
        List.zip_cons_cons, List.zip_nil_right, List.zipIdx_cons, List.zipIdx_nil,
        List.map_cons, List.map_nil, Nat.reduceAdd, Nat.reduceBEq, Bool.false_eq_true, if_false, if_true,
        evalTerms_append, evalTerms_cons, evalTerms_nil, zero_add]
      generalize evalTerms ι (linearizationTerms vkey p ch (d.evaluateVanishing ch.z) l1) = D
      generalize r0Eval p.ev ch l1 piEval = r0
      simp only [toF_fadd, toF_fmul, toF_fneg, toF_mod, toF_zero, toF_one]
      -- both sides are linear combinations of the same points; the coefficients agree as polynomials in `toF ch.v`,
      -- `toF ch.vw`, `toF ch.u` (the `vPowers` fold gives `v^k` as nested products)
      module
  · simp only [evalTerms_cons, evalTerms_nil, toF_R_sub_one, toF_fneg]
    module

theorem core_none_iff (vkey : VKey) (g : G1) (d : Domain) (roots pis : List Nat) (p : ProofM)
    (ch : Challenges) (legacy : Bool) (o : Option (Nat × Nat)) :
    (verifyTermsCore vkey g d roots pis p ch legacy o = none ↔ o = none) ∧
    (verifyRefTermsCore vkey g d roots pis p ch legacy o = none ↔ o = none) := by
  cases o with
  | none => exact ⟨⟨fun _ => rfl, fun _ => rfl⟩, ⟨fun _ => rfl, fun _ => rfl⟩⟩
  | some lp =>
    obtain ⟨l1, piEval⟩ := lp
    refine ⟨⟨fun h => ?_, fun h => by cases h⟩, ⟨fun h => ?_, fun h => by cases h⟩⟩
    · unfold verifyTermsCore at h; simp only [reduceCtorEq] at h
    · unfold verifyRefTermsCore at h; simp only [reduceCtorEq] at h

/-- Whenever the code-shaped MSM and the textbook term list are
    both defined (i.e. `z` is outside the domain and off the public-input roots), they evaluate to
    the same group element under every interpretation of the points in every `F`-module; and the
    left pairing input is `−(W_z + u·W_zω)`. Both protocol equations (`legacy = true`: V1,
    `legacy = false`: V2/V3). -/
theorem verifyCode_eq_verifyRef (ι : G1 → G) (vkey : VKey) (g : G1) (d : Domain) (roots pis : List Nat)
    (p : ProofM) (ch : Challenges) (legacy : Bool) (right left ref : List (Nat × G1))
    (hc : verifyTerms vkey g d roots pis p ch legacy = some (right, left))
    (hr : verifyRefTerms vkey g d roots pis p ch legacy = some ref) :
    evalTerms ι right = evalTerms ι ref ∧ evalTerms ι left = -(ι p.wz + toF ch.u • ι p.wzw) := by
  rw [verifyTerms_eq_core] at hc
  rw [verifyRefTerms_eq_core] at hr
  generalize d.lagrangeAndPi roots pis ch.z = o at hc hr
  cases o with
  | none => exact absurd ((core_none_iff vkey g d roots pis p ch legacy none).1.mpr rfl) (by rw [hc]; simp)
  | some lp =>
    exact core_eq ι vkey g d roots pis p ch legacy lp.1 lp.2 right left ref hc hr

theorem verifyTerms_none_iff (vkey : VKey) (g : G1) (d : Domain) (roots pis : List Nat) (p : ProofM)
    (ch : Challenges) (legacy : Bool) :
    (verifyTerms vkey g d roots pis p ch legacy = none ↔ d.lagrangeAndPi roots pis ch.z = none) ∧
    (verifyRefTerms vkey g d roots pis p ch legacy = none ↔ d.lagrangeAndPi roots pis ch.z = none) := by
  rw [verifyTerms_eq_core, verifyRefTerms_eq_core]
  exact core_none_iff vkey g d roots pis p ch legacy _

/-! ### the textbook equation as two batched openings

  The two accumulating folds of `verifyRefTerms` compute the Horner combination `aggL` of the opened commitments and of the
  claimed values; `verifyRef_batched` is the textbook equation in that form, for both protocol versions. -/

open Plonk.KzgMath (aggL)

/-- what one step of the two accumulating folds of `verifyRefTerms` does, read in the field:
    a term `m·pw • C` is added, the claimed value grows by `m·pw·e`, the power is multiplied by `w` -/
structure OpenStep (ι : G1 → G) (m w : F)
    (f : List (Nat × G1) × Nat × Nat → Nat × G1 → List (Nat × G1) × Nat × Nat) : Prop where
  terms : ∀ acc x, evalTerms ι (f acc x).1 = evalTerms ι acc.1 + (m * toF acc.2.2) • ι x.2
  value : ∀ acc x, toF (f acc x).2.1 = toF acc.2.1 + m * toF acc.2.2 * toF x.1
  power : ∀ acc x, toF (f acc x).2.2 = toF acc.2.2 * w

theorem OpenStep.foldl {ι : G1 → G} {m w : F} {f} (h : OpenStep ι m w f) (l : List (Nat × G1)) :
    ∀ acc, evalTerms ι (l.foldl f acc).1 =
        evalTerms ι acc.1 + (m * toF acc.2.2) • aggL w (l.map fun x => ι x.2) ∧
      toF (l.foldl f acc).2.1 = toF acc.2.1 + m * toF acc.2.2 * aggL w (l.map fun x => toF x.1) := by
  induction l with
  | nil => intro acc; simp [aggL]
  | cons x l ih =>
    intro acc
    obtain ⟨e1, e2⟩ := ih (f acc x)
    rw [List.foldl_cons, e1, e2, h.terms, h.value, h.power]
    simp only [List.map_cons, aggL, smul_add, smul_smul, smul_eq_mul]
    constructor
    · module
    · ring


/-- the (evaluation, commitment) pairs opened at `z` besides the linearisation polynomial -/
def openedZ (vkey : VKey) (p : ProofM) (legacy : Bool) : List (Nat × G1) :=
  [(p.ev.a, p.aC), (p.ev.b, p.bC), (p.ev.c, p.cC), (p.ev.d, p.dC), (p.ev.s1, vkey.s1),
   (p.ev.s2, vkey.s2), (p.ev.s3, vkey.s3)] ++
  (if legacy then [] else [(p.ev.qarith, vkey.qarith), (p.ev.qc, vkey.qc), (p.ev.ql, vkey.ql),
    (p.ev.qr, vkey.qr)])

/-- the pairs opened at `ω·z` -/
def openedZw (p : ProofM) : List (Nat × G1) :=
  [(p.ev.z, p.zC), (p.ev.aw, p.aC), (p.ev.bw, p.bC), (p.ev.dw, p.dC)]

theorem verifyRef_batched (ι : G1 → G) (vkey : VKey) (g : G1) (d : Domain) (roots pis : List Nat)
    (p : ProofM) (ch : Challenges) (legacy : Bool) (l1 piEval : Nat) (ref : List (Nat × G1))
    (hlp : d.lagrangeAndPi roots pis ch.z = some (l1, piEval))
    (hr : verifyRefTerms vkey g d roots pis p ch legacy = some ref) :
    evalTerms ι ref =
      aggL (toF ch.v) ((evalTerms ι (linearizationTerms vkey p ch (d.evaluateVanishing ch.z) l1)
          - toF ch.u • ι p.zC) :: (openedZ vkey p legacy).map fun x => ι x.2)
      + toF ch.u • aggL (toF ch.vw) ((openedZw p).map fun x => ι x.2)
      - (aggL (toF ch.v) (-toF (r0Eval p.ev ch l1 piEval) :: (openedZ vkey p legacy).map fun x => toF x.1)
          + toF ch.u * aggL (toF ch.vw) ((openedZw p).map fun x => toF x.1)) • ι g
      + toF ch.z • ι p.wz + (toF ch.u * toF ch.z * toF d.groupGen) • ι p.wzw := by
  rw [verifyRefTerms_eq_core, hlp] at hr
  unfold verifyRefTermsCore at hr
  simp only [Option.some.injEq] at hr
  subst hr
  have hz : OpenStep ι 1 (toF ch.v) fun acc x =>
      ((acc.2.2, x.2) :: acc.1, fadd acc.2.1 (fmul acc.2.2 x.1), fmul acc.2.2 ch.v) :=
    ⟨fun _ _ => by rw [evalTerms_cons, one_mul, add_comm], fun _ _ => by rw [toF_fadd, toF_fmul, one_mul],
      fun _ _ => toF_fmul _ _⟩
  have hw : OpenStep ι (toF ch.u) (toF ch.vw) fun acc x =>
      ((fmul ch.u acc.2.2, x.2) :: acc.1, fadd acc.2.1 (fmul (fmul ch.u acc.2.2) x.1), fmul acc.2.2 ch.vw) :=
    ⟨fun _ _ => by rw [evalTerms_cons, toF_fmul, add_comm],
      fun _ _ => by rw [toF_fadd, toF_fmul, toF_fmul], fun _ _ => toF_fmul _ _⟩
  obtain ⟨z1, z2⟩ := hz.foldl (openedZ vkey p legacy) ([], 0, ch.v % R)
  obtain ⟨w1, w2⟩ := hw.foldl (openedZw p) ([], 0, 1 % R)
  simp only [openedZ, openedZw] at z1 z2 w1 w2
  simp only [evalTerms_append, evalTerms_cons, evalTerms_nil, z1, z2, w1, w2, toF_fadd, toF_fneg, toF_fmul,
    toF_mod, toF_zero, toF_one, aggL, smul_eq_mul, openedZ, openedZw]
  module
end

theorem verifyTerms_some_of_lagrange (vkey : VKey) (g : G1) (d : Domain) (roots pis : List Nat) (p : ProofM)
    (ch : Challenges) (legacy : Bool) (h : d.lagrangeAndPi roots pis ch.z ≠ none) :
    ∃ right left ref, verifyTerms vkey g d roots pis p ch legacy = some (right, left) ∧
      verifyRefTerms vkey g d roots pis p ch legacy = some ref := by
  obtain ⟨h1, h2⟩ := verifyTerms_none_iff vkey g d roots pis p ch legacy
  obtain ⟨rl, hrl⟩ := Option.ne_none_iff_exists'.mp (fun e => h (h1.mp e))
  obtain ⟨ref, href⟩ := Option.ne_none_iff_exists'.mp (fun e => h (h2.mp e))
  exact ⟨rl.1, rl.2, ref, hrl, href⟩

/-! ### the linearisation scalars are the widgets' row identities -/

/-- The component lists used by the verifier's scalars are *literally* the row-semantics functions
    `rangeComps / logicComps / fixedComps / varComps` of `Plonk/Model/Gate.lean` (the ones
    `rowHolds` checks), applied to the evaluations at `z` (current row) and `zω` (next row). -/
theorem widget_scalars_use_row_comps (sep : Nat) (e : Evals) :
    rangeScalar sep e =
      (let cs := rangeComps e.a e.b e.c e.d e.dw
       fmul (fadd (fadd (fadd (cs.getD 0 0) (fmul (cs.getD 1 0) (fsq sep))) (fmul (cs.getD 2 0) (fsq (fsq sep))))
         (fmul (cs.getD 3 0) (fmul (fsq (fsq sep)) (fsq sep)))) sep) ∧
    logicScalar sep e =
      (let cs := logicComps e.qc e.a e.aw e.b e.bw e.c e.d e.dw
       fmul (fadd (fadd (fadd (fadd (cs.getD 0 0) (fmul (cs.getD 1 0) (fsq sep))) (fmul (cs.getD 2 0) (fsq (fsq sep))))
         (fmul (cs.getD 3 0) (fmul (fsq (fsq sep)) (fsq sep))))
         (fmul (cs.getD 4 0) (fmul (fmul (fsq (fsq sep)) (fsq sep)) (fsq sep)))) sep) ∧
    fixedScalar sep e =
      (let cs := fixedComps e.ql e.qr e.qc e.a e.aw e.b e.bw e.c e.d e.dw
       fmul (fadd (fadd (fadd (cs.getD 0 0) (fmul (cs.getD 2 0) (fsq (fsq sep))))
         (fmul (cs.getD 3 0) (fmul (fsq (fsq sep)) (fsq sep)))) (fmul (cs.getD 1 0) (fsq sep))) sep) ∧
    varScalar sep e =
      (let cs := varComps e.a e.aw e.b e.bw e.c e.d e.dw
       fmul (fadd (fadd (cs.getD 0 0) (fmul (cs.getD 1 0) (fsq sep))) (fmul (cs.getD 2 0) (fsq (fsq sep)))) sep) :=
  ⟨rfl, rfl, rfl, rfl⟩

/-- range widget: `sep·(δ(c−4d) + sep²·δ(b−4c) + sep⁴·δ(a−4b) + sep⁶·δ(d_ω−4a))` -/
theorem toF_rangeScalar_expanded (sep : Nat) (e : Evals) :
    toF (rangeScalar sep e) = toF sep *
      (deltaF (toF e.c - 4 * toF e.d) + toF sep ^ 2 * deltaF (toF e.b - 4 * toF e.c) +
       toF sep ^ 4 * deltaF (toF e.a - 4 * toF e.b) + toF sep ^ 6 * deltaF (toF e.dw - 4 * toF e.a)) := by
  unfold rangeScalar rangeComps
  simp only [List.getD_cons_zero, List.getD_cons_succ, toF_fmul, toF_fadd, toF_fsq, toF_delta, toF_fsub, toF_four]
  ring

/-- logic widget: five components weighted `1, sep², sep⁴, sep⁶, sep⁸`, all times `sep` -/
theorem toF_logicScalar_expanded (sep : Nat) (e : Evals) :
    toF (logicScalar sep e) = toF sep *
      (deltaF (toF e.aw - 4 * toF e.a) + toF sep ^ 2 * deltaF (toF e.bw - 4 * toF e.b) +
       toF sep ^ 4 * deltaF (toF e.dw - 4 * toF e.d) +
       toF sep ^ 6 * (toF e.c - (toF e.aw - 4 * toF e.a) * (toF e.bw - 4 * toF e.b)) +
       toF sep ^ 8 * deltaXorAndF (toF e.aw - 4 * toF e.a) (toF e.bw - 4 * toF e.b) (toF e.c)
         (toF e.dw - 4 * toF e.d) (toF e.qc)) := by
  unfold logicScalar logicComps
  simp only [List.getD_cons_zero, List.getD_cons_succ, toF_fmul, toF_fadd, toF_fsq, toF_delta, toF_fsub, toF_four,
    toF_deltaXorAnd]
  ring

/-- fixed-base widget: bit / xy / x / y consistency weighted `1, sep², sep⁴, sep⁶`, times `sep`
    (`bit = d_ω − 2d`, selectors `q_l = x_β`, `q_r = y_β`, `q_c = x_β·y_β` evaluated at `z`) -/
theorem toF_fixedScalar_expanded (sep : Nat) (e : Evals) :
    toF (fixedScalar sep e) =
      (let bit := toF e.dw - 2 * toF e.d
       let k := toF e.c * toF e.a * toF e.b * dF
       let yα := bit ^ 2 * (toF e.qr - 1) + 1
       let xα := bit * toF e.ql
       toF sep *
        (bit * (bit - 1) * (bit + 1) + toF sep ^ 2 * (bit * toF e.qc - toF e.c) +
         toF sep ^ 4 * (toF e.aw + toF e.aw * k - (toF e.a * yα + toF e.b * xα)) +
         toF sep ^ 6 * (toF e.bw - toF e.bw * k - (toF e.b * yα + toF e.a * xα)))) := by
  unfold fixedScalar fixedComps
  simp only [List.getD_cons_zero, List.getD_cons_succ, toF_fmul, toF_fadd, toF_fsq, toF_fsub, toF_one,
    toF_EDWARDS_D]
  ring

/-- curve-addition widget: three components weighted `1, sep², sep⁴`, times `sep` -/
theorem toF_varScalar_expanded (sep : Nat) (e : Evals) :
    toF (varScalar sep e) =
      (let k := dF * toF e.dw * (toF e.b * toF e.c)
       toF sep *
        (toF e.a * toF e.d - toF e.dw +
         toF sep ^ 2 * (toF e.dw + toF e.b * toF e.c - (toF e.aw + toF e.aw * k)) +
         toF sep ^ 4 * (toF e.b * toF e.d + toF e.a * toF e.c - (toF e.bw - toF e.bw * k)))) := by
  unfold varScalar varComps
  simp only [List.getD_cons_zero, List.getD_cons_succ, toF_fmul, toF_fadd, toF_fsq, toF_fsub, toF_EDWARDS_D]
  ring

theorem getD_eq_zero_of_allZero {l : List Nat} (h : allZero l = true) (i : Nat) : l.getD i 0 = 0 := by
  unfold allZero at h
  rw [List.all_eq_true] at h
  by_cases hi : i < l.length
  · rw [getD_eq_getElem' _ _ hi]
    have := h l[i] (List.getElem_mem hi)
    simpa using this
  · exact getD_of_le _ _ (by omega)

theorem fmul_zero_left (k : Nat) : fmul 0 k = 0 := by simp [fmul]
theorem fadd_zero_zero : fadd 0 0 = 0 := by simp [fadd]

/-- `r₀ = PI(z) − L₁(z)α² − α(a+βσ₁+γ)(b+βσ₂+γ)(c+βσ₃+γ)(d+γ)z_ω` -/
theorem toF_r0Eval (e : Evals) (ch : Challenges) (l1 pi : Nat) :
    toF (r0Eval e ch l1 pi) = toF pi - toF l1 * toF ch.alpha ^ 2 -
      toF ch.alpha * (toF e.a + toF ch.beta * toF e.s1 + toF ch.gamma) *
        (toF e.b + toF ch.beta * toF e.s2 + toF ch.gamma) *
        (toF e.c + toF ch.beta * toF e.s3 + toF ch.gamma) * (toF e.d + toF ch.gamma) * toF e.z := by
  unfold r0Eval
  simp only [toF_fsub, toF_fmul, toF_fadd, toF_fsq, pow_two]

section
variable {G : Type*} [AddCommGroup G] [Module F G]

/-- `[D]`, the linearisation commitment, term by term (with `zh = Z_H(z) = zⁿ − 1`):
    arithmetic `q_arith(z)·(ab[q_m] + a[q_l] + b[q_r] + c[q_o] + d[q_f] + [q_c])`, the four custom
    widgets with their scalars, the permutation argument
    `((a+βz+γ)(b+βk₁z+γ)(c+βk₂z+γ)(d+βk₃z+γ)α + L₁(z)α² + u)[z]
     − (a+βσ₁+γ)(b+βσ₂+γ)(c+βσ₃+γ)β z_ω α [s_σ4]`, and the quotient
    `−zh·([t_low] + zⁿ[t_mid] + z²ⁿ[t_high] + z³ⁿ[t_4])` (`zⁿ = zh + 1`). -/
theorem linearization_eval (ι : G1 → G) (k : VKey) (p : ProofM) (ch : Challenges) (zh l1 : Nat) :
    evalTerms ι (linearizationTerms k p ch zh l1) =
      toF p.ev.qarith • ((toF p.ev.a * toF p.ev.b) • ι k.qm + toF p.ev.a • ι k.ql + toF p.ev.b • ι k.qr +
        toF p.ev.c • ι k.qo + toF p.ev.d • ι k.qf + ι k.qc) +
      toF (rangeScalar ch.rangeSep p.ev) • ι k.qrange + toF (logicScalar ch.logicSep p.ev) • ι k.qlogic +
      toF (fixedScalar ch.fixedSep p.ev) • ι k.qfixed + toF (varScalar ch.varSep p.ev) • ι k.qvar +
      ((toF p.ev.a + toF ch.beta * toF ch.z + toF ch.gamma) *
        (toF p.ev.b + toF ch.beta * toF Generated.K1 * toF ch.z + toF ch.gamma) *
        (toF p.ev.c + toF ch.beta * toF Generated.K2 * toF ch.z + toF ch.gamma) *
        (toF p.ev.d + toF ch.beta * toF Generated.K3 * toF ch.z + toF ch.gamma) * toF ch.alpha +
        toF l1 * toF ch.alpha ^ 2 + toF ch.u) • ι p.zC -
      ((toF p.ev.a + toF ch.beta * toF p.ev.s1 + toF ch.gamma) *
        (toF p.ev.b + toF ch.beta * toF p.ev.s2 + toF ch.gamma) *
        (toF p.ev.c + toF ch.beta * toF p.ev.s3 + toF ch.gamma) * toF ch.beta * toF p.ev.z * toF ch.alpha) • ι k.s4 -
      toF zh • (ι p.tLow + (toF zh + 1) • ι p.tMid + (toF zh + 1) ^ 2 • ι p.tHigh +
        (toF zh + 1) ^ 3 • ι p.tFourth) := by
  unfold linearizationTerms
  simp only [List.cons_append, List.nil_append, evalTerms_cons, evalTerms_nil]
  generalize toF (rangeScalar ch.rangeSep p.ev) = s1
  generalize toF (logicScalar ch.logicSep p.ev) = s2
  generalize toF (fixedScalar ch.fixedSep p.ev) = s3
  generalize toF (varScalar ch.varSep p.ev) = s4
  simp only [toF_fadd, toF_fmul, toF_fneg, toF_fsq, toF_one]
  module

end

/-! ### `VerifierM.verify`: what acceptance depends on -/

open Lean Meta Elab Command in

/-- `abstract_version VerifierM.verify as g`: the body of `VerifierM.verify` with the two places
    where the protocol version enters turned into parameters: the challenge record
    (`verifierChallenges … (ver == .v3) …`) and the equation flag (`ver == .v1`). -/
elab "abstract_version " src:ident " as " tgt:ident : command => liftTermElabM do
  let srcName ← realizeGlobalConstNoOverloadWithInfo src
  let ci ← getConstInfo srcName
  let v := ci.value!
  lambdaTelescope v fun xs body => do
    let some chE := body.find? (fun e => e.isAppOfArity ``Plonk.verifierChallenges 6 && !e.hasLooseBVars)
      | throwError "no call of verifierChallenges"
    withLocalDeclD `ch (mkConst ``Plonk.Challenges) fun ch => do
      let body1 := body.replace (fun e => if e == chE then some ch else none)
      let some lgE := body1.find? (fun e => e.isAppOfArity ``BEq.beq 4 && !e.hasLooseBVars &&
          e.appArg!.isConstOf ``Plonk.PVersion.v1)
        | throwError "no test for v1"
      withLocalDeclD `legacy (mkConst ``Bool) fun lg => do
        let body2 := body1.replace (fun e => if e == lgE then some lg else none)
        let ys := (xs.filter fun x => body2.containsFVar x.fvarId!) ++ #[ch, lg]
        let val ← instantiateMVars (← mkLambdaFVars ys body2)
        let resTy ← inferType (mkAppN (mkConst srcName) xs)
        let type ← mkForallFVars ys resTy
        let name := (← getCurrNamespace) ++ tgt.getId
        addDecl <| Declaration.defnDecl {
          name := name, levelParams := [], type := type, value := val,
          hints := .regular (getMaxHeight (← getEnv) val + 1), safety := .safe }

abstract_version VerifierM.verify as verifyGiven

/-- acceptance depends on the protocol version only through the challenge record (transcript
    variant `ver == .v3`) and the equation flag (`ver == .v1`) -/
theorem verify_eq_given (v : VerifierM) (x : Nat) (p : ProofM) (pis : List Nat) (ver : PVersion) :
    v.verify x p pis ver =
      verifyGiven v x p pis (verifierChallenges v.label v.vk v.constraints (ver == .v3) pis p) (ver == .v1) := rfl

theorem len_mismatch (v : VerifierM) (x : Nat) (p : ProofM) (pis : List Nat) (ver : PVersion)
    (h : pis.length ≠ v.piIndexes.length) : v.verify x p pis ver = .piLen := by
  unfold VerifierM.verify
  rw [if_pos (by simpa using h)]

theorem g1_beq_inf (a : G1) : ((a == G1.inf) = true) ↔ a = G1.inf := by
  cases a with
  | inf => exact ⟨fun _ => rfl, fun _ => rfl⟩
  | aff x y => exact ⟨fun h => (by cases h), fun h => by cases h⟩

theorem opt_dom_match (od : Option Domain) (f : Domain → VOutcome) :
    VerifierM.fromBytes.match_1 (fun _ => VOutcome) od (fun _ => VOutcome.reject) f = VOutcome.ok ↔
      ∃ d, od = some d ∧ f d = VOutcome.ok := by
  cases od with
  | none => exact ⟨fun h => (by cases h), fun ⟨d, hd, _⟩ => by cases hd⟩
  | some d => exact ⟨fun h => ⟨d, rfl, h⟩, fun ⟨d', hd, h⟩ => by cases hd; exact h⟩

theorem opt_terms_match (r : Option (List (Nat × G1) × List (Nat × G1)))
    (f : List (Nat × G1) → List (Nat × G1) → VOutcome) :
    VerifierM.verify.match_1 (fun _ => VOutcome) r (fun _ => VOutcome.reject) f = VOutcome.ok ↔
      ∃ right left, r = some (right, left) ∧ f right left = VOutcome.ok := by
  cases r with
  | none => exact ⟨fun h => (by cases h), fun ⟨_, _, hd, _⟩ => by cases hd⟩
  | some rl =>
    obtain ⟨right, left⟩ := rl
    exact ⟨fun h => ⟨right, left, rfl, h⟩, fun ⟨r', l', hd, h⟩ => by cases hd; exact h⟩

theorem ite_ok_iff (c : Prop) [Decidable c] :
    (if c then VOutcome.ok else VOutcome.reject) = VOutcome.ok ↔ c := by
  by_cases h : c
  · rw [if_pos h]; exact ⟨fun _ => h, fun _ => rfl⟩
  · rw [if_neg h]; exact ⟨fun h' => (by cases h'), fun h' => absurd h' h⟩

/-- The verifier decides exactly the pairing equation of the grouped MSM. (`x` is the trapdoor
    with which the model decides the pairing check `e(L,[x]₂)·e(R,[1]₂) = 1` as `[x]L + R = O`.) -/
theorem verify_ok_iff (v : VerifierM) (x : Nat) (p : ProofM) (pis : List Nat) (ver : PVersion) :
    v.verify x p pis ver = .ok ↔
      pis.length = v.piIndexes.length ∧ ∃ d, Domain.new? v.vk.n = some d ∧ ∃ right left,
        verifyTerms v.vk v.ok.g d (v.piIndexes.map fun i => fpow d.groupGenInv (i % 2 ^ 64)) pis p
          (verifierChallenges v.label v.vk v.constraints (ver == .v3) pis p) (ver == .v1) = some (right, left) ∧
        G1.add (G1.smul x (G1.msum left)) (G1.msum right) = .inf := by
  unfold VerifierM.verify
  by_cases hlen : pis.length = v.piIndexes.length
  · rw [if_neg (by simpa using hlen), opt_dom_match]
    constructor
    · rintro ⟨d, hd, h⟩
      obtain ⟨right, left, hvt, h⟩ := (opt_terms_match _ _).mp h
      exact ⟨hlen, d, hd, right, left, hvt, (g1_beq_inf _).mp ((ite_ok_iff _).mp h)⟩
    · rintro ⟨-, d, hd, right, left, hvt, h⟩
      exact ⟨d, hd, (opt_terms_match _ _).mpr ⟨right, left, hvt, (ite_ok_iff _).mpr ((g1_beq_inf _).mpr h)⟩⟩
  · rw [if_pos (by simpa using hlen)]
    exact ⟨fun h => (by cases h), fun h => absurd h.1 hlen⟩

/-! ### the public-input evaluation `PI(z)` -/

/-- `Σᵢ eᵢ / (rᵢ·z − 1)` over the zipped lists (`rᵢ = ω^{−idxᵢ}`), the sparse barycentric sum -/
def piSumF : List F → List F → F → F
  | r :: rs, e :: es, z => e / (r * z - 1) + piSumF rs es z
  | _, _, _ => 0

/-- `PI(z) = (zⁿ − 1)/n · Σᵢ eᵢ / (ω^{−idxᵢ}·z − 1)` -/
def piEvalF (rs es : List F) (z zh ninv : F) : F := piSumF rs es z * zh * ninv

theorem piSumF_set (rs es : List F) (z : F) (j : Nat) (hj : j < es.length) (hjr : j < rs.length) (x : F) :
    piSumF rs (es.set j x) z = piSumF rs es z + (x - es[j]) / (rs[j] * z - 1) := by
  induction rs generalizing es j with
  | nil => simp at hjr
  | cons r rs ih =>
    cases es with
    | nil => simp at hj
    | cons e es =>
      cases j with
      | zero => simp only [List.set_cons_zero, piSumF, List.getElem_cons_zero]; ring
      | succ j =>
        simp only [List.set_cons_succ, piSumF, List.getElem_cons_succ]
        rw [ih es j (by simpa using hj) (by simpa using hjr)]
        ring

/-! the model's `lagrangeAndPi` computes `piEvalF` -/

theorem toF_batchInv_elem (x : Nat) : toF (if x % R == 0 then x % R else finv x) = (toF x)⁻¹ := by
  split
  · next h =>
    have h0 : x % R = 0 := by simpa using h
    have : toF x = 0 := (toF_eq_zero_iff x).mpr h0
    rw [h0, this]; simp
  · exact toF_finv x

/-- the accumulation loop of `lagrangeAndPi` over (root, value) pairs zipped with their inverted denominators -/
theorem foldl_pi (L : List (Nat × Nat)) (h : Nat × Nat → Nat) (a : Nat) :
    toF ((L.zip (L.map h)).foldl (fun acc (x : (Nat × Nat) × Nat) => fadd acc (fmul x.2 x.1.2)) a) =
      toF a + (L.map fun re => toF (h re) * toF re.2).sum := by
  induction L generalizing a with
  | nil => simp
  | cons re L ih =>
    simp only [List.map_cons, List.zip_cons_cons, List.foldl_cons, List.sum_cons]
    rw [ih]; simp only [toF_fadd, toF_fmul]; ring

theorem sum_filter_pi (L : List (Nat × Nat)) (z : Nat) :
    ((L.filter fun re => re.2 % R != 0).map fun re => (toF (fsub (fmul re.1 z) 1))⁻¹ * toF re.2).sum =
      piSumF (L.map fun re => toF re.1) (L.map fun re => toF re.2) (toF z) := by
  induction L with
  | nil => simp [piSumF]
  | cons re L ih =>
    simp only [List.map_cons, piSumF]
    by_cases h : re.2 % R = 0
    · have h0 : toF re.2 = 0 := (toF_eq_zero_iff _).mpr h
      rw [List.filter_cons_of_neg (by simp [h]), ih, h0]; simp
    · rw [List.filter_cons_of_pos (by simp [h]), List.map_cons, List.sum_cons, ih]
      simp only [toF_fsub, toF_fmul, toF_one]
      rw [div_eq_inv_mul]

theorem zip_map_fst_snd (roots evals : List Nat) :
    ((roots.zip evals).map fun re => toF re.1) = (roots.zip evals).unzip.1.map toF ∧
    ((roots.zip evals).map fun re => toF re.2) = (roots.zip evals).unzip.2.map toF := by
  simp [List.unzip_eq_map, List.map_map, Function.comp_def]

theorem piSumF_zip (rs es : List Nat) (z : F) :
    piSumF ((rs.zip es).map fun re => toF re.1) ((rs.zip es).map fun re => toF re.2) z =
      piSumF (rs.map toF) (es.map toF) z := by
  induction rs generalizing es with
  | nil => simp [piSumF]
  | cons r rs ih =>
    cases es with
    | nil => simp [piSumF]
    | cons e es => simp only [List.zip_cons_cons, List.map_cons, piSumF, ih]

/-- Whenever `lagrangeAndPi` is defined, its second component is
    `(zⁿ−1)·n⁻¹·Σᵢ piᵢ/(rootᵢ·z − 1)` in the field (zero public inputs are skipped by the code and
    contribute `0` to the sum). -/
theorem lagrangeAndPi_pi (d : Domain) (roots evals : List Nat) (z l1 pi : Nat)
    (h : d.lagrangeAndPi roots evals z = some (l1, pi)) :
    toF pi = piEvalF (roots.map toF) (evals.map toF) (toF z) (toF (d.evaluateVanishing z)) (toF d.sizeInv) := by
  unfold Domain.lagrangeAndPi at h
  simp only at h
  split at h
  · cases h
  · simp only [Option.some.injEq, Prod.mk.injEq] at h
    obtain ⟨-, h⟩ := h
    rw [← h]
    simp only [batchInversion, List.map_cons, List.tail_cons, List.map_map]
    rw [toF_fmul, toF_fmul]
    unfold piEvalF
    rw [← piSumF_zip, ← sum_filter_pi]
    rw [foldl_pi ((roots.zip evals).filter fun re => re.2 % R != 0)
      ((fun x => if (x % R == 0) = true then x % R else finv x) ∘ fun x => fsub (fmul x.1 z) 1) 0]
    rw [toF_zero, zero_add]
    have key : ∀ L : List (Nat × Nat),
        (L.map fun re => toF (((fun x => if (x % R == 0) = true then x % R else finv x) ∘
          fun x : Nat × Nat => fsub (fmul x.1 z) 1) re) * toF re.2) =
        (L.map fun re => (toF (fsub (fmul re.1 z) 1))⁻¹ * toF re.2) := by
      intro L
      apply List.map_congr_left
      intro re _
      rw [Function.comp_apply, toF_batchInv_elem]
    rw [key]

end Plonk
