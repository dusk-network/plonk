/-
  Property C07 — the circuit *shape* (gates with selectors and wire indices, public-input rows in
  order, number of witnesses) produced by a composer component does not depend on witness values
  or public-input values.

  Results of components are witness *indices*, never values.  `ShapeEq (X v₁) (X v₂)` says that
  the parameter `v` of `X` is a value parameter: it does not influence the shape.

  Mathlib-free.
-/
import Plonk.Model.Composer

namespace Plonk
open Plonk Plonk.Composer

namespace Composer

/-! The `rfl` facts about running a `CM` computation. -/

theorem run_bind_fst {α β : Type} (m : CM α) (k : α → CM β) (c : Composer) :
    ((m >>= k).run c).1 = ((k (m.run c).1).run (m.run c).2).1 := rfl

theorem run_bind_snd {α β : Type} (m : CM α) (k : α → CM β) (c : Composer) :
    ((m >>= k).run c).2 = ((k (m.run c).1).run (m.run c).2).2 := rfl

theorem run_pure_fst {α : Type} (a : α) (c : Composer) : ((pure a : CM α).run c).1 = a := rfl

theorem run_pure_snd {α : Type} (a : α) (c : Composer) : ((pure a : CM α).run c).2 = c := rfl

theorem run_get_fst (c : Composer) : ((get : CM Composer).run c).1 = c := rfl

theorem run_ite {α : Type} (p : Prop) [Decidable p] (a b : CM α) (c : Composer) :
    (if p then a else b).run c = if p then a.run c else b.run c := by
  split <;> rfl

theorem run_getVal_bind {β : Type} (w : Nat) (k : Nat → CM β) (c : Composer) :
    (getVal w >>= k).run c = (k (c.val w)).run c := rfl

end Composer

/-- The layout of a composer state: the gates (eleven selectors and four wire indices each), the
    rows that carry a public input (in insertion order), and the number of allocated witnesses.
    Witness values and public-input values are *not* part of it. -/
structure Shape where
  gates : Array Gate
  piRows : Array Nat
  nwit : Nat
  deriving DecidableEq, Repr

namespace Composer

/-- the layout of a state -/
def shape (c : Composer) : Shape := ⟨c.gates, c.pis.map (·.1), c.wit.size⟩

end Composer

-- the `decide +kernel` examples of `Props/C07.lean` compare results of type `Except CErr _`
deriving instance DecidableEq for Except

/-- two states have the same layout (witness values / public-input values may differ) -/
def SameShape (c₁ c₂ : Composer) : Prop := c₁.shape = c₂.shape

instance (c₁ c₂ : Composer) : Decidable (SameShape c₁ c₂) :=
  inferInstanceAs (Decidable (c₁.shape = c₂.shape))

theorem sameShape_iff {c₁ c₂ : Composer} :
    SameShape c₁ c₂ ↔
      c₁.gates = c₂.gates ∧ c₁.pis.map (·.1) = c₂.pis.map (·.1) ∧ c₁.wit.size = c₂.wit.size := by
  unfold SameShape Composer.shape
  rw [Shape.mk.injEq]

theorem SameShape.refl (c : Composer) : SameShape c c := rfl
theorem SameShape.symm {c₁ c₂ : Composer} (h : SameShape c₁ c₂) : SameShape c₂ c₁ := Eq.symm h
theorem SameShape.trans {c₁ c₂ c₃ : Composer} (h : SameShape c₁ c₂) (h' : SameShape c₂ c₃) :
    SameShape c₁ c₃ := Eq.trans h h'

theorem SameShape.gates_eq {c₁ c₂ : Composer} (h : SameShape c₁ c₂) : c₁.gates = c₂.gates :=
  (sameShape_iff.mp h).1
theorem SameShape.piRows_eq {c₁ c₂ : Composer} (h : SameShape c₁ c₂) :
    c₁.pis.map (·.1) = c₂.pis.map (·.1) := (sameShape_iff.mp h).2.1
theorem SameShape.wit_size {c₁ c₂ : Composer} (h : SameShape c₁ c₂) :
    c₁.wit.size = c₂.wit.size := (sameShape_iff.mp h).2.2
theorem SameShape.pis_size {c₁ c₂ : Composer} (h : SameShape c₁ c₂) :
    c₁.pis.size = c₂.pis.size := by
  simpa using congrArg Array.size h.piRows_eq

/-- `m₁` and `m₂`, run on states of the same shape, return the same result and states of the same
    shape. -/
def ShapeEq {α : Type} (m₁ m₂ : CM α) : Prop :=
  ∀ c₁ c₂, SameShape c₁ c₂ →
    (m₁.run c₁).1 = (m₂.run c₂).1 ∧ SameShape (m₁.run c₁).2 (m₂.run c₂).2

/-- result and resulting shape of `m` are functions of the initial shape only -/
abbrev ShapeStable {α : Type} (m : CM α) : Prop := ShapeEq m m

namespace ShapeEq
variable {α β : Type}

theorem symm {m₁ m₂ : CM α} (h : ShapeEq m₁ m₂) : ShapeEq m₂ m₁ := fun c₁ c₂ hc =>
  ⟨(h c₂ c₁ hc.symm).1.symm, (h c₂ c₁ hc.symm).2.symm⟩

theorem trans {m₁ m₂ m₃ : CM α} (h : ShapeEq m₁ m₂) (h' : ShapeEq m₂ m₃) : ShapeEq m₁ m₃ :=
  fun c₁ c₂ hc =>
    ⟨(h c₁ c₁ (SameShape.refl _)).1.trans (h' c₁ c₂ hc).1,
     (h c₁ c₁ (SameShape.refl _)).2.trans (h' c₁ c₂ hc).2⟩

theorem pure (a : α) : ShapeEq (Pure.pure a : CM α) (Pure.pure a) := fun _ _ h => ⟨rfl, h⟩

theorem bind {m₁ m₂ : CM α} {k₁ k₂ : α → CM β} (hm : ShapeEq m₁ m₂)
    (hk : ∀ a, ShapeEq (k₁ a) (k₂ a)) : ShapeEq (m₁ >>= k₁) (m₂ >>= k₂) := by
  intro c₁ c₂ hc
  obtain ⟨h1, h2⟩ := hm c₁ c₂ hc
  have := hk (m₂.run c₂).1 (m₁.run c₁).2 (m₂.run c₂).2 h2
  show ((k₁ (m₁.run c₁).1).run (m₁.run c₁).2).1 = ((k₂ (m₂.run c₂).1).run (m₂.run c₂).2).1 ∧
    SameShape ((k₁ (m₁.run c₁).1).run (m₁.run c₁).2).2 ((k₂ (m₂.run c₂).1).run (m₂.run c₂).2).2
  rw [h1]
  exact this

/-- sequencing when the results of the first parts are unrelated and the continuations are
    related for every pair of them -/
theorem bind' {γ : Type} {m₁ : CM α} {m₂ : CM γ} {k₁ : α → CM β} {k₂ : γ → CM β}
    (hm : ∀ c₁ c₂, SameShape c₁ c₂ → SameShape (m₁.run c₁).2 (m₂.run c₂).2)
    (hk : ∀ a b, ShapeEq (k₁ a) (k₂ b)) : ShapeEq (m₁ >>= k₁) (m₂ >>= k₂) := by
  intro c₁ c₂ hc
  exact hk (m₁.run c₁).1 (m₂.run c₂).1 (m₁.run c₁).2 (m₂.run c₂).2 (hm c₁ c₂ hc)

/-- a value read: the two runs may see arbitrary, different values -/
theorem getVal_bind {w₁ w₂ : Nat} {k₁ k₂ : Nat → CM β}
    (hk : ∀ v₁ v₂, ShapeEq (k₁ v₁) (k₂ v₂)) : ShapeEq (getVal w₁ >>= k₁) (getVal w₂ >>= k₂) :=
  fun c₁ c₂ hc => hk (c₁.val w₁) (c₂.val w₂) c₁ c₂ hc

/-- a read of the whole state: the continuation may depend on its shape only -/
theorem get_bind {k₁ k₂ : Composer → CM β}
    (hk : ∀ s₁ s₂, SameShape s₁ s₂ → ShapeEq (k₁ s₁) (k₂ s₂)) :
    ShapeEq (get >>= k₁) (get >>= k₂) :=
  fun c₁ c₂ hc => hk c₁ c₂ hc c₁ c₂ hc

end ShapeEq

namespace Composer

/-- `append_witness`: the value is a value parameter -/
theorem appendWitness_shape (v₁ v₂ : Nat) : ShapeEq (appendWitness v₁) (appendWitness v₂) := by
  intro c₁ c₂ h
  obtain ⟨hg, hp, hw⟩ := sameShape_iff.mp h
  refine ⟨hw, sameShape_iff.mpr ⟨hg, hp, ?_⟩⟩
  simp [appendWitness, StateT.run, hw]

end Composer

/-- two constraints are the same *up to the public-input value* (same selectors, same wires, same
    `has_public_input` flag) -/
def Constraint.SameUpToPi (s₁ s₂ : Constraint) : Prop := { s₁ with pi := 0 } = { s₂ with pi := 0 }

instance (s₁ s₂ : Constraint) : Decidable (s₁.SameUpToPi s₂) :=
  inferInstanceAs (Decidable (_ = _))

theorem Constraint.sameUpToPi_iff {s₁ s₂ : Constraint} :
    s₁.SameUpToPi s₂ ↔ ∃ p, s₂ = { s₁ with pi := p } := by
  unfold Constraint.SameUpToPi
  constructor
  · intro h
    refine ⟨s₂.pi, ?_⟩
    cases s₁; cases s₂; simp_all
  · rintro ⟨p, rfl⟩; rfl

theorem Constraint.SameUpToPi.eq {s₁ s₂ : Constraint} (h : s₁.SameUpToPi s₂) :
    ({ s₁ with pi := 0 } : Constraint) = { s₂ with pi := 0 } := h

theorem Constraint.SameUpToPi.toGate {s₁ s₂ : Constraint} (h : s₁.SameUpToPi s₂) :
    s₁.toGate = s₂.toGate := (congrArg Constraint.toGate h.eq :)

theorem Constraint.SameUpToPi.hasPi {s₁ s₂ : Constraint} (h : s₁.SameUpToPi s₂) :
    s₁.hasPi = s₂.hasPi := (congrArg Constraint.hasPi h.eq :)

theorem Constraint.SameUpToPi.arithmetic {s₁ s₂ : Constraint} (h : s₁.SameUpToPi s₂) :
    (Constraint.arithmetic s₁).SameUpToPi (Constraint.arithmetic s₂) :=
  (congrArg (fun s : Constraint => ({ Constraint.arithmetic s with pi := 0 } : Constraint)) h.eq :)

/-- the same constraint up to the public-input value, the two values related by `π`:
    `AnyPi` for the shape; with `Eq` the two gates also publish the same value -/
def Constraint.SameUpTo (π : Nat → Nat → Prop) (s₁ s₂ : Constraint) : Prop :=
  s₁.SameUpToPi s₂ ∧ π s₁.pi s₂.pi

/-- no condition on the public-input values -/
def AnyPi : Nat → Nat → Prop := fun _ _ => True

instance : Std.Refl AnyPi := ⟨fun _ => trivial⟩

theorem Constraint.SameUpTo.rfl {π : Nat → Nat → Prop} [Std.Refl π] {s : Constraint} :
    s.SameUpTo π s := ⟨_root_.rfl, Std.Refl.refl _⟩

theorem Constraint.SameUpToPi.any {s₁ s₂ : Constraint} (h : s₁.SameUpToPi s₂) :
    s₁.SameUpTo AnyPi s₂ := ⟨h, trivial⟩

theorem Constraint.SameUpTo.eq {s₁ s₂ : Constraint} (h : s₁.SameUpTo Eq s₂) : s₁ = s₂ := by
  obtain ⟨p, rfl⟩ := Constraint.sameUpToPi_iff.mp h.1
  cases s₁; cases h.2; rfl

theorem Constraint.SameUpTo.arithmetic {π : Nat → Nat → Prop} {s₁ s₂ : Constraint}
    (h : s₁.SameUpTo π s₂) : (Constraint.arithmetic s₁).SameUpTo π (Constraint.arithmetic s₂) :=
  ⟨h.1.arithmetic, h.2⟩

namespace Composer

/-- `append_custom_gate_internal`: only the public-input *value* is a value parameter -/
theorem appendCustomGate_shape {s₁ s₂ : Constraint} (hs : s₁.SameUpToPi s₂) :
    ShapeEq (appendCustomGate s₁) (appendCustomGate s₂) := by
  intro c₁ c₂ h
  obtain ⟨hg, hp, hw⟩ := sameShape_iff.mp h
  refine ⟨rfl, sameShape_iff.mpr ⟨?_, ?_, hw⟩⟩
  · simp [appendCustomGate, StateT.run, hg, hs.toGate]
  · simp only [appendCustomGate, StateT.run, hs.hasPi, hg]
    split
    · simp [hp]
    · exact hp

end Composer

/-- `m₁` and `m₂` are the same composition of the four primitive state transformers, up to value
    parameters: the values appended as witnesses and whatever is read back from the witness table
    may differ, the public-input values of the gates are related by `π`; what is read from the
    state with `get` may be used only through its shape. -/
inductive ValueFree (π : Nat → Nat → Prop) : {α : Type} → CM α → CM α → Prop
  | pure {α : Type} (a : α) : ValueFree π (Pure.pure a : CM α) (Pure.pure a)
  | bind {α β : Type} {m₁ m₂ : CM α} {k₁ k₂ : α → CM β} :
      ValueFree π m₁ m₂ → (∀ a, ValueFree π (k₁ a) (k₂ a)) → ValueFree π (m₁ >>= k₁) (m₂ >>= k₂)
  | appendWitness (v₁ v₂ : Nat) :
      ValueFree π (Composer.appendWitness v₁) (Composer.appendWitness v₂)
  | appendCustomGate {s₁ s₂ : Constraint} : s₁.SameUpTo π s₂ →
      ValueFree π (Composer.appendCustomGate s₁) (Composer.appendCustomGate s₂)
  | getVal_bind {β : Type} {w₁ w₂ : Nat} {k₁ k₂ : Nat → CM β} :
      (∀ v₁ v₂, ValueFree π (k₁ v₁) (k₂ v₂)) →
        ValueFree π (Composer.getVal w₁ >>= k₁) (Composer.getVal w₂ >>= k₂)
  | get_bind {β : Type} {k₁ k₂ : Composer → CM β} :
      (∀ s₁ s₂, SameShape s₁ s₂ → ValueFree π (k₁ s₁) (k₂ s₂)) →
        ValueFree π (get >>= k₁) (get >>= k₂)

namespace ValueFree
variable {π : Nat → Nat → Prop}

/-- The elimination: a relation `S` between states that refines `SameShape` and is kept by the
    two writing primitives is kept by the two runs, and they return the same result. -/
theorem sim {S : Composer → Composer → Prop} (hS : ∀ {c₁ c₂}, S c₁ c₂ → SameShape c₁ c₂)
    (hw : ∀ v₁ v₂ {c₁ c₂}, S c₁ c₂ →
      S ((Composer.appendWitness v₁).run c₁).2 ((Composer.appendWitness v₂).run c₂).2)
    (hg : ∀ {s₁ s₂}, s₁.SameUpTo π s₂ → ∀ {c₁ c₂}, S c₁ c₂ →
      S ((Composer.appendCustomGate s₁).run c₁).2 ((Composer.appendCustomGate s₂).run c₂).2)
    {α : Type} {m₁ m₂ : CM α} (h : ValueFree π m₁ m₂) :
    ∀ c₁ c₂, S c₁ c₂ → (m₁.run c₁).1 = (m₂.run c₂).1 ∧ S (m₁.run c₁).2 (m₂.run c₂).2 := by
  induction h with
  | pure a => exact fun _ _ hc => ⟨rfl, hc⟩
  | @bind _ _ m₁ m₂ k₁ k₂ _ _ ihm ihk =>
    intro c₁ c₂ hc
    obtain ⟨h1, h2⟩ := ihm c₁ c₂ hc
    have := ihk (m₂.run c₂).1 (m₁.run c₁).2 (m₂.run c₂).2 h2
    show ((k₁ (m₁.run c₁).1).run (m₁.run c₁).2).1 = ((k₂ (m₂.run c₂).1).run (m₂.run c₂).2).1 ∧
      S ((k₁ (m₁.run c₁).1).run (m₁.run c₁).2).2 ((k₂ (m₂.run c₂).1).run (m₂.run c₂).2).2
    rw [h1]
    exact this
  | appendWitness v₁ v₂ => exact fun _ _ hc => ⟨(hS hc).wit_size, hw v₁ v₂ hc⟩
  | appendCustomGate hs => exact fun _ _ hc => ⟨rfl, hg hs hc⟩
  | getVal_bind _ ih => exact fun c₁ c₂ hc => ih (c₁.val _) (c₂.val _) c₁ c₂ hc
  | get_bind _ ih => exact fun c₁ c₂ hc => ih c₁ c₂ (hS hc) c₁ c₂ hc

theorem shapeEq {α : Type} {m₁ m₂ : CM α} (h : ValueFree AnyPi m₁ m₂) : ShapeEq m₁ m₂ :=
  h.sim id (fun v₁ v₂ _ _ hc => (appendWitness_shape v₁ v₂ _ _ hc).2)
    fun hs _ _ hc => (appendCustomGate_shape hs.1 _ _ hc).2

theorem ite {α : Type} {p : Prop} [Decidable p] {a₁ a₂ b₁ b₂ : CM α} (ha : ValueFree π a₁ a₂)
    (hb : ValueFree π b₁ b₂) : ValueFree π (if p then a₁ else b₁) (if p then a₂ else b₂) := by
  split
  · exact ha
  · exact hb

end ValueFree

namespace Composer
variable {π : Nat → Nat → Prop}

theorem appendGate_valueFree {s₁ s₂ : Constraint} (hs : s₁.SameUpTo π s₂) :
    ValueFree π (appendGate s₁) (appendGate s₂) := .appendCustomGate hs.arithmetic

/-- the output wire value `append_evaluated_output` solves for, if any, from the selector `q_O`
    and the value `x` of the rest of the row -/
def solvedOutput (qo x : Nat) : Option Nat :=
  if qo == 1 % R then some (fneg x) else if qo == R - 1 then some x
  else (finv? qo).map fun yi => fmul x (fneg yi)

/-- whether there is such an output is decided by `q_O` alone -/
theorem solvedOutput_isSome (qo x : Nat) :
    (solvedOutput qo x).isSome = (qo == 1 % R || qo == R - 1 || (finv? qo).isSome) := by
  unfold solvedOutput
  cases qo == 1 % R <;> cases qo == R - 1 <;> simp

/-- `append_evaluated_output`: the two runs take the same branch (`solvedOutput_isSome`) -/
theorem appendEvaluatedOutput_valueFree {s₁ s₂ : Constraint} (hs : s₁.SameUpTo π s₂) :
    ValueFree π (appendEvaluatedOutput s₁) (appendEvaluatedOutput s₂) := by
  obtain ⟨p, rfl⟩ := Constraint.sameUpToPi_iff.mp hs.1
  have hp : π s₁.pi p := hs.2
  unfold appendEvaluatedOutput
  refine .getVal_bind fun a₁ a₂ => .getVal_bind fun b₁ b₂ => .getVal_bind fun d₁ d₂ => ?_
  dsimp only
  -- the two scrutinees differ in the values read and in the public input (`s₁.pi` / `p`)
  generalize h₁ : (if s₁.qo == 1 % R then some (fneg (fadd _ s₁.pi)) else _) = o₁
  generalize h₂ : (if s₁.qo == 1 % R then some (fneg (fadd _ p)) else _) = o₂
  have h : o₁.isSome = o₂.isSome := by
    rw [← h₁, ← h₂]
    exact (solvedOutput_isSome s₁.qo _).trans (solvedOutput_isSome s₁.qo _).symm
  cases o₁ <;> cases o₂ <;> cases h
  · exact .bind (appendGate_valueFree ⟨rfl, hp⟩) fun _ => .pure _
  · exact .bind (.appendWitness _ _) fun _ => .bind (appendGate_valueFree ⟨rfl, hp⟩) fun _ => .pure _

theorem appendEvaluatedOutput_stable (s : Constraint) : ShapeStable (appendEvaluatedOutput s) :=
  (appendEvaluatedOutput_valueFree .rfl).shapeEq

theorem gateAdd_valueFree {s₁ s₂ : Constraint} (hs : s₁.SameUpTo π s₂) :
    ValueFree π (gateAdd s₁) (gateAdd s₂) := by
  unfold gateAdd
  refine .bind (appendEvaluatedOutput_valueFree ⟨?_, hs.2⟩) fun o => ?_
  · obtain ⟨p, rfl⟩ := Constraint.sameUpToPi_iff.mp hs.1; rfl
  · cases o <;> exact .pure _

theorem gateMul_valueFree {s₁ s₂ : Constraint} (hs : s₁.SameUpTo π s₂) :
    ValueFree π (gateMul s₁) (gateMul s₂) := gateAdd_valueFree hs

variable [Std.Refl π]

theorem assertEqual_valueFree {a b : Nat} : ValueFree π (assertEqual a b) (assertEqual a b) :=
  appendGate_valueFree .rfl

/-- `assert_equal_constant`: the public value is a value parameter (whether there is one is not) -/
theorem assertEqualConstant_valueFree (a k : Nat) {p₁ p₂ : Option Nat}
    (h : p₁.isSome = p₂.isSome) :
    ValueFree AnyPi (assertEqualConstant a k p₁) (assertEqualConstant a k p₂) := by
  unfold assertEqualConstant
  cases p₁ <;> cases p₂ <;> simp at h <;> exact appendGate_valueFree ⟨rfl, trivial⟩

theorem assertEqualConstant_valueFree' {a k : Nat} {p : Option Nat} :
    ValueFree π (assertEqualConstant a k p) (assertEqualConstant a k p) := appendGate_valueFree .rfl

theorem assertEqualConstant_stable (a k : Nat) (p : Option Nat) :
    ShapeStable (assertEqualConstant a k p) := (assertEqualConstant_valueFree a k rfl).shapeEq

/-- `append_constant` (the constant is part of the circuit: it is the selector `q_C`) -/
theorem appendConstant_valueFree {v : Nat} : ValueFree π (appendConstant v) (appendConstant v) :=
  .bind (.appendWitness _ _) fun _ => .bind assertEqualConstant_valueFree' fun _ => .pure _

/-- `append_public`: any two public values — same rows -/
theorem appendPublic_valueFree {v₁ v₂ : Nat} :
    ValueFree AnyPi (appendPublic v₁) (appendPublic v₂) :=
  .bind (.appendWitness _ _) fun _ => .bind (appendGate_valueFree ⟨rfl, trivial⟩) fun _ => .pure _

theorem appendDummyGates_valueFree : ValueFree π appendDummyGates appendDummyGates :=
  .bind (.appendWitness _ _) fun _ => .bind (.appendWitness _ _) fun _ =>
    .bind (.appendWitness _ _) fun _ => .bind (.appendWitness _ _) fun _ =>
    .bind (appendGate_valueFree .rfl) fun _ => appendGate_valueFree .rfl

omit [Std.Refl π] in
/-- `appendWitnesses`: only the number of values matters -/
theorem appendWitnesses_valueFree : ∀ {l₁ l₂ : List Nat}, l₁.length = l₂.length →
    ValueFree π (appendWitnesses l₁) (appendWitnesses l₂)
  | [], [], _ => .pure _
  | _ :: _, [], h => nomatch h
  | [], _ :: _, h => nomatch h
  | a :: l₁, b :: l₂, h => by
    unfold appendWitnesses
    exact .bind (.appendWitness a b) fun _ => appendWitnesses_valueFree (Nat.succ.inj h)

/-- `appendCustomGates`: the same gates up to public-input values -/
theorem appendCustomGates_valueFree : ∀ {l₁ l₂ : List Constraint},
    l₁.map (fun s => { s with pi := 0 }) = l₂.map (fun s => { s with pi := 0 }) →
    ValueFree AnyPi (appendCustomGates l₁) (appendCustomGates l₂)
  | [], [], _ => .pure _
  | _ :: _, [], h => nomatch h
  | [], _ :: _, h => nomatch h
  | a :: l₁, b :: l₂, h => by
    unfold appendCustomGates
    simp only [List.map_cons, List.cons.injEq] at h
    exact .bind (.appendCustomGate ⟨h.1, trivial⟩) fun _ => appendCustomGates_valueFree h.2

theorem appendCustomGates_valueFree' : ∀ {l : List Constraint},
    ValueFree π (appendCustomGates l) (appendCustomGates l)
  | [] => .pure _
  | a :: l => by
    unfold appendCustomGates
    exact .bind (.appendCustomGate .rfl) fun _ => appendCustomGates_valueFree'

/-! ### bits.rs / select.rs -/

theorem componentBoolean_valueFree {a : Nat} :
    ValueFree π (componentBoolean a) (componentBoolean a) := appendGate_valueFree .rfl

theorem componentDecomposition_go_valueFree (v₁ v₂ : Nat) : ∀ (k i acc : Nat) (bits : List Nat),
    ValueFree π (componentDecomposition.go v₁ k i acc bits) (componentDecomposition.go v₂ k i acc bits)
  | 0, _, _, _ => .pure _
  | k+1, i, acc, bits => by
    unfold componentDecomposition.go
    exact .bind (.appendWitness _ _) fun wb => .bind componentBoolean_valueFree fun _ =>
      .bind (gateAdd_valueFree .rfl) fun acc' =>
        componentDecomposition_go_valueFree v₁ v₂ k (i+1) acc' _

/-- `component_decomposition::<N>`, every `N` -/
theorem componentDecomposition_valueFree {n scalar : Nat} :
    ValueFree π (componentDecomposition n scalar) (componentDecomposition n scalar) :=
  .getVal_bind fun v₁ v₂ => .bind (componentDecomposition_go_valueFree v₁ v₂ n 0 _ _)
    fun _ => .bind assertEqual_valueFree fun _ => .pure _

theorem componentSelect_valueFree {bit a b : Nat} :
    ValueFree π (componentSelect bit a b) (componentSelect bit a b) :=
  .bind (gateMul_valueFree .rfl) fun _ => .bind (gateAdd_valueFree .rfl) fun _ =>
    .bind (gateMul_valueFree .rfl) fun _ => gateAdd_valueFree .rfl

theorem componentSelectOne_valueFree {bit value : Nat} :
    ValueFree π (componentSelectOne bit value) (componentSelectOne bit value) :=
  .getVal_bind fun _ _ => .getVal_bind fun _ _ => .bind (.appendWitness _ _) fun _ =>
    .bind (appendGate_valueFree .rfl) fun _ => .pure _

theorem componentSelectZero_valueFree {bit value : Nat} :
    ValueFree π (componentSelectZero bit value) (componentSelectZero bit value) :=
  gateMul_valueFree .rfl

/-! ### range.rs -/

/-- `range_check_even`, every width.  The first accumulator index is read from the state, but
    only its number of witnesses is used. -/
theorem rangeCheckEven_valueFree {witness numBits : Nat} :
    ValueFree π (rangeCheckEven witness numBits) (rangeCheckEven witness numBits) :=
  .ite (appendGate_valueFree .rfl) <| .getVal_bind fun _ _ => .get_bind fun s₁ s₂ hs => by
    rw [hs.wit_size]
    exact .bind (appendWitnesses_valueFree (by simp)) fun _ =>
      .bind appendCustomGates_valueFree' fun _ => .ite assertEqual_valueFree (.pure _)

/-- `range_check`, every width (odd widths peel the top bit) -/
theorem rangeCheck_valueFree {value numBits : Nat} :
    ValueFree π (rangeCheck value numBits) (rangeCheck value numBits) :=
  .ite rangeCheckEven_valueFree <| .getVal_bind fun _ _ =>
    .bind (.appendWitness _ _) fun _ => .bind rangeCheckEven_valueFree fun _ =>
    .bind (.appendWitness _ _) fun _ => .bind componentBoolean_valueFree fun _ =>
    .bind (gateAdd_valueFree .rfl) fun _ => assertEqual_valueFree

theorem componentRangeBits_valueFree {bits witness : Nat} :
    ValueFree π (componentRangeBits bits witness) (componentRangeBits bits witness) :=
  rangeCheck_valueFree

theorem componentRange_valueFree {bitPairs witness : Nat} :
    ValueFree π (componentRange bitPairs witness) (componentRange bitPairs witness) :=
  rangeCheckEven_valueFree

/-! ### truncate.rs -/

theorem assertCanonicalTruncation_valueFree {high low numBits : Nat} :
    ValueFree π (assertCanonicalTruncation high low numBits)
      (assertCanonicalTruncation high low numBits) :=
  .bind (gateAdd_valueFree .rfl) fun _ => .bind rangeCheck_valueFree fun _ =>
    .getVal_bind fun _ _ => .bind (.appendWitness _ _) fun _ =>
    .bind (gateMul_valueFree .rfl) fun _ => .bind (gateAdd_valueFree .rfl) fun _ =>
    .bind (appendGate_valueFree .rfl) fun _ => .bind (gateAdd_valueFree .rfl) fun _ =>
    .bind (gateMul_valueFree .rfl) fun _ => rangeCheck_valueFree

theorem bindTruncationSplit_valueFree {input low numBits : Nat} :
    ValueFree π (bindTruncationSplit input low numBits) (bindTruncationSplit input low numBits) :=
  .getVal_bind fun _ _ => .bind (.appendWitness _ _) fun _ =>
    .bind rangeCheck_valueFree fun _ => .bind (gateAdd_valueFree .rfl) fun _ =>
    .bind assertEqual_valueFree fun _ => assertCanonicalTruncation_valueFree

theorem componentTruncate_valueFree {n witness : Nat} :
    ValueFree π (componentTruncate n witness) (componentTruncate n witness) :=
  .getVal_bind fun _ _ => .bind (.appendWitness _ _) fun _ =>
    .bind rangeCheck_valueFree fun _ => .bind bindTruncationSplit_valueFree fun _ =>
    .pure _

/-! ### logic.rs -/

/-- the quad loop of `append_logic_component`: the operand values, the running accumulators and
    the quad counter only feed witness values -/
theorem appendLogicComponent_go_valueFree (pairs : Nat) (isXor : Bool) (av₁ av₂ bv₁ bv₂ : Nat) :
    ∀ (k i₁ i₂ : Nat) (s : Constraint) (la₁ la₂ ra₁ ra₂ oa₁ oa₂ : Nat),
      ValueFree π (appendLogicComponent.go pairs isXor av₁ bv₁ k i₁ s la₁ ra₁ oa₁)
        (appendLogicComponent.go pairs isXor av₂ bv₂ k i₂ s la₂ ra₂ oa₂)
  | 0, _, _, _, _, _, _, _, _, _ => .pure _
  | k+1, i₁, i₂, s, la₁, la₂, ra₁, ra₂, oa₁, oa₂ => by
    unfold appendLogicComponent.go
    exact .bind (.appendWitness _ _) fun wa => .bind (.appendWitness _ _) fun wb =>
      .bind (.appendWitness _ _) fun wc => .bind (.appendWitness _ _) fun wd =>
      .bind (.appendCustomGate .rfl) fun _ =>
        appendLogicComponent_go_valueFree pairs isXor av₁ av₂ bv₁ bv₂ k _ _ _ _ _ _ _ _ _

/-- `append_logic_component::<BIT_PAIRS>`, every pair count, AND and XOR -/
theorem appendLogicComponent_valueFree {pairs a b : Nat} {isXor : Bool} :
    ValueFree π (appendLogicComponent pairs a b isXor) (appendLogicComponent pairs a b isXor) :=
  .getVal_bind fun av₁ av₂ => .getVal_bind fun bv₁ bv₂ =>
    .bind (appendLogicComponent_go_valueFree pairs isXor av₁ av₂ bv₁ bv₂ pairs 0 0 _ 0 0 0 0 0 0)
      fun _ => .bind (.appendCustomGate .rfl) fun _ =>
        .ite (.bind bindTruncationSplit_valueFree fun _ =>
          .bind bindTruncationSplit_valueFree fun _ => .pure _) (.pure _)

end Composer
end Plonk
