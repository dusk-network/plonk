/-
  The first-use relabelling of witnesses (`remap_witness` of `from_bytes`): threaded through a list of labels it
  is a bijection between the labels seen and `{0..next-1}`, ordered by first use.  The loop body of `from_bytes`
  (`gateStep`) relabels the four wires of a gate with it.
-/
import Plonk.Model.Compress
import Plonk.Proofs.ListFacts
import Mathlib.Data.Finset.Card
import Mathlib.Data.Finset.Image

namespace Plonk.CompressModel
open Plonk

/-- value bound to label `w` in the association list (first match), `0` when absent -/
def look (m : List (Nat × Nat)) (w : Nat) : Nat := ((m.find? (·.1 == w)).map (·.2)).getD 0

theorem remap_hit {m : List (Nat × Nat)} {w : Nat} (next : Nat) (h : w ∈ m.map (·.1)) :
    remapWitness m next w = (m, next, look m w) := by
  unfold remapWitness look
  cases hf : m.find? (·.1 == w) with
  | none =>
    rw [List.find?_eq_none] at hf
    obtain ⟨p, hp, rfl⟩ := List.mem_map.1 h
    have := hf p hp
    simp at this
  | some p => rfl

theorem remap_miss {m : List (Nat × Nat)} {w : Nat} (next : Nat) (h : w ∉ m.map (·.1)) :
    remapWitness m next w = ((w, next) :: m, next + 1, next) := by
  unfold remapWitness
  cases hf : m.find? (·.1 == w) with
  | none => rfl
  | some p =>
    have h1 := List.find?_some hf
    have h2 := List.mem_of_find?_eq_some hf
    simp only [beq_iff_eq] at h1
    exact absurd (List.mem_map.2 ⟨p, h2, h1⟩) h

theorem look_cons_self (m : List (Nat × Nat)) (w n : Nat) : look ((w, n) :: m) w = n := by
  simp [look]

theorem look_cons_ne (m : List (Nat × Nat)) {w u : Nat} (n : Nat) (h : u ≠ w) :
    look ((w, n) :: m) u = look m u := by
  have : ¬ (w = u) := fun e => h e.symm
  simp [look, this]

/-- the invariant threaded by `remapWitness`: after the labels `P` (in this order) the map is defined exactly
    on the labels seen, is onto `{0..next-1}`, and is ordered by first use -/
structure RInv (P : List Nat) (m : List (Nat × Nat)) (next : Nat) : Prop where
  keys : ∀ u, u ∈ m.map (·.1) ↔ u ∈ P
  bound : ∀ u, u ∈ P → look m u < next
  surj : ∀ v, v < next → ∃ u, u ∈ P ∧ look m u = v
  order : ∀ u, u ∈ P → ∀ v, v ∈ P → (look m u < look m v ↔ P.idxOf u < P.idxOf v)

theorem RInv.nil : RInv [] [] 0 :=
  ⟨by simp, by simp, by simp, by simp⟩

theorem RInv.inj {P m next} (h : RInv P m next) {u v : Nat} (hu : u ∈ P) (hv : v ∈ P)
    (e : look m u = look m v) : u = v := by
  have h1 := h.order u hu v hv
  have h2 := h.order v hv u hu
  have : P.idxOf u = P.idxOf v := by omega
  exact (List.idxOf_inj hu).1 this

/-- a label seen before changes nothing -/
theorem RInv.append_of_mem {P m next} (h : RInv P m next) {w : Nat} (hw : w ∈ P) : RInv (P ++ [w]) m next := by
  have hmem : ∀ u, u ∈ P ++ [w] ↔ u ∈ P := fun u => by
    rw [List.mem_append, List.mem_singleton]
    exact ⟨fun h => h.elim id (· ▸ hw), Or.inl⟩
  refine ⟨fun u => (h.keys u).trans (hmem u).symm, fun u hu => h.bound u ((hmem u).1 hu), fun v hv => ?_,
    fun u hu v hv => ?_⟩
  · obtain ⟨u, hu, e⟩ := h.surj v hv
    exact ⟨u, (hmem u).2 hu, e⟩
  · rw [List.idxOf_append_of_mem ((hmem u).1 hu), List.idxOf_append_of_mem ((hmem v).1 hv)]
    exact h.order u ((hmem u).1 hu) v ((hmem v).1 hv)

/-- a new label gets the next number, above all numbers handed out and after all labels seen -/
theorem RInv.append_of_not_mem {P m next} (h : RInv P m next) {w : Nat} (hw : w ∉ P) :
    RInv (P ++ [w]) ((w, next) :: m) (next + 1) := by
  have hst : ∀ u, u ∈ P → look ((w, next) :: m) u = look m u :=
    fun u hu => look_cons_ne m next (ne_of_mem_of_not_mem hu hw)
  have hidx : ∀ u, u ∈ P → (P ++ [w]).idxOf u = P.idxOf u ∧ P.idxOf u < P.length := fun u hu =>
    ⟨List.idxOf_append_of_mem hu, List.idxOf_lt_length_of_mem hu⟩
  have hidw : (P ++ [w]).idxOf w = P.length := by
    rw [List.idxOf_append_of_notMem hw]; simp
  refine ⟨fun u => ?_, fun u hu => ?_, fun v hv => ?_, fun u hu v hv => ?_⟩
  · rw [List.map_cons, List.mem_cons, List.mem_append, List.mem_singleton, h.keys u, or_comm]
  · rcases List.mem_append.1 hu with h1 | h1
    · rw [hst u h1]; exact Nat.lt_succ_of_lt (h.bound u h1)
    · rw [List.mem_singleton.1 h1, look_cons_self]; exact Nat.lt_succ_self _
  · rcases Nat.lt_succ_iff_lt_or_eq.1 hv with hv | rfl
    · obtain ⟨u, hu, e⟩ := h.surj v hv
      exact ⟨u, List.mem_append_left _ hu, by rw [hst u hu, e]⟩
    · exact ⟨w, List.mem_append_right _ List.mem_cons_self, look_cons_self m w v⟩
  · rcases List.mem_append.1 hu with h1 | h1 <;> rcases List.mem_append.1 hv with h2 | h2
    · rw [hst u h1, hst v h2, (hidx u h1).1, (hidx v h2).1]
      exact h.order u h1 v h2
    · rw [List.mem_singleton.1 h2, hst u h1, look_cons_self, (hidx u h1).1, hidw]
      exact iff_of_true (h.bound u h1) (hidx u h1).2
    · rw [List.mem_singleton.1 h1, hst v h2, look_cons_self, (hidx v h2).1, hidw]
      exact iff_of_false (Nat.not_lt.2 (Nat.le_of_lt (h.bound v h2))) (Nat.not_lt.2 (Nat.le_of_lt (hidx v h2).2))
    · rw [List.mem_singleton.1 h1, List.mem_singleton.1 h2]
      exact iff_of_false (Nat.lt_irrefl _) (Nat.lt_irrefl _)

theorem remap_step {P m next} (h : RInv P m next) (w : Nat) :
    RInv (P ++ [w]) (remapWitness m next w).1 (remapWitness m next w).2.1 ∧
    (remapWitness m next w).2.2 = look (remapWitness m next w).1 w ∧
    (∀ u, u ∈ P → look (remapWitness m next w).1 u = look m u) := by
  by_cases hw : w ∈ P
  · rw [remap_hit next ((h.keys w).2 hw)]
    exact ⟨h.append_of_mem hw, rfl, fun _ _ => rfl⟩
  · rw [remap_miss next fun hc => hw ((h.keys w).1 hc)]
    exact ⟨h.append_of_not_mem hw, (look_cons_self m w next).symm,
      fun u hu => look_cons_ne m next (ne_of_mem_of_not_mem hu hw)⟩

/-- the invariant pins the number of allocated labels: it is the number of distinct labels seen -/
theorem RInv.card {P m next} (h : RInv P m next) : next = P.toFinset.card := by
  have himg : P.toFinset.image (look m) = Finset.range next := by
    ext v
    simp only [Finset.mem_image, List.mem_toFinset, Finset.mem_range]
    constructor
    · rintro ⟨u, hu, rfl⟩; exact h.bound u hu
    · intro hv; exact h.surj v hv
  have hinj : Set.InjOn (look m) (P.toFinset : Set Nat) := by
    intro u hu v hv e
    simp only [Finset.mem_coe, List.mem_toFinset] at hu hv
    exact h.inj hu hv e
  have := Finset.card_image_of_injOn hinj
  rw [himg, Finset.card_range] at this
  exact this

/-- relabel `w` in the state (map, next, outputs so far) and record the output -/
def remapPush (acc : List (Nat × Nat) × Nat × List Nat) (w : Nat) : List (Nat × Nat) × Nat × List Nat :=
  ((remapWitness acc.1 acc.2.1 w).1, (remapWitness acc.1 acc.2.1 w).2.1, acc.2.2 ++ [(remapWitness acc.1 acc.2.1 w).2.2])

/-- thread `remapWitness` through a sequence of labels, collecting the outputs (map, next, outputs) -/
def remapAll (ws : List Nat) : List (Nat × Nat) × Nat × List Nat :=
  ws.foldl (fun acc w => ((remapWitness acc.1 acc.2.1 w).1, (remapWitness acc.1 acc.2.1 w).2.1,
                          acc.2.2 ++ [(remapWitness acc.1 acc.2.1 w).2.2])) ([], 0, [])

/-- after the labels `ws` the invariant holds of all labels seen, the outputs are the images of `ws` under the
    FINAL map, and the map has not changed on the labels seen before -/
theorem remapFold_spec (ws : List Nat) : ∀ (P : List Nat) (m : List (Nat × Nat)) (n : Nat) (outs : List Nat),
    RInv P m n →
    RInv (P ++ ws) (ws.foldl remapPush (m, n, outs)).1 (ws.foldl remapPush (m, n, outs)).2.1 ∧
    (ws.foldl remapPush (m, n, outs)).2.2 = outs ++ ws.map (look (ws.foldl remapPush (m, n, outs)).1) ∧
    (∀ u, u ∈ P → look (ws.foldl remapPush (m, n, outs)).1 u = look m u) := by
  induction ws with
  | nil => intro P m n outs h; simpa using h
  | cons w rest ih =>
    intro P m n outs h
    obtain ⟨j1, e1, s1⟩ := remap_step h w
    obtain ⟨j2, e2, s2⟩ := ih _ _ _ (outs ++ [(remapWitness m n w).2.2]) j1
    have step : remapPush (m, n, outs) w =
        ((remapWitness m n w).1, (remapWitness m n w).2.1, outs ++ [(remapWitness m n w).2.2]) := rfl
    rw [List.foldl_cons, step, List.map_cons]
    refine ⟨by rw [List.append_cons]; exact j2, ?_, fun u hu => ?_⟩
    · rw [s2 w (List.mem_append_right _ List.mem_cons_self), ← e1]
      exact e2.trans (List.append_cons ..).symm
    · rw [← s1 u hu]
      exact s2 u (List.mem_append_left _ hu)

theorem remapAll_spec (ws : List Nat) :
    RInv ws (remapAll ws).1 (remapAll ws).2.1 ∧ (remapAll ws).2.2 = ws.map (look (remapAll ws).1) := by
  obtain ⟨h1, h2, -⟩ := remapFold_spec ws [] [] 0 [] RInv.nil
  exact ⟨h1, h2⟩

/-- relabel the four wires of a gate, keep the eleven selectors -/
def relabel (f : Nat → Nat) (g : Gate) : Gate := { g with a := f g.a, b := f g.b, c := f g.c, d := f g.d }

/-- the loop body of `from_bytes` (same text as in `decompressCompress`) -/
def gateStep (acc : List Gate × List (Nat × Nat) × Nat) (g : Gate) : List Gate × List (Nat × Nat) × Nat :=
  let (gs, m, next) := acc
  let (m, next, a) := remapWitness m next g.a
  let (m, next, b) := remapWitness m next g.b
  let (m, next, cc) := remapWitness m next g.c
  let (m, next, d) := remapWitness m next g.d
  (gs ++ [{ g with a := a, b := b, c := cc, d := d }], m, next)

/-- `remapWitness` threaded through four labels: final map and counter, then the four outputs -/
def remap4 (m : List (Nat × Nat)) (n a b c d : Nat) : List (Nat × Nat) × Nat × Nat × Nat × Nat × Nat :=
  let r1 := remapWitness m n a
  let r2 := remapWitness r1.1 r1.2.1 b
  let r3 := remapWitness r2.1 r2.2.1 c
  let r4 := remapWitness r3.1 r3.2.1 d
  (r4.1, r4.2.1, r1.2.2, r2.2.2, r3.2.2, r4.2.2)

/-- the four destructuring `let`s of the loop bodies of `decompressCompress` and `rebuild`, whatever is done with
    the results -/
theorem remapChain_eq {β : Type} (K : List (Nat × Nat) → Nat → Nat → Nat → Nat → Nat → β) (m : List (Nat × Nat))
    (n a b c d : Nat) :
    (let (m, n, a') := remapWitness m n a
     let (m, n, b') := remapWitness m n b
     let (m, n, c') := remapWitness m n c
     let (m, n, d') := remapWitness m n d
     K m n a' b' c' d') =
    K (remap4 m n a b c d).1 (remap4 m n a b c d).2.1 (remap4 m n a b c d).2.2.1 (remap4 m n a b c d).2.2.2.1
      (remap4 m n a b c d).2.2.2.2.1 (remap4 m n a b c d).2.2.2.2.2 := by
  unfold remap4
  -- naming the first result lets the `let`s reduce (a bare `rfl` makes the unifier unfold all four calls at once)
  generalize remapWitness m n a = r1
  obtain ⟨m1, n1, a1⟩ := r1
  dsimp only

theorem remap4_spec {P : List Nat} {m : List (Nat × Nat)} {n : Nat} (h : RInv P m n) (a b c d : Nat) :
    RInv (P ++ [a, b, c, d]) (remap4 m n a b c d).1 (remap4 m n a b c d).2.1 ∧
    (remap4 m n a b c d).2.2.1 = look (remap4 m n a b c d).1 a ∧
    (remap4 m n a b c d).2.2.2.1 = look (remap4 m n a b c d).1 b ∧
    (remap4 m n a b c d).2.2.2.2.1 = look (remap4 m n a b c d).1 c ∧
    (remap4 m n a b c d).2.2.2.2.2 = look (remap4 m n a b c d).1 d ∧
    (∀ u, u ∈ P → look (remap4 m n a b c d).1 u = look m u) := by
  simp only [remap4]
  obtain ⟨i1, v1, s1⟩ := remap_step h a
  generalize remapWitness m n a = r1 at *
  obtain ⟨i2, v2, s2⟩ := remap_step i1 b
  generalize remapWitness r1.1 r1.2.1 b = r2 at *
  obtain ⟨i3, v3, s3⟩ := remap_step i2 c
  generalize remapWitness r2.1 r2.2.1 c = r3 at *
  obtain ⟨i4, v4, s4⟩ := remap_step i3 d
  generalize remapWitness r3.1 r3.2.1 d = r4 at *
  refine ⟨by simpa using i4, ?_, ?_, ?_, v4, fun u hu => ?_⟩
  · rw [v1, s4 _ (by simp), s3 _ (by simp), s2 _ (by simp)]
  · rw [v2, s4 _ (by simp), s3 _ (by simp)]
  · rw [v3, s4 _ (by simp)]
  · rw [s4 _ (by simp [hu]), s3 _ (by simp [hu]), s2 _ (by simp [hu]), s1 _ hu]

theorem gateStep_eq (gs : List Gate) (m : List (Nat × Nat)) (n : Nat) (g : Gate) :
    gateStep (gs, m, n) g =
      (gs ++ [{ g with a := (remap4 m n g.a g.b g.c g.d).2.2.1, b := (remap4 m n g.a g.b g.c g.d).2.2.2.1,
                       c := (remap4 m n g.a g.b g.c g.d).2.2.2.2.1, d := (remap4 m n g.a g.b g.c g.d).2.2.2.2.2 }],
       (remap4 m n g.a g.b g.c g.d).1, (remap4 m n g.a g.b g.c g.d).2.1) :=
  remapChain_eq (fun m n a b c d => (gs ++ [{ g with a := a, b := b, c := c, d := d }], m, n)) m n g.a g.b g.c g.d

theorem gateStep_spec {P : List Nat} {m : List (Nat × Nat)} {n : Nat} (h : RInv P m n) (gs : List Gate) (g : Gate) :
    RInv (P ++ [g.a, g.b, g.c, g.d]) (gateStep (gs, m, n) g).2.1 (gateStep (gs, m, n) g).2.2 ∧
    (gateStep (gs, m, n) g).1 = gs ++ [relabel (look (gateStep (gs, m, n) g).2.1) g] ∧
    (∀ u, u ∈ P → look (gateStep (gs, m, n) g).2.1 u = look m u) := by
  obtain ⟨i, ea, eb, ec, ed, s⟩ := remap4_spec h g.a g.b g.c g.d
  rw [gateStep_eq]
  generalize remap4 m n g.a g.b g.c g.d = R at *
  obtain ⟨m', n', a', b', c', d'⟩ := R
  dsimp only at i ea eb ec ed s ⊢
  subst ea eb ec ed
  exact ⟨i, rfl, s⟩

/-- the wire labels of a gate list in processing order -/
def wiresOf (gates : List Gate) : List Nat := gates.flatMap fun g => [g.a, g.b, g.c, g.d]

theorem wiresOf_length (gates : List Gate) : (wiresOf gates).length = 4 * gates.length := by
  induction gates with
  | nil => rfl
  | cons g rest ih =>
    show ([g.a, g.b, g.c, g.d] ++ wiresOf rest).length = _
    rw [List.length_append, ih, List.length_cons (as := rest), Nat.mul_succ, Nat.add_comm]
    rfl

theorem mem_wiresOf {gates : List Gate} {g : Gate} (hg : g ∈ gates) :
    g.a ∈ wiresOf gates ∧ g.b ∈ wiresOf gates ∧ g.c ∈ wiresOf gates ∧ g.d ∈ wiresOf gates := by
  have h : ∀ w ∈ [g.a, g.b, g.c, g.d], w ∈ wiresOf gates := fun w hw => List.mem_flatMap.2 ⟨g, hg, hw⟩
  exact ⟨h _ (by simp), h _ (by simp), h _ (by simp), h _ (by simp)⟩

theorem gateFold_spec (gates : List Gate) : ∀ (P : List Nat) (m : List (Nat × Nat)) (n : Nat) (gs : List Gate),
    RInv P m n →
    RInv (P ++ wiresOf gates) (gates.foldl gateStep (gs, m, n)).2.1 (gates.foldl gateStep (gs, m, n)).2.2 ∧
    (gates.foldl gateStep (gs, m, n)).1 = gs ++ gates.map (relabel (look (gates.foldl gateStep (gs, m, n)).2.1)) ∧
    (∀ u, u ∈ P → look (gates.foldl gateStep (gs, m, n)).2.1 u = look m u) := by
  induction gates with
  | nil => intro P m n gs h; simpa [wiresOf] using h
  | cons g rest ih =>
    intro P m n gs h
    obtain ⟨j1, e1, s1⟩ := gateStep_spec h gs g
    simp only [List.foldl_cons]
    generalize gateStep (gs, m, n) g = st at *
    obtain ⟨gs1, m1, n1⟩ := st
    simp only at j1 e1 s1
    obtain ⟨j2, e2, s2⟩ := ih _ m1 n1 gs1 j1
    generalize rest.foldl gateStep (gs1, m1, n1) = fin at *
    refine ⟨by simpa [wiresOf] using j2, ?_, ?_⟩
    · rw [e2, e1]
      simp only [List.map_cons, List.append_assoc, List.singleton_append]
      congr 2
      unfold relabel
      rw [s2 g.a (by simp), s2 g.b (by simp), s2 g.c (by simp), s2 g.d (by simp)]
    · intro u hu
      rw [s2 u (by simp [hu]), s1 u hu]

end Plonk.CompressModel
