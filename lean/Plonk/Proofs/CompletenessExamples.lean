/-
  C01 (completeness) — concrete instances for the non-vacuity examples of
  `Plonk/Props/C01Complete.lean`.

  `cLay / cP`, with a NON-TRIVIAL permutation: two addition rows `a + b + c = 0` wired to the SAME
  four witnesses `(1, 2, −3, 0)`, so that `σ` swaps the two rows column by column; domain `{1, −1}`;
  constant wire polynomials, sigma polynomials `σ_col = −K_col·X`.  The accumulator is not constant
  (`z₁ = num₀ / den₀`), it is obtained from `accumulator_exists_core`.

  For the verifier side: the polynomials `exP2` of the soundness instance (two addition rows,
  numerator identically zero for every `ω`, quotient `T = 0`), a domain of `Domain.new? 2`, the
  challenge point `z = 5`, verifier keys / proofs whose points are interpreted (`vIota`, `aIota`) as
  the polynomials of `exP2`, the generator as `1`, and the two opening witnesses as the honest
  quotients.
-/
import Plonk.Proofs.CompletenessProver
import Plonk.Proofs.CompletenessVerifier
import Plonk.Proofs.SoundnessInstance
import Plonk.Proofs.DomainPi

namespace Plonk.Complete
open Polynomial Plonk Plonk.Quot Plonk.Perm Plonk.Sound

/-- the layout: two addition rows on the same four witnesses -/
def cLay : Composer :=
  { gates := #[{ ql := 1, qr := 1, qo := 1, qarith := 1, a := 0, b := 1, c := 2, d := 3 },
               { ql := 1, qr := 1, qo := 1, qarith := 1, a := 0, b := 1, c := 2, d := 3 }],
    wit := #[1, 2, R - 3, 0] }

/-- constant selectors and wires, `σ_col = −K_col·X`, accumulator left open (`0` here) -/
noncomputable def cP : ProverPolys F :=
  { Q := ⟨0, C 1, C 1, C 1, 0, 0, C 1, 0, 0, 0, 0⟩
    a := C (toF 1), b := C (toF 2), c := C (toF (R - 3)), d := C (toF 0), pi := 0
    s1 := C (-1) * X, s2 := C (-(Generated.K1 : F)) * X, s3 := C (-(Generated.K2 : F)) * X,
    s4 := C (-(Generated.K3 : F)) * X, z := 0 }

theorem cLay_sigma_active (c i : Nat) (hc : c < 4) (hi : i < 2) : sigmaFn cLay (c, i) = (c, 1 - i) := by
  interval_cases i <;> interval_cases c <;> decide +kernel

theorem cLay_sigma_col (p : Pos) : (sigmaFn cLay p).1 = p.1 := by
  by_cases ha : Active cLay p
  · obtain ⟨⟨h1, h2⟩, -⟩ := ha
    obtain ⟨c, i⟩ := p
    rw [cLay_sigma_active c i h1 h2]
  · rw [sigmaFn_of_not_active ha]

theorem cLay_gateAt (i : Nat) (hi : i < 2) :
    Quot.selF (cLay.gateAt i) = ⟨0, 1, 1, 1, 0, 0, 1, 0, 0, 0, 0⟩ := by
  interval_cases i <;> simp [Quot.selF, Composer.gateAt, cLay]

theorem cLay_piAt (i : Nat) : cLay.piAt i = 0 := by
  simp [Composer.piAt, cLay]

/-- `σ_col = −K·X` at `(−1)^i` is the label `K·(−1)^(1−i)` of the other row -/
theorem cP_sigma_eval (K : Nat) (i : Nat) (hi : i < 2) :
    (C (-(toF K)) * X : F[X]).eval ((-1) ^ i) = toF K * (-1) ^ (1 - i) := by
  interval_cases i <;> simp only [eval_mul, eval_C, eval_X, pow_zero, pow_one, Nat.sub_zero,
    Nat.sub_self, mul_one, mul_neg, neg_neg]

theorem cKey : KeyInterp (-1) 2 cLay cP where
  sel := fun i hi => by
    rw [cLay_gateAt i hi]
    simp only [Sel.map, cP, eval_zero, eval_C]
  pi := fun i _ => by rw [cLay_piAt]; simp only [cP, eval_zero, toF_zero]
  s1 := fun i hi => by
    rw [cLay_sigma_active 0 i (by omega) hi]
    exact cP_sigma_eval 1 i hi
  s2 := fun i hi => by
    rw [cLay_sigma_active 1 i (by omega) hi]
    exact cP_sigma_eval _ i hi
  s3 := fun i hi => by
    rw [cLay_sigma_active 2 i (by omega) hi]
    exact cP_sigma_eval _ i hi
  s4 := fun i hi => by
    rw [cLay_sigma_active 3 i (by omega) hi]
    exact cP_sigma_eval _ i hi

theorem three_lt_R : 3 < R := by have := ten_lt_R; omega

/-- the wire value of a column -/
def cVal (col : Nat) : Nat := match col with | 0 => 1 | 1 => 2 | 2 => R - 3 | _ => 0

theorem cVal_lt (col : Nat) : cVal col < R := by
  have := three_lt_R
  unfold cVal
  split <;> omega

/-- the wire values of the instance depend on the column only -/
theorem cP_wireVal (p : Pos) : wireVal (-1) cP p = toF (cVal p.1) := by
  obtain ⟨c, i⟩ := p
  match c with
  | 0 => simp only [wireVal, wireP, cP, cVal, eval_C]
  | 1 => simp only [wireVal, wireP, cP, cVal, eval_C]
  | 2 => simp only [wireVal, wireP, cP, cVal, eval_C]
  | (c + 3) => simp only [wireVal, wireP, cP, cVal, eval_C]

theorem cP_wireNat (col i : Nat) : wireNat (-1) cP col i = cVal col := by
  unfold wireNat
  rw [cP_wireVal]
  exact val_toF_of_lt (cVal_lt _)

/-- every row of the instance holds -/
theorem cRows : ∀ i < 2, rowOKP (-1) 2 cLay cP i := by
  intro i hi
  unfold rowOKP
  simp only [cP_wireNat]
  interval_cases i <;> decide +kernel

/-- the wire values respect `σ` (which swaps the two rows) -/
theorem cRespects : ∀ p, wireVal (-1) cP (sigmaFn cLay p) = wireVal (-1) cP p := by
  intro p
  rw [cP_wireVal, cP_wireVal, cLay_sigma_col]

theorem cConst : ∀ p q, SameClass cLay p q → wireVal (-1) cP p = wireVal (-1) cP q :=
  (respects_iff_const cLay (wireVal (-1) cP)).mp cRespects

/-- `σ` is not the identity: the instance has genuine copy constraints -/
theorem cLay_sigma_nontrivial : sigmaFn cLay (0, 0) = (0, 1) := cLay_sigma_active 0 0 (by omega) (by omega)

/-- a good `γ` exists for every `β` -/
theorem c_good_gamma (β : F) : ∃ γ, γ ∉ denBadM (-1) 2 cLay cP β := by
  apply exists_notMem_of_card_lt
  have := denBadM_card_le (-1) 2 cLay cP β
  have := ten_lt_R
  omega

theorem cStruct : 0 < 2 ∧ IsPrimitiveRoot (-1 : F) 2 ∧ cLay.gates.size ≤ 2 :=
  ⟨by omega, neg_one_primitive, by decide⟩

/-- degrees of the instance with an accumulator of degree `< 2`: the honest profile
    `PolysDeg2 _ (n + 1) (n + 2)` for `n = 2` -/
theorem cDeg (Z : F[X]) (hZ : Z.degree < (2 : ℕ)) : PolysDeg2 (withZ cP Z) (2 + 1) (2 + 2) := by
  have hlin (a : F) : (C a * X : F[X]).natDegree ≤ 2 + 1 :=
    (natDegree_C_mul_le _ _).trans (by rw [natDegree_X]; omega)
  have hz : Z.natDegree ≤ 2 + 2 := by
    by_cases h0 : Z = 0
    · rw [h0]; simp
    · have := (natDegree_lt_iff_degree_lt h0).mpr hZ
      omega
  have hc (a : F) : (C a : F[X]).natDegree ≤ 2 + 1 := by rw [natDegree_C]; omega
  have h0 : (0 : F[X]).natDegree ≤ 2 + 1 := by rw [natDegree_zero]; omega
  exact ⟨⟨h0, hc _, hc _, hc _, h0, h0, hc _, h0, h0, h0, h0⟩, hc _, hc _, hc _, hc _, h0, hlin _,
    hlin _, hlin _, hlin _, hz⟩

/-! ### an instance for the verifier side: the polynomials `exP2` of the soundness instance
    (numerator identically zero, quotient `T = 0`), with an interpretation of the commitments -/

/-- verifier key: selectors `q_l, q_r, q_o` (and `q_arith`) committed to `1`, `σ₄` to `K₃·X`,
    everything else to `0` -/
def vKey : VKey :=
  { n := 2, qm := .inf, ql := .aff 1 0, qr := .aff 1 0, qo := .aff 1 0, qf := .inf, qc := .inf,
    qarith := .aff 1 0, qlogic := .inf, qrange := .inf, qfixed := .inf, qvar := .inf,
    s1 := .aff 2 0, s2 := .aff 2 0, s3 := .aff 2 0, s4 := .aff 2 0 }

/-- the evaluations of `exP2` at `z = 5` and `ωz = −5` -/
def vEv : Evals :=
  { a := 1, b := 2, c := R - 3, d := 0, aw := 1, bw := 2, dw := 0, qarith := 1, qc := 0, ql := 1, qr := 1,
    s1 := 5, s2 := Generated.K1 * 5, s3 := Generated.K2 * 5, z := 1 }

/-- a proof: accumulator committed to `1`, quotient shares to `0` -/
def vProof : ProofM :=
  { aC := .inf, bC := .inf, cC := .inf, dC := .inf, zC := .aff 1 0, tLow := .inf, tMid := .inf,
    tHigh := .inf, tFourth := .inf, wz := .inf, wzw := .inf, ev := vEv }

/-- the interpretation of the commitments as polynomials -/
noncomputable def vIota (c : G1) : F[X] :=
  if c = .inf then 0 else if c = .aff 1 0 then C 1 else C (Generated.K3 : F) * X

theorem v_agmRep : AgmRep vIota vKey vProof exP2 :=
  ⟨rfl, rfl, rfl, rfl, rfl, rfl, rfl, rfl, rfl, rfl, rfl, rfl⟩

theorem toF_R_sub_three : toF (R - 3) = -3 := by
  have h : 3 ≤ R := by have := three_lt_R; omega
  unfold toF
  rw [Nat.cast_sub h, ZMod.natCast_self]
  simp

/-- the evaluations `vEv` are the true evaluations of `exP2` at `5` and `ω·5`; `ω` does not matter,
    only constant polynomials are opened at `ω·5` -/
theorem a_trueEvals (ω : F) : TrueEvals ω (toF 5) vEv exP2 := by
  have k (n : Nat) : toF n = (n : F) := rfl
  constructor <;>
    simp only [vEv, exP2, toF_R_sub_three, eval_C, eval_X, eval_mul, eval_zero] <;>
    simp only [k, Nat.cast_mul, Nat.cast_ofNat, Nat.cast_one, Nat.cast_zero]

theorem v_trueEvals : TrueEvals (-1) (toF 5) vEv exP2 := a_trueEvals (-1)

theorem v_quotient : quotientOf vIota vProof 2 = 0 := by
  simp [quotientOf, vIota, vProof]

theorem v_numerator (β γ α : F) (s : Seps F) :
    NumP (-1) 2 exP2 ⟨β, γ, α⟩ s = 0 * (X ^ 2 - 1) := by
  rw [zero_mul]
  exact ex_NumP_zero β γ α s

theorem v_side : toF 24 = toF 5 ^ 2 - 1 ∧ toF 3 = (L1P 2).eval (toF 5) ∧
    toF 0 = exP2.pi.eval (toF 5) := by
  obtain ⟨h1, h2, -⟩ := ex_verifier_side
  exact ⟨h1, h2, by simp [exP2]⟩

theorem c_val_lt : ∀ x, cLay.val x < R := by
  intro x
  have h3 := three_lt_R
  unfold Composer.val cLay
  rw [Array.getD_eq_getD_getElem?]
  rcases x with _ | _ | _ | _ | x
  · show 1 < R; omega
  · show 2 < R; omega
  · show R - 3 < R; omega
  · show 0 < R; omega
  · have : (#[1, 2, R - 3, 0] : Array Nat)[x + 4]? = none := by simp
    rw [this]; exact R_pos

theorem cLay_rowVals (i : Nat) (hi : i < 2) : cLay.rowVals i = ⟨1, 2, R - 3, 0⟩ := by
  interval_cases i <;> rfl

theorem cWire : WireInterp (-1) 2 cLay cP where
  a := fun i hi => by rw [cLay_rowVals i hi]; simp only [cP, eval_C]
  b := fun i hi => by rw [cLay_rowVals i hi]; simp only [cP, eval_C]
  c := fun i hi => by rw [cLay_rowVals i hi]; simp only [cP, eval_C]
  d := fun i hi => by rw [cLay_rowVals i hi]; simp only [cP, eval_C]

open Plonk.KzgMath (agg)

def aKey : VKey :=
  { n := 2, qm := .inf, ql := .aff 1 0, qr := .aff 1 0, qo := .aff 1 0, qf := .inf, qc := .inf,
    qarith := .aff 1 0, qlogic := .inf, qrange := .inf, qfixed := .inf, qvar := .inf,
    s1 := .aff 4 0, s2 := .aff 5 0, s3 := .aff 6 0, s4 := .aff 7 0 }

def aProof : ProofM :=
  { aC := .aff 1 0, bC := .aff 2 0, cC := .aff 3 0, dC := .inf, zC := .aff 1 0, tLow := .inf,
    tMid := .inf, tHigh := .inf, tFourth := .inf, wz := .aff 8 0, wzw := .aff 9 0, ev := vEv }

/-- the interpretation: nine distinct points, the two opening witnesses as parameters -/
noncomputable def aIota (W W' : F[X]) (c : G1) : F[X] :=
  match c with
  | .inf => 0
  | .aff 1 _ => C 1
  | .aff 2 _ => C 2
  | .aff 3 _ => C (-3)
  | .aff 4 _ => X
  | .aff 5 _ => C (Generated.K1 : F) * X
  | .aff 6 _ => C (Generated.K2 : F) * X
  | .aff 7 _ => C (Generated.K3 : F) * X
  | .aff 8 _ => W
  | .aff 9 _ => W'
  | .aff _ _ => 0

theorem a_agmRep (W W' : F[X]) : AgmRep (aIota W W') aKey aProof exP2 :=
  ⟨rfl, rfl, rfl, rfl, rfl, rfl, rfl, rfl, rfl, rfl, rfl, rfl⟩

theorem a_quotient (W W' : F[X]) : quotientOf (aIota W W') aProof 2 = 0 := by
  simp only [quotientOf, aIota, aProof, mul_zero, add_zero]

/-- the linearisation polynomial does not involve the opening witnesses -/
theorem a_linPoly (W W' : F[X]) (ch : Challenges) (zh l1 : Nat) :
    linPoly (aIota W W') aKey aProof ch zh l1 = linPoly (aIota 0 0) aKey aProof ch zh l1 := by
  simp only [linPoly, linearizationTerms, aProof, aKey, List.cons_append, List.nil_append,
    evalTerms_cons, evalTerms_nil, aIota]

theorem a_openRep (cnt : ℕ) (ω : F) (ch : Challenges) (zh l1 : Nat) :
    ∃ W W' : F[X], OpenRep (aIota W W') aKey (.aff 1 0) aProof exP2
      (agg (toF ch.v) cnt (openPolys (linPoly (aIota W W') aKey aProof ch zh l1) exP2 0) /ₘ
        (X - C (toF ch.z)))
      (agg (toF ch.vw) 4 (openPolys (linPoly (aIota W W') aKey aProof ch zh l1) exP2 1) /ₘ
        (X - C (ω * toF ch.z))) := by
  obtain ⟨W, hW⟩ : ∃ W : F[X], W =
      agg (toF ch.v) cnt (openPolys (linPoly (aIota 0 0) aKey aProof ch zh l1) exP2 0) /ₘ
        (X - C (toF ch.z)) := ⟨_, rfl⟩
  obtain ⟨W', hW'⟩ : ∃ W' : F[X], W' =
      agg (toF ch.vw) 4 (openPolys (linPoly (aIota 0 0) aKey aProof ch zh l1) exP2 1) /ₘ
        (X - C (ω * toF ch.z)) := ⟨_, rfl⟩
  refine ⟨W, W', ?_⟩
  rw [a_linPoly W W', ← hW, ← hW']
  exact ⟨rfl, rfl, rfl, rfl, rfl, rfl, rfl, rfl, map_one C, rfl, rfl⟩

/-- **non-vacuity of `verify_msm_zero`**: a domain, a challenge point and an
    interpretation for which every hypothesis holds (`cnt` polynomials opened at `z`) -/
theorem a_hyps_gen (legacy : Bool) (cnt : ℕ) :
    ∃ (d : Domain) (l1 piEval : Nat) (right left : List (Nat × G1)) (W W' : F[X]),
    let ch : Challenges := { (default : Challenges) with z := 5 }
    d.lagrangeAndPi [] [] ch.z = some (l1, piEval) ∧
    verifyTerms aKey (.aff 1 0) d [] [] aProof ch legacy = some (right, left) ∧
    AgmRep (aIota W W') aKey aProof exP2 ∧
    TrueEvals (toF d.groupGen) (toF ch.z) aProof.ev exP2 ∧
    toF (d.evaluateVanishing ch.z) = toF ch.z ^ 2 - 1 ∧
    toF l1 = (L1P 2).eval (toF ch.z) ∧ toF piEval = exP2.pi.eval (toF ch.z) ∧
    quotientOf (aIota W W') aProof 2 = 0 ∧
    NumP (toF d.groupGen) 2 exP2 ⟨toF ch.beta, toF ch.gamma, toF ch.alpha⟩
      ⟨toF ch.rangeSep, toF ch.logicSep, toF ch.fixedSep, toF ch.varSep⟩ = 0 * (X ^ 2 - 1) ∧
    OpenRep (aIota W W') aKey (.aff 1 0) aProof exP2
      (agg (toF ch.v) cnt (openPolys (linPoly (aIota W W') aKey aProof ch
        (d.evaluateVanishing ch.z) l1) exP2 0) /ₘ (X - C (toF ch.z)))
      (agg (toF ch.vw) 4 (openPolys (linPoly (aIota W W') aKey aProof ch
        (d.evaluateVanishing ch.z) l1) exP2 1) /ₘ (X - C (toF d.groupGen * toF ch.z))) := by
  obtain ⟨d, hd, hs⟩ := exists_domain_two
  have ok := PolyC19.domainOK_of_new? 2 d hd
  have hz1 : toF 5 ≠ 1 := by
    have h10 := ten_lt_R
    rw [← toF_one, Ne, toF_inj_of_lt (by omega) (by omega)]
    decide
  have hsome : d.lagrangeAndPi [] [] 5 ≠ none := by
    rw [Ne, PolyC19.lagrangeAndPi_eq_none_iff ok]
    rintro (h | ⟨re, hre, -⟩)
    · exact hz1 h
    · simp at hre
  obtain ⟨⟨l1, piEval⟩, hlp⟩ := Option.ne_none_iff_exists'.mp hsome
  obtain ⟨hl1, hpi, -, -⟩ := PolyC19.lagrangeAndPi_some ok [] [] 5 l1 piEval hlp
  obtain ⟨right, left, _, hc, -⟩ := verifyTerms_some_of_lagrange aKey (.aff 1 0) d [] [] aProof
    { (default : Challenges) with z := 5 } legacy hsome
  obtain ⟨W, W', hO⟩ := a_openRep cnt (toF d.groupGen) { (default : Challenges) with z := 5 }
    (d.evaluateVanishing 5) l1
  refine ⟨d, l1, piEval, right, left, W, W', hlp, hc, a_agmRep W W', a_trueEvals _, ?_, ?_, ?_,
    a_quotient W W', ?_, hO⟩
  · rw [toF_evaluateVanishing ok.size_lt, hs]
  · rw [hl1, hs, lagrangeF_zero_eq_L1P 2 _ hz1]
  · rw [hpi]; simp [exP2]
  · rw [zero_mul]; exact ex_NumP_zero _ _ _ _

def qSel : Array Poly := #[[], [1], [1], [1], [], [], [1], [], [], [], []]
def qSigma : Array Poly := #[[0, 1], [0, Generated.K1], [0, Generated.K2], [0, Generated.K3]]

theorem q_polys : polysOf qSel qSigma [1] [2] [R - 3] [] [1] [] = exP2 := by
  unfold polysOf exP2
  simp only [qSel, qSigma, Array.getD_eq_getD_getElem?, List.size_toArray, List.length_cons,
    List.length_nil, zero_add, Nat.reduceAdd, Nat.ofNat_pos, getElem?_pos, List.getElem_toArray,
    List.getElem_cons_zero, Option.getD_some, toPoly_nil, Nat.one_lt_ofNat, List.getElem_cons_succ,
    toPoly_cons, toF_one, map_one, mul_zero, add_zero, Nat.reduceLT, Nat.lt_add_one, toF_two,
    toF_R_sub_three, map_neg, toF_zero, map_zero, mul_one, X_mul_C, map_natCast,
    ProverPolys.mk.injEq, mul_eq_mul_right_iff, X_ne_zero, or_false, and_true, true_and]
  refine ⟨?_, ?_, ?_⟩ <;> simp only [toF, map_natCast]

theorem q_numerator (ω : F) (n : ℕ) (β γ α : F) (s : Seps F) :
    NumP ω n (polysOf qSel qSigma [1] [2] [R - 3] [] [1] []) ⟨β, γ, α⟩ s = 0 * (X ^ n - 1) := by
  rw [q_polys, zero_mul]
  exact ex_NumP_zero β γ α s

theorem q_domains : ∃ d d8, Domain.new? 2 = some d ∧ Domain.new? (8 * d.size) = some d8 ∧
    2 ≤ d.size := by
  obtain ⟨d, hd, hs⟩ := exists_domain_two
  have h : (Domain.new? 16).isSome = true := by decide +kernel
  obtain ⟨d8, hd8⟩ := Option.isSome_iff_exists.mp h
  exact ⟨d, d8, hd, by rw [hs]; exact hd8, by omega⟩

theorem q_sel_len (j : Nat) : (qSel.getD j []).length ≤ 2 := by
  by_cases h : j < 11
  · interval_cases j <;> decide
  · have : qSel.getD j [] = [] := by
      rw [Array.getD_eq_getD_getElem?, Array.getElem?_eq_none (by simp [qSel]; omega)]; rfl
    rw [this]; simp

theorem q_sigma_len (j : Nat) : (qSigma.getD j []).length ≤ 2 := by
  by_cases h : j < 4
  · interval_cases j <;> decide
  · have : qSigma.getD j [] = [] := by
      rw [Array.getD_eq_getD_getElem?, Array.getElem?_eq_none (by simp [qSigma]; omega)]; rfl
    rw [this]; simp

/-- the sigma values `compile` interpolates: `K_{σ.col}·root_{σ.row}` -/
def mSig (d : Domain) (lay : Composer) : List (List Nat) :=
  (List.range 4).map fun col => (List.range d.size).map fun i =>
    fmul (kOf (sigmaFn lay (col, i)).1) (d.elements.getD (sigmaFn lay (col, i)).2 0)

theorem mSig_getD (d : Domain) (lay : Composer) (col : Nat) (hc : col < 4) :
    (mSig d lay).getD col [] = (List.range d.size).map fun i =>
      fmul (kOf (sigmaFn lay (col, i)).1) (d.elements.getD (sigmaFn lay (col, i)).2 0) := by
  simp [mSig, List.getD_eq_getElem?_getD, hc]

theorem mSig_length (d : Domain) (lay : Composer) : ∀ j < 4, ((mSig d lay).getD j []).length = d.size := by
  intro j hj
  rw [mSig_getD d lay j hj]; simp

theorem mSig_label (d : Domain) (lay : Composer) (hn : lay.gates.size ≤ d.size) :
    ∀ col < 4, ∀ i < d.size,
      toF (((mSig d lay).getD col []).getD i 0) = idLabel (toF d.groupGen) (sigmaFn lay (col, i)) := by
  intro col hc i hi
  rw [mSig_getD d lay col hc, getD_map_range _ _ _ hi]
  exact toF_label _ d.elements.toArray.toList.toArray _ (by
    have h2 := (sigmaFn_mem_pos lay d.size hn (col, i) hc hi).2
    simpa using elements_roots d _ h2) |> fun h => by simpa using h

/-- **non-vacuity of `completeness_model_polys`**: for the layout `cLay` (`σ ≠ id`) on a domain of
    `Domain.new? 2`, with `β = 1` and a suitable `γ`, the model's `permVec` returns a vector and all
    structural hypotheses hold -/
theorem m_hyps : ∃ (d : Domain) (gamma : Nat) (z : List Nat), Domain.new? 2 = some d ∧
    cLay.gates.size ≤ d.size ∧ (∀ x, cLay.val x < R) ∧
    (∀ i < d.size, rowHolds (cLay.gateAt i) (cLay.rowVals i).a (cLay.rowVals i).b
      (cLay.rowVals i).c (cLay.rowVals i).d (cLay.rowVals ((i + 1) % d.size)).a
      (cLay.rowVals ((i + 1) % d.size)).b (cLay.rowVals ((i + 1) % d.size)).d (cLay.piAt i) = true) ∧
    ([0, 0] : List Nat).length = d.size ∧
    (∀ i < d.size, toF (([0, 0] : List Nat).getD i 0) = toF (cLay.piAt i)) ∧
    (∀ j < 4, ((mSig d cLay).getD j []).length = d.size) ∧
    (∀ col < 4, ∀ i < d.size, toF (((mSig d cLay).getD col []).getD i 0) =
      idLabel (toF d.groupGen) (sigmaFn cLay (col, i))) ∧
    permVec d.size d.elements (tableCol d.size cLay (·.a)) (tableCol d.size cLay (·.b))
      (tableCol d.size cLay (·.c)) (tableCol d.size cLay (·.d)) (mSig d cLay) 1 gamma = some z := by
  obtain ⟨d, hd, hs⟩ := exists_domain_two
  have hw := Domain.new?_WF 2 d hd
  have hn : cLay.gates.size ≤ d.size := by rw [hs]; decide
  have hpi : ∀ i < d.size, toF (([0, 0] : List Nat).getD i 0) = toF (cLay.piAt i) := by
    intro i hi
    rw [cLay_piAt]
    rw [hs] at hi
    interval_cases i <;> rfl
  -- key polynomials with a dummy accumulator, to name the bad set of `γ`
  obtain ⟨P0, hI0⟩ : ∃ P0, Interpolates (toF d.groupGen) d.size P0 cLay.gateAt d.elements
      (tableCol d.size cLay (·.a)) (tableCol d.size cLay (·.b)) (tableCol d.size cLay (·.c))
      (tableCol d.size cLay (·.d)) [0, 0] (mSig d cLay) (List.replicate d.size 0) :=
    ⟨_, modelPolys_interpolates hw cLay.gateAt d.elements _ _ _ _ [0, 0] (mSig d cLay) _ [] [] [] []
      [] (elements_roots d) (tableCol_length _ _ _) (tableCol_length _ _ _) (tableCol_length _ _ _)
      (tableCol_length _ _ _) (by rw [hs]; rfl) (by simp) (mSig_length d cLay)⟩
  have I0 := keyInterp_of_interpolates (lay := cLay) hI0 (fun _ _ => rfl) hpi (mSig_label d cLay hn)
  obtain ⟨γ, hγ⟩ := exists_notMem_of_card_lt (denBadM (toF d.groupGen) d.size cLay P0 (toF 1)) (by
    have := denBadM_card_le (toF d.groupGen) d.size cLay P0 (toF 1)
    have h10 := ten_lt_R
    have h4 : 4 * d.size = 8 := by rw [hs]
    omega)
  obtain ⟨z, hz⟩ := (permVec_some_iff hI0 I0 1 γ.val).mpr (by rw [toF_val]; exact hγ)
  refine ⟨d, γ.val, z, hd, hn, c_val_lt, ?_, by rw [hs]; rfl, hpi, mSig_length d cLay,
    mSig_label d cLay hn, hz⟩
  rw [hs]
  have := sysSat_rows cLay (by decide +kernel)
  rwa [show cLay.paddedSize = 2 by decide +kernel] at this

end Plonk.Complete
