/-
  C19 (FFT half), math level: the discrete Fourier transform over a field `K` with a primitive
  `n`-th root of unity `ω`: orthogonality, inversion, evaluation/interpolation of polynomials on
  the subgroup `⟨ω⟩` and on a coset `g·⟨ω⟩`, reduction modulo `X^n − 1`, and the radix-2 splitting
  identities used by the recursion and by the iterative transform.
-/
import Mathlib.RingTheory.RootsOfUnity.PrimitiveRoots
import Mathlib.Algebra.Polynomial.Div
import Mathlib.Algebra.Polynomial.Eval.Degree
import Mathlib.Tactic.Ring
import Mathlib.Tactic.FieldSimp
import Mathlib.Tactic.LinearCombination

namespace Plonk.FftMath
open Finset Polynomial

variable {K : Type*} [Field K]

/-! ### definitions -/

/-- DFT of an `ℕ`-indexed sequence, `n` terms (working form: `range` sums) -/
def dftN (ω : K) (n : ℕ) (v : ℕ → K) (i : ℕ) : K := ∑ j ∈ range n, v j * ω ^ (i * j)

/-- DFT of a vector indexed by `Fin n`: `dftF ω v i = Σ_j v j · ω^(i·j)` -/
def dftF {n : ℕ} (ω : K) (v : Fin n → K) (i : Fin n) : K :=
  ∑ j : Fin n, v j * ω ^ ((i : ℕ) * (j : ℕ))

/-- inverse DFT: `(1/n) · dftF ω⁻¹` -/
def idftF {n : ℕ} (ω : K) (v : Fin n → K) (i : Fin n) : K := (n : K)⁻¹ * dftF ω⁻¹ v i

/-- the polynomial with coefficient vector `v` -/
noncomputable def polyF {n : ℕ} (v : Fin n → K) : K[X] := ∑ j : Fin n, C (v j) * X ^ (j : ℕ)

/-- the polynomial with coefficients `v 0, …, v (n-1)` -/
noncomputable def polyN (n : ℕ) (v : ℕ → K) : K[X] := ∑ j ∈ range n, C (v j) * X ^ j

theorem dftF_eq_dftN {n : ℕ} (ω : K) (v : ℕ → K) (i : Fin n) :
    dftF ω (fun j : Fin n => v j) i = dftN ω n v i := by
  unfold dftF dftN
  exact Fin.sum_univ_eq_sum_range (fun j => v j * ω ^ ((i : ℕ) * j)) n

theorem polyF_eq_polyN {n : ℕ} (v : ℕ → K) : polyF (fun j : Fin n => v j) = polyN n v := by
  unfold polyF polyN
  exact Fin.sum_univ_eq_sum_range (fun j => C (v j) * X ^ j) n

/-- the powers of an element of the group of `n`-th roots of unity stay in it -/
theorem pow_pow_eq_one {ω : K} {n : ℕ} (h : ω ^ n = 1) (i : ℕ) : (ω ^ i) ^ n = 1 := by
  rw [← pow_mul, mul_comm, pow_mul, h, one_pow]

theorem pow_mod_of_pow_eq_one {ζ : K} {n : ℕ} (h : ζ ^ n = 1) (i : ℕ) : ζ ^ (i % n) = ζ ^ i := by
  conv_rhs => rw [← Nat.mod_add_div i n, pow_add, pow_mul, h, one_pow, mul_one]

theorem natCast_ne_zero_of_primitive {ω : K} {n : ℕ} (hn : 0 < n) (h : IsPrimitiveRoot ω n) :
    (n : K) ≠ 0 :=
  have : NeZero n := ⟨hn.ne'⟩
  h.neZero'.out

/-! ### orthogonality -/

theorem geom_sum_eq_zero_of_pow_eq_one {ζ : K} {n : ℕ} (h1 : ζ ≠ 1) (hn : ζ ^ n = 1) :
    ∑ j ∈ range n, ζ ^ j = 0 := by
  have h := geom_sum_mul ζ n
  rw [hn, sub_self] at h
  rcases mul_eq_zero.mp h with h | h
  · exact h
  · exact absurd (sub_eq_zero.mp h) h1

/-- orthogonality of the characters `j ↦ ω^(i·j)` -/
theorem orthogonality {ω : K} {n : ℕ} (h : IsPrimitiveRoot ω n) {i i' : ℕ} (hi : i < n)
    (hi' : i' < n) :
    ∑ j ∈ range n, ω ^ (i * j) * ω⁻¹ ^ (i' * j) = if i = i' then (n : K) else 0 := by
  have hω : ω ≠ 0 := h.ne_zero (Nat.ne_zero_of_lt hi)
  have hterm : ∀ j, ω ^ (i * j) * ω⁻¹ ^ (i' * j) = (ω ^ i * (ω ^ i')⁻¹) ^ j := by
    intro j; rw [pow_mul, pow_mul, inv_pow, ← mul_pow]
  simp only [hterm]
  split
  · next heq =>
    subst heq
    rw [mul_inv_cancel₀ (pow_ne_zero _ hω)]
    simp only [one_pow, sum_const, card_range, nsmul_eq_mul, mul_one]
  · next hne =>
    apply geom_sum_eq_zero_of_pow_eq_one
    · intro hz
      exact hne (h.pow_inj hi hi' ((mul_inv_eq_one₀ (pow_ne_zero i' hω)).mp hz))
    · rw [mul_pow, inv_pow, ← pow_mul, ← pow_mul, mul_comm i, mul_comm i', pow_mul, pow_mul,
        h.pow_eq_one]; simp

/-- orthogonality, integer-exponent form: `Σ_j ω^(j·(i−i')) = n` if `i = i'`, else `0` -/
theorem orthogonality_zpow {ω : K} {n : ℕ} (h : IsPrimitiveRoot ω n) {i i' : ℕ} (hi : i < n)
    (hi' : i' < n) :
    ∑ j ∈ range n, ω ^ ((j : ℤ) * ((i : ℤ) - (i' : ℤ))) = if i = i' then (n : K) else 0 := by
  rw [← orthogonality h hi hi']
  have hω : ω ≠ 0 := h.ne_zero (Nat.ne_zero_of_lt hi)
  apply sum_congr rfl
  intro j _
  rw [mul_sub, zpow_sub₀ hω, div_eq_mul_inv, inv_pow, ← zpow_natCast, ← zpow_natCast]
  push_cast
  rw [mul_comm (j : ℤ) i, mul_comm (j : ℤ) i']

theorem orthogonality_fin {ω : K} {n : ℕ} (h : IsPrimitiveRoot ω n) (i i' : Fin n) :
    ∑ j : Fin n, ω ^ ((i : ℕ) * (j : ℕ)) * ω⁻¹ ^ ((i' : ℕ) * (j : ℕ))
      = if i = i' then (n : K) else 0 := by
  rw [Fin.sum_univ_eq_sum_range (fun j => ω ^ ((i : ℕ) * j) * ω⁻¹ ^ ((i' : ℕ) * j)) n,
    orthogonality h i.2 i'.2]
  simp [Fin.ext_iff]

/-! ### inversion -/

/-- `dftF ω⁻¹ ∘ dftF ω = n ·` -/
theorem dftF_inv_dftF {ω : K} {n : ℕ} (h : IsPrimitiveRoot ω n) (v : Fin n → K) (i : Fin n) :
    dftF ω⁻¹ (dftF ω v) i = (n : K) * v i := by
  unfold dftF
  simp only [sum_mul]
  rw [sum_comm]
  have : ∀ l : Fin n, ∑ j : Fin n, v l * ω ^ ((j : ℕ) * (l : ℕ)) * ω⁻¹ ^ ((i : ℕ) * (j : ℕ))
      = v l * (if l = i then (n : K) else 0) := by
    intro l
    rw [← orthogonality_fin h l i, mul_sum]
    apply sum_congr rfl; intro j _
    rw [mul_comm (j : ℕ) (l : ℕ)]; ring
  simp only [this, mul_ite, mul_zero, sum_ite_eq', mem_univ, if_true]
  exact mul_comm _ _

theorem idft_dft {ω : K} {n : ℕ} (h : IsPrimitiveRoot ω n) (hn : (n : K) ≠ 0) (v : Fin n → K) :
    idftF ω (dftF ω v) = v := by
  funext i
  unfold idftF
  rw [dftF_inv_dftF h, ← mul_assoc, inv_mul_cancel₀ hn, one_mul]

theorem dftF_smul {n : ℕ} (ω c : K) (v : Fin n → K) (i : Fin n) :
    dftF ω (fun j => c * v j) i = c * dftF ω v i := by
  unfold dftF; rw [mul_sum]; apply sum_congr rfl; intro j _; ring

theorem dft_idft {ω : K} {n : ℕ} (h : IsPrimitiveRoot ω n) (hn : (n : K) ≠ 0) (v : Fin n → K) :
    dftF ω (idftF ω v) = v := by
  funext i
  have h2 : dftF ω (idftF ω v) i = (n : K)⁻¹ * dftF ω (dftF ω⁻¹ v) i := by
    unfold idftF; exact dftF_smul ω _ _ i
  have h3 := dftF_inv_dftF h.inv v i
  rw [inv_inv] at h3
  rw [h2, h3, ← mul_assoc, inv_mul_cancel₀ hn, one_mul]

/-! ### evaluation and interpolation -/

/-- the DFT is evaluation of the coefficient polynomial on the subgroup -/
theorem dftF_eq_eval {n : ℕ} (ω : K) (v : Fin n → K) (i : Fin n) :
    dftF ω v i = (polyF v).eval (ω ^ (i : ℕ)) := by
  unfold dftF polyF
  rw [eval_finsetSum]
  apply sum_congr rfl; intro j _
  rw [eval_mul, eval_C, eval_pow, eval_X, pow_mul]

theorem dftN_eq_eval (ω : K) (n : ℕ) (v : ℕ → K) (i : ℕ) :
    dftN ω n v i = (polyN n v).eval (ω ^ i) := by
  unfold dftN polyN
  rw [eval_finsetSum]
  apply sum_congr rfl; intro j _
  rw [eval_mul, eval_C, eval_pow, eval_X, pow_mul]

/-- the inverse DFT is interpolation: it recovers the coefficients from the values on the
    subgroup -/
theorem idftF_eval {ω : K} {n : ℕ} (h : IsPrimitiveRoot ω n) (hn : (n : K) ≠ 0)
    (v : Fin n → K) : idftF ω (fun i => (polyF v).eval (ω ^ (i : ℕ))) = v := by
  have : (fun i : Fin n => (polyF v).eval (ω ^ (i : ℕ))) = dftF ω v := by
    funext i; rw [dftF_eq_eval]
  rw [this, idft_dft h hn]

/-- uniqueness: the polynomial of the inverse DFT of `e` takes the values `e` on the subgroup -/
theorem eval_polyF_idftF {ω : K} {n : ℕ} (h : IsPrimitiveRoot ω n) (hn : (n : K) ≠ 0)
    (e : Fin n → K) (i : Fin n) : (polyF (idftF ω e)).eval (ω ^ (i : ℕ)) = e i := by
  rw [← dftF_eq_eval, dft_idft h hn]

/-! ### coset variants -/

/-- coset FFT: scaling coefficient `j` by `g^j` and transforming is evaluation at `g·ω^i` -/
theorem coset_dftF_eq_eval {n : ℕ} (ω g : K) (v : Fin n → K) (i : Fin n) :
    dftF ω (fun j => g ^ (j : ℕ) * v j) i = (polyF v).eval (g * ω ^ (i : ℕ)) := by
  unfold dftF polyF
  rw [eval_finsetSum]
  apply sum_congr rfl; intro j _
  rw [eval_mul, eval_C, eval_pow, eval_X, pow_mul, mul_pow]; ring

/-- coset inverse FFT: inverse transform, then scaling coefficient `j` by `g⁻ʲ`, recovers the
    coefficients from the values on the coset `g·⟨ω⟩` -/
theorem coset_idftF_eval {ω g : K} {n : ℕ} (h : IsPrimitiveRoot ω n) (hn : (n : K) ≠ 0)
    (hg : g ≠ 0) (v : Fin n → K) (j : Fin n) :
    g⁻¹ ^ (j : ℕ) * idftF ω (fun i => (polyF v).eval (g * ω ^ (i : ℕ))) j = v j := by
  have : (fun i : Fin n => (polyF v).eval (g * ω ^ (i : ℕ)))
      = dftF ω (fun j => g ^ (j : ℕ) * v j) := by
    funext i; rw [coset_dftF_eq_eval]
  rw [this, idft_dft h hn, inv_pow, ← mul_assoc, inv_mul_cancel₀ (pow_ne_zero _ hg), one_mul]

/-- coset transforms are mutually inverse -/
theorem coset_idft_dft {ω g : K} {n : ℕ} (h : IsPrimitiveRoot ω n) (hn : (n : K) ≠ 0)
    (hg : g ≠ 0) (v : Fin n → K) (j : Fin n) :
    g⁻¹ ^ (j : ℕ) * idftF ω (dftF ω (fun j => g ^ (j : ℕ) * v j)) j = v j := by
  rw [idft_dft h hn, inv_pow, ← mul_assoc, inv_mul_cancel₀ (pow_ne_zero _ hg), one_mul]

theorem coset_dft_idft {ω g : K} {n : ℕ} (h : IsPrimitiveRoot ω n) (hn : (n : K) ≠ 0)
    (hg : g ≠ 0) (e : Fin n → K) :
    dftF ω (fun j => g ^ (j : ℕ) * (g⁻¹ ^ (j : ℕ) * idftF ω e j)) = e := by
  have : (fun j : Fin n => g ^ (j : ℕ) * (g⁻¹ ^ (j : ℕ) * idftF ω e j)) = idftF ω e := by
    funext j
    rw [inv_pow, ← mul_assoc, mul_inv_cancel₀ (pow_ne_zero _ hg), one_mul]
  rw [this, dft_idft h hn]

/-! ### reduction modulo `X^n − 1` -/

/-- folding: coefficient `i + k·n` is added onto coefficient `i` (`L` blocks) -/
def foldN (n L : ℕ) (v : ℕ → K) (i : ℕ) : K := ∑ k ∈ range L, v (i + k * n)

theorem sum_range_mul_block {M : Type*} [AddCommMonoid M] (f : ℕ → M) (n L : ℕ) :
    ∑ j ∈ range (n * L), f j = ∑ k ∈ range L, ∑ i ∈ range n, f (i + k * n) := by
  induction L with
  | zero => simp
  | succ L ih =>
    rw [Nat.mul_succ, sum_range_add, ih, sum_range_succ]
    congr 1
    apply sum_congr rfl; intro i _
    rw [Nat.add_comm, Nat.mul_comm]

/-- folding does not change the values at points with `x^n = 1` -/
theorem eval_fold {x : K} {n : ℕ} (hx : x ^ n = 1) (L : ℕ) (v : ℕ → K) :
    ∑ i ∈ range n, foldN n L v i * x ^ i = ∑ j ∈ range (n * L), v j * x ^ j := by
  rw [sum_range_mul_block]
  unfold foldN
  simp only [sum_mul]
  rw [sum_comm]
  apply sum_congr rfl; intro k _
  apply sum_congr rfl; intro i _
  rw [pow_add, mul_comm k n, pow_mul, hx, one_pow, mul_one]

/-- `dft` of the folded vector = evaluation of the long polynomial on the subgroup -/
theorem dftN_fold {ω : K} {n : ℕ} (hω : ω ^ n = 1) (L : ℕ) (v : ℕ → K) (i : ℕ) :
    dftN ω n (foldN n L v) i = (polyN (n * L) v).eval (ω ^ i) := by
  rw [← dftN_eq_eval]
  unfold dftN
  have hx : (ω ^ i) ^ n = 1 := pow_pow_eq_one hω i
  have := eval_fold hx L v
  simpa [pow_mul] using this

/-- remainder modulo `X^n − 1` has the same values at points with `x^n = 1` -/
theorem eval_modByMonic_X_pow_sub_one {x : K} {n : ℕ} (hx : x ^ n = 1) (p : K[X]) :
    (p %ₘ (X ^ n - 1)).eval x = p.eval x := by
  conv_rhs => rw [← modByMonic_add_div p (X ^ n - 1)]
  simp [hx]

/-! ### radix-2 splitting -/

theorem sum_range_two_mul {M : Type*} [AddCommMonoid M] (f : ℕ → M) (h : ℕ) :
    ∑ j ∈ range (2 * h), f j = ∑ j ∈ range h, f (2 * j) + ∑ j ∈ range h, f (2 * j + 1) := by
  induction h with
  | zero => simp
  | succ h ih =>
    rw [Nat.mul_succ, sum_range_succ, sum_range_succ, ih, sum_range_succ, sum_range_succ]
    abel

/-- decimation in time -/
theorem dftN_two_mul (ω : K) (h : ℕ) (v : ℕ → K) (i : ℕ) :
    dftN ω (2 * h) v i
      = dftN (ω ^ 2) h (fun j => v (2 * j)) i + ω ^ i * dftN (ω ^ 2) h (fun j => v (2 * j + 1)) i := by
  unfold dftN
  rw [sum_range_two_mul, mul_sum]
  congr 1
  · apply sum_congr rfl; intro j _
    rw [← pow_mul]; congr 2; ring
  · apply sum_congr rfl; intro j _
    rw [← pow_mul, mul_left_comm, ← pow_add]; congr 2; ring

theorem dftN_add_period {ω : K} {n : ℕ} (hω : ω ^ n = 1) (v : ℕ → K) (i : ℕ) :
    dftN ω n v (i + n) = dftN ω n v i := by
  unfold dftN
  apply sum_congr rfl; intro j _
  rw [add_mul, pow_add, mul_comm n j, pow_mul ω j n, pow_right_comm, hω, one_pow, mul_one]

theorem pow_half_eq_neg_one {ω : K} {h : ℕ} (hh : 0 < h) (hω : IsPrimitiveRoot ω (2 * h)) :
    ω ^ h = -1 := by
  have : IsPrimitiveRoot (ω ^ h) 2 := by
    have := hω.pow_of_dvd (p := h) hh.ne' ⟨2, by ring⟩
    rwa [Nat.mul_div_cancel _ hh] at this
  exact this.eq_neg_one_of_two_right

theorem isPrimitiveRoot_sq {ω : K} {h : ℕ} (hω : IsPrimitiveRoot ω (2 * h)) :
    IsPrimitiveRoot (ω ^ 2) h := by
  have := hω.pow_of_dvd (p := 2) (by decide) ⟨h, rfl⟩
  rwa [Nat.mul_div_cancel_left _ (by decide : 0 < 2)] at this

/-- the two butterfly outputs -/
theorem dftN_butterfly {ω : K} {h : ℕ} (hh : 0 < h) (hω : IsPrimitiveRoot ω (2 * h))
    (v : ℕ → K) (i : ℕ) :
    dftN ω (2 * h) v i
        = dftN (ω ^ 2) h (fun j => v (2 * j)) i + ω ^ i * dftN (ω ^ 2) h (fun j => v (2 * j + 1)) i
    ∧ dftN ω (2 * h) v (i + h)
        = dftN (ω ^ 2) h (fun j => v (2 * j)) i - ω ^ i * dftN (ω ^ 2) h (fun j => v (2 * j + 1)) i := by
  refine ⟨dftN_two_mul ω h v i, ?_⟩
  have h1 : (ω ^ 2) ^ h = 1 := (isPrimitiveRoot_sq hω).pow_eq_one
  rw [dftN_two_mul, dftN_add_period h1, dftN_add_period h1, pow_add, pow_half_eq_neg_one hh hω]
  ring

/-! ### inversion for `ℕ`-indexed sequences -/

theorem idftN_dftN {ω : K} {n : ℕ} (h : IsPrimitiveRoot ω n) (hn : (n : K) ≠ 0) (u : ℕ → K)
    {j : ℕ} (hj : j < n) : (n : K)⁻¹ * dftN ω⁻¹ n (fun i => dftN ω n u i) j = u j := by
  have h1 := congrFun (idft_dft h hn (fun k : Fin n => u k)) ⟨j, hj⟩
  unfold idftF at h1
  have h2 : dftF ω (fun k : Fin n => u k) = fun i : Fin n => dftN ω n u i := by
    funext i; exact dftF_eq_dftN ω u i
  rw [h2, dftF_eq_dftN ω⁻¹ (fun i => dftN ω n u i) ⟨j, hj⟩] at h1
  exact h1

theorem dftN_idftN {ω : K} {n : ℕ} (h : IsPrimitiveRoot ω n) (hn : (n : K) ≠ 0) (u : ℕ → K)
    {j : ℕ} (hj : j < n) : dftN ω n (fun i => (n : K)⁻¹ * dftN ω⁻¹ n u i) j = u j := by
  have h1 := congrFun (dft_idft h hn (fun k : Fin n => u k)) ⟨j, hj⟩
  have h2 : idftF ω (fun k : Fin n => u k) = fun i : Fin n => (n : K)⁻¹ * dftN ω⁻¹ n u i := by
    funext i; unfold idftF; rw [dftF_eq_dftN ω⁻¹ u i]
  rw [h2, dftF_eq_dftN ω (fun i => (n : K)⁻¹ * dftN ω⁻¹ n u i) ⟨j, hj⟩] at h1
  exact h1

/-- trailing zero coefficients do not change the polynomial -/
theorem polyN_extend {u : ℕ → K} {len N : ℕ} (hN : len ≤ N) (hu : ∀ j, len ≤ j → u j = 0) :
    polyN N u = polyN len u := by
  unfold polyN
  symm
  apply sum_subset (range_subset_range.mpr hN)
  intro j _ hj
  rw [hu j (by simpa using hj)]; simp

theorem polyN_congr {u v : ℕ → K} {n : ℕ} (h : ∀ j, j < n → u j = v j) : polyN n u = polyN n v := by
  unfold polyN
  apply sum_congr rfl; intro j hj
  rw [h j (mem_range.mp hj)]

/-- scaling coefficient `j` by `g^j` is substitution `X ↦ g·X` -/
theorem eval_polyN_scale (g x : K) (n : ℕ) (u : ℕ → K) :
    (polyN n (fun j => u j * g ^ j)).eval x = (polyN n u).eval (g * x) := by
  unfold polyN
  rw [eval_finsetSum, eval_finsetSum]
  apply sum_congr rfl; intro j _
  rw [eval_mul, eval_C, eval_pow, eval_X, eval_mul, eval_C, eval_pow, eval_X, mul_pow]; ring

theorem dftN_congr (ω : K) (n : ℕ) (u v : ℕ → K) (i : ℕ) (h : ∀ j, j < n → u j = v j) :
    dftN ω n u i = dftN ω n v i :=
  sum_congr rfl fun j hj => by rw [h j (mem_range.mp hj)]

end Plonk.FftMath

namespace Plonk
export FftMath (dftN_congr)
end Plonk
