/-
  A blinded polynomial (`blindPoly`, Rust `blind_poly_with_blinders`) is the interpolant of the table
  plus a multiple of `Xⁿ − 1`, so it takes the table's values on the domain.
-/
import Plonk.Proofs.PolyBridge
import Plonk.Proofs.FftDomain
import Plonk.Model.Prover

namespace Plonk
open Polynomial Poly FftMath

theorem length_ofCoeffs_le (p : List Nat) : (Poly.ofCoeffs p).length ≤ p.length := by
  unfold Poly.ofCoeffs
  exact le_trans (length_trim_le _) (by simp)

/-- the blinding fold, started at blinder index `k` on a coefficient list of length `n + k` -/
theorem blind_fold (n : Nat) (hn : 0 < n) (bs : List Nat) :
    ∀ (k : Nat) (cs : List Nat), cs.length = n + k →
      (((bs.zipIdx k).foldl (fun (cs : List Nat) (bi : Nat × Nat) =>
          (cs.set bi.2 (fsub (cs.getD bi.2 0) bi.1)) ++ [bi.1 % R]) cs).length = n + k + bs.length) ∧
      toPoly ((bs.zipIdx k).foldl (fun (cs : List Nat) (bi : Nat × Nat) =>
          (cs.set bi.2 (fsub (cs.getD bi.2 0) bi.1)) ++ [bi.1 % R]) cs)
        = toPoly cs + X ^ k * toPoly bs * (X ^ n - 1) := by
  induction bs with
  | nil => intro k cs h; simp [h]
  | cons b bs ih =>
    intro k cs hlen
    rw [List.zipIdx_cons, List.foldl_cons]
    have hlen' : (cs.set k (fsub (cs.getD k 0) b) ++ [b % R]).length = n + (k + 1) := by
      simp [hlen]; omega
    obtain ⟨h1, h2⟩ := ih (k + 1) _ hlen'
    refine ⟨by rw [h1]; simp; omega, ?_⟩
    rw [h2, toPoly_append, toPoly_set _ _ _ (by omega), List.length_set, hlen, toPoly_cons,
      toPoly_cons, toPoly_nil]
    simp only [toF_fsub, toF_mod]
    rw [pow_add, pow_succ]
    simp only [C_sub]
    ring

/-- **Mask form of `blind_poly_with_blinders`.**  The blinded polynomial is the interpolant
    `ifft w` plus `(Σ_i b_i X^i)·(X^n − 1)`; `toPoly bs = Σ_i C (toF b_i) X^i`. -/
theorem blindPoly_mask_form (d : Domain) (hd : d.WF) (w bs : List Nat) :
    toPoly (blindPoly d w bs)
      = toPoly (Poly.ofCoeffs (d.ifft w)) + toPoly bs * (X ^ d.size - 1) := by
  unfold blindPoly
  have hlen : (d.ifft w).length = d.size + 0 := Domain.ifft_length hd (le_refl 1) w
  have := (blind_fold d.size hd.size_pos bs 0 (d.ifft w) hlen).2
  simp only [toPoly_ofCoeffs]
  rw [pow_zero, one_mul] at this
  exact this

theorem blindPoly_length_le (d : Domain) (hd : d.WF) (w bs : List Nat) :
    (blindPoly d w bs).length ≤ d.size + bs.length := by
  unfold blindPoly
  have hlen : (d.ifft w).length = d.size + 0 := Domain.ifft_length hd (le_refl 1) w
  have := (blind_fold d.size hd.size_pos bs 0 (d.ifft w) hlen).1
  exact le_trans (length_ofCoeffs_le _) (by rw [this]; omega)

theorem blindPoly_eval (d : Domain) (hd : d.WF) (w bs : List Nat) (z : Nat) :
    toF (Poly.evaluate (blindPoly d w bs) z)
      = toF (Poly.evaluate (Poly.ofCoeffs (d.ifft w)) z)
        + (toPoly bs).eval (toF z) * (toF z ^ d.size - 1) := by
  rw [evaluate_spec, evaluate_spec, blindPoly_mask_form d hd]
  simp

theorem eval_toPoly_ifft {d : Domain} (hd : d.WF) (w : List Nat) (hw : w.length = d.size) (i : Nat)
    (hi : i < d.size) : (toPoly (d.ifft w)).eval (toF d.groupGen ^ i) = toF (w.getD i 0) := by
  rw [toPoly_eq_polyN, Domain.ifft_length hd (le_refl 1) w]
  exact Domain.eval_ifft hd (le_refl 1) w hw i hi

/-- the mask vanishes on the domain: whatever the blinders, the blinded polynomial takes the value
    `w[i]` at `ω^i` -/
theorem eval_blindPoly {d : Domain} (hd : d.WF) (w bs : List Nat) (hw : w.length = d.size) (i : Nat)
    (hi : i < d.size) :
    (toPoly (blindPoly d w bs)).eval (toF d.groupGen ^ i) = toF (w.getD i 0) := by
  rw [blindPoly_mask_form d hd, toPoly_ofCoeffs, eval_add, eval_toPoly_ifft hd w hw i hi]
  simp [pow_pow_eq_one hd.prim.pow_eq_one i]

end Plonk
