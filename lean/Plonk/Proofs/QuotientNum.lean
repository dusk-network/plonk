/-
  C05 (prover exactness), algebraic half, math level II — no model code in this file.

  The widget components, the gate sum, the permutation step and the quotient numerator are
  polynomial functions over an arbitrary commutative ring, compatible with ring homomorphisms:
  instantiated at `F` they are the row values, instantiated at `F[X]` they are the prover's
  polynomials, and `Polynomial.eval` maps one to the other; at a domain point the next row is read
  cyclically (`ω·ω^(n−1) = ω⁰`).  Also the first Lagrange polynomial and the running product of the
  permutation argument.
-/
import Plonk.Generated
import Plonk.Model.Field
import Plonk.Proofs.QuotientMath

namespace Plonk.Quot
open Polynomial

/-- the eleven selector values of a row (or the eleven selector polynomials) -/
structure Sel (A : Type*) where
  qm : A
  ql : A
  qr : A
  qo : A
  qf : A
  qc : A
  qarith : A
  qrange : A
  qlogic : A
  qfixed : A
  qvar : A

/-- the wire values a row identity reads: this row's `a b c d`, the next row's `a b d` -/
structure Wires (A : Type*) where
  a : A
  b : A
  c : A
  d : A
  an : A
  bn : A
  dn : A

/-- the four widget separation challenges -/
structure Seps (A : Type*) where
  rs : A
  ls : A
  fs : A
  vs : A

/-- the data of the permutation argument at a point: the point `x`, the four sigma values, the
    accumulator here and at the next point, and the value of the first Lagrange polynomial -/
structure PermRow (A : Type*) where
  x : A
  s1 : A
  s2 : A
  s3 : A
  s4 : A
  z : A
  zn : A
  l1 : A

/-- `β γ α` -/
structure Chal (A : Type*) where
  β : A
  γ : A
  α : A

variable {A : Type*} {B : Type*}

def Sel.map (f : A → B) (q : Sel A) : Sel B :=
  ⟨f q.qm, f q.ql, f q.qr, f q.qo, f q.qf, f q.qc, f q.qarith, f q.qrange, f q.qlogic, f q.qfixed,
    f q.qvar⟩
def Wires.map (f : A → B) (w : Wires A) : Wires B :=
  ⟨f w.a, f w.b, f w.c, f w.d, f w.an, f w.bn, f w.dn⟩
def Seps.map (f : A → B) (s : Seps A) : Seps B := ⟨f s.rs, f s.ls, f s.fs, f s.vs⟩
def PermRow.map (f : A → B) (p : PermRow A) : PermRow B :=
  ⟨f p.x, f p.s1, f p.s2, f p.s3, f p.s4, f p.z, f p.zn, f p.l1⟩
def Chal.map (f : A → B) (c : Chal A) : Chal B := ⟨f c.β, f c.γ, f c.α⟩

section ring
variable [CommRing A] [CommRing B]

/-- `δ(x) = x(x−1)(x−2)(x−3)` -/
def deltaR (x : A) : A := x * (x - 1) * (x - 2) * (x - 3)

/-- the four range components -/
def rangeCompsR (w : Wires A) : List A :=
  [deltaR (w.c - 4 * w.d), deltaR (w.b - 4 * w.c), deltaR (w.a - 4 * w.b), deltaR (w.dn - 4 * w.a)]

def deltaXorAndR (a b w c qc : A) : A :=
  qc * (9 * c - 3 * (a + b)) +
    (3 * (a + b + c) -
      2 * (w * (w * (4 * w - 18 * (a + b) + 81) + 18 * (a * a + b * b) - 81 * (a + b) + 83)))

/-- the five logic components -/
def logicCompsR (qc : A) (w : Wires A) : List A :=
  [deltaR (w.an - 4 * w.a), deltaR (w.bn - 4 * w.b), deltaR (w.dn - 4 * w.d),
   w.c - (w.an - 4 * w.a) * (w.bn - 4 * w.b),
   deltaXorAndR (w.an - 4 * w.a) (w.bn - 4 * w.b) w.c (w.dn - 4 * w.d) qc]

/-- the four fixed-base components (`bit = d_next − 2d`) -/
def fixedCompsR (ql qr qc : A) (w : Wires A) : List A :=
  let bit := w.dn - w.d - w.d
  let yAlpha := bit * bit * (qr - 1) + 1
  let xAlpha := bit * ql
  let k := w.c * w.a * w.b * (EDWARDS_D : A)
  [bit * (bit - 1) * (bit + 1), bit * qc - w.c,
   w.an + w.an * k - (w.a * yAlpha + w.b * xAlpha),
   w.bn - w.bn * k - (w.b * yAlpha + w.a * xAlpha)]

/-- the three curve-addition components -/
def varCompsR (w : Wires A) : List A :=
  let k := (EDWARDS_D : A) * w.dn * (w.b * w.c)
  [w.a * w.d - w.dn, w.dn + w.b * w.c - (w.an + w.an * k),
   w.b * w.d + w.a * w.c - (w.bn - w.bn * k)]

/-- the arithmetic identity without the public input -/
def arithR (q : Sel A) (w : Wires A) : A :=
  (w.a * w.b * q.qm + w.a * q.ql + w.b * q.qr + w.c * q.qo + w.d * q.qf + q.qc) * q.qarith

/-- the full row expression of the quotient's first half:
    `arith + q_range·range(ρ) + q_logic·logic(λ) + q_fixed·fixed(φ) + q_var·var(ν) + PI` -/
def gateSumR (q : Sel A) (w : Wires A) (pi : A) (s : Seps A) : A :=
  arithR q w + q.qrange * wsum (rangeCompsR w) s.rs + q.qlogic * wsum (logicCompsR q.qc w) s.ls +
    q.qfixed * wsum (fixedCompsR q.ql q.qr q.qc w) s.fs + q.qvar * wsum (varCompsR w) s.vs + pi

/-- `(a+βx+γ)(b+βk₁x+γ)(c+βk₂x+γ)(d+βk₃x+γ)` -/
def permNumR (β γ a b c d x : A) : A :=
  (a + β * x + γ) * (b + β * (Generated.K1 : A) * x + γ) * (c + β * (Generated.K2 : A) * x + γ) *
    (d + β * (Generated.K3 : A) * x + γ)

/-- `(a+βσ₁+γ)(b+βσ₂+γ)(c+βσ₃+γ)(d+βσ₄+γ)` -/
def permDenR (β γ a b c d s1 s2 s3 s4 : A) : A :=
  (a + β * s1 + γ) * (b + β * s2 + γ) * (c + β * s3 + γ) * (d + β * s4 + γ)

/-- the permutation step `num·z − den·z_next` -/
def permStepR (ch : Chal A) (w : Wires A) (p : PermRow A) : A :=
  permNumR ch.β ch.γ w.a w.b w.c w.d p.x * p.z -
    permDenR ch.β ch.γ w.a w.b w.c w.d p.s1 p.s2 p.s3 p.s4 * p.zn

/-- the quotient numerator `gate + α·perm + α²·L₁·(z − 1)` -/
def numR (q : Sel A) (w : Wires A) (pi : A) (p : PermRow A) (ch : Chal A) (s : Seps A) : A :=
  gateSumR q w pi s + ch.α * permStepR ch w p + ch.α ^ 2 * p.l1 * (p.z - 1)

theorem map_deltaR (f : A →+* B) (x : A) : f (deltaR x) = deltaR (f x) := by
  simp only [deltaR, f.map_mul, f.map_sub, f.map_one, map_ofNat f]

theorem map_rangeCompsR (f : A →+* B) (w : Wires A) :
    (rangeCompsR w).map f = rangeCompsR (w.map f) := by
  simp only [rangeCompsR, Wires.map, List.map_cons, List.map_nil, map_deltaR, f.map_sub, f.map_mul,
    map_ofNat f]

theorem map_deltaXorAndR (f : A →+* B) (a b w c qc : A) :
    f (deltaXorAndR a b w c qc) = deltaXorAndR (f a) (f b) (f w) (f c) (f qc) := by
  simp only [deltaXorAndR, f.map_add, f.map_sub, f.map_mul, map_ofNat f]

theorem map_logicCompsR (f : A →+* B) (qc : A) (w : Wires A) :
    (logicCompsR qc w).map f = logicCompsR (f qc) (w.map f) := by
  simp only [logicCompsR, Wires.map, List.map_cons, List.map_nil, map_deltaR, map_deltaXorAndR,
    f.map_sub, f.map_mul, map_ofNat f]

theorem map_fixedCompsR (f : A →+* B) (ql qr qc : A) (w : Wires A) :
    (fixedCompsR ql qr qc w).map f = fixedCompsR (f ql) (f qr) (f qc) (w.map f) := by
  simp only [fixedCompsR, Wires.map, List.map_cons, List.map_nil, f.map_add, f.map_sub, f.map_mul,
    f.map_one, map_natCast f]

theorem map_varCompsR (f : A →+* B) (w : Wires A) :
    (varCompsR w).map f = varCompsR (w.map f) := by
  simp only [varCompsR, Wires.map, List.map_cons, List.map_nil, f.map_add, f.map_sub, f.map_mul,
    map_natCast f]

theorem map_arithR (f : A →+* B) (q : Sel A) (w : Wires A) :
    f (arithR q w) = arithR (q.map f) (w.map f) := by
  simp only [arithR, Sel.map, Wires.map, f.map_add, f.map_mul]

theorem map_gateSumR (f : A →+* B) (q : Sel A) (w : Wires A) (pi : A) (s : Seps A) :
    f (gateSumR q w pi s) = gateSumR (q.map f) (w.map f) (f pi) (s.map f) := by
  unfold gateSumR
  simp only [f.map_add, f.map_mul, map_wsum, map_arithR, map_rangeCompsR, map_logicCompsR,
    map_fixedCompsR, map_varCompsR]
  rfl

theorem map_permStepR (f : A →+* B) (ch : Chal A) (w : Wires A) (p : PermRow A) :
    f (permStepR ch w p) = permStepR (ch.map f) (w.map f) (p.map f) := by
  simp only [permStepR, permNumR, permDenR, Chal.map, Wires.map, PermRow.map, f.map_add, f.map_sub,
    f.map_mul, map_natCast f]

theorem map_numR (f : A →+* B) (q : Sel A) (w : Wires A) (pi : A) (p : PermRow A) (ch : Chal A)
    (s : Seps A) :
    f (numR q w pi p ch s) = numR (q.map f) (w.map f) (f pi) (p.map f) (ch.map f) (s.map f) := by
  unfold numR
  simp only [f.map_add, f.map_mul, f.map_sub, map_pow, f.map_one, map_gateSumR, map_permStepR]
  rfl

end ring

section field
variable {K : Type*} [Field K]

theorem permDenR_ne_zero_iff (β γ a b c d s1 s2 s3 s4 : K) :
    permDenR β γ a b c d s1 s2 s3 s4 ≠ 0 ↔
      a + β * s1 + γ ≠ 0 ∧ b + β * s2 + γ ≠ 0 ∧ c + β * s3 + γ ≠ 0 ∧ d + β * s4 + γ ≠ 0 := by
  simp only [permDenR, mul_ne_zero_iff, and_assoc]

/-- `L₁ = (Xⁿ − 1) / (n (X − 1)) = n⁻¹ Σ_{j<n} X^j` -/
noncomputable def L1P (n : ℕ) : K[X] := C ((n : K)⁻¹) * ∑ j ∈ Finset.range n, X ^ j

theorem L1P_mul (n : ℕ) : (L1P n : K[X]) * (X - 1) = C ((n : K)⁻¹) * (X ^ n - 1) := by
  unfold L1P; rw [mul_assoc, geom_sum_mul]

theorem eval_L1P (n : ℕ) (x : K) : (L1P n).eval x = (n : K)⁻¹ * ∑ j ∈ Finset.range n, x ^ j := by
  simp only [L1P, eval_mul, eval_C, eval_finsetSum, eval_pow, eval_X]

/-- `L₁(ω⁰) = 1`, `L₁(ω^i) = 0` for `0 < i < n` -/
theorem eval_L1P_root {ω : K} {n : ℕ} (hω : IsPrimitiveRoot ω n) (hn : (n : K) ≠ 0) {i : ℕ}
    (hi : i < n) : (L1P n).eval (ω ^ i) = if i = 0 then 1 else 0 := by
  rw [eval_L1P]
  split
  · next h0 => subst h0; simp [hn]
  · next h0 =>
    rw [FftMath.geom_sum_eq_zero_of_pow_eq_one (hω.pow_ne_one_of_pos_of_lt h0 hi)
      (pow_pow_eq_one hω.pow_eq_one i), mul_zero]

/-- away from `1`: `L₁(x) = (xⁿ − 1)·n⁻¹·(x − 1)⁻¹` (the form the quotient code evaluates) -/
theorem eval_L1P_of_ne_one (n : ℕ) {x : K} (hx : x ≠ 1) :
    (L1P n).eval x = (x - 1)⁻¹ * ((x ^ n - 1) * (n : K)⁻¹) := by
  have h := congrArg (eval x) (L1P_mul (K := K) n)
  simp only [eval_mul, eval_sub, eval_X, eval_one, eval_C, eval_pow] at h
  rw [eq_inv_mul_iff_mul_eq₀ (sub_ne_zero.mpr hx), mul_comm, h, mul_comm]

/-- `P(ωX)` -/
noncomputable def shiftP (ω : K) (P : K[X]) : K[X] := P.comp (C ω * X)

theorem eval_shiftP (ω x : K) (P : K[X]) : (shiftP ω P).eval x = P.eval (ω * x) := by
  simp only [shiftP, eval_comp, eval_mul, eval_C, eval_X]

/-- the prover's polynomials: selectors, wires, public inputs, sigmas, accumulator -/
structure ProverPolys (K : Type*) [Field K] where
  Q : Sel K[X]
  a : K[X]
  b : K[X]
  c : K[X]
  d : K[X]
  pi : K[X]
  s1 : K[X]
  s2 : K[X]
  s3 : K[X]
  s4 : K[X]
  z : K[X]

/-- the numerator polynomial
    `gate(A,B,C,D,A(ωX),B(ωX),D(ωX),Q,PI) + α·(perm identity) + α²·L₁·(Z − 1)` -/
noncomputable def NumP (ω : K) (n : ℕ) (P : ProverPolys K) (ch : Chal K) (s : Seps K) : K[X] :=
  numR P.Q ⟨P.a, P.b, P.c, P.d, shiftP ω P.a, shiftP ω P.b, shiftP ω P.d⟩ P.pi
    ⟨X, P.s1, P.s2, P.s3, P.s4, P.z, shiftP ω P.z, L1P n⟩ (ch.map C) (s.map C)

/-- evaluation of the numerator polynomial at an arbitrary point: the row expression of the values
    at `x` and `ωx` -/
theorem eval_NumP (ω : K) (n : ℕ) (P : ProverPolys K) (ch : Chal K) (s : Seps K) (x : K) :
    (NumP ω n P ch s).eval x =
      numR (P.Q.map (eval x))
        ⟨P.a.eval x, P.b.eval x, P.c.eval x, P.d.eval x, P.a.eval (ω * x), P.b.eval (ω * x),
          P.d.eval (ω * x)⟩ (P.pi.eval x)
        ⟨x, P.s1.eval x, P.s2.eval x, P.s3.eval x, P.s4.eval x, P.z.eval x, P.z.eval (ω * x),
          (L1P n).eval x⟩ ch s := by
  unfold NumP
  rw [← coe_evalRingHom, map_numR]
  simp only [coe_evalRingHom, Sel.map, Wires.map, PermRow.map, Chal.map, Seps.map, eval_shiftP, eval_X,
    eval_C]

/-- **The numerator at a domain point.** At `ω^i` (`i < n`) the numerator polynomial takes the
    value `N_i` computed from the values of the wire / selector / sigma / accumulator / public-input
    polynomials at row `i` and of the wires and the accumulator at row `(i+1) mod n`: the next row
    is read cyclically (`ω·ω^(n-1) = ω^0`). -/
theorem numerator_at_root_poly {ω : K} {n : ℕ} (hω : IsPrimitiveRoot ω n) (hn : (n : K) ≠ 0)
    (P : ProverPolys K) (ch : Chal K) (s : Seps K) {i : ℕ} (hi : i < n) :
    (NumP ω n P ch s).eval (ω ^ i) =
      numR (P.Q.map (eval (ω ^ i)))
        ⟨P.a.eval (ω ^ i), P.b.eval (ω ^ i), P.c.eval (ω ^ i), P.d.eval (ω ^ i),
          P.a.eval (ω ^ ((i + 1) % n)), P.b.eval (ω ^ ((i + 1) % n)),
          P.d.eval (ω ^ ((i + 1) % n))⟩ (P.pi.eval (ω ^ i))
        ⟨ω ^ i, P.s1.eval (ω ^ i), P.s2.eval (ω ^ i), P.s3.eval (ω ^ i), P.s4.eval (ω ^ i),
          P.z.eval (ω ^ i), P.z.eval (ω ^ ((i + 1) % n)), if i = 0 then 1 else 0⟩ ch s := by
  rw [eval_NumP, ← pow_succ', pow_eq_pow_mod (i + 1) hω.pow_eq_one, eval_L1P_root hω hn hi]

end field

end Plonk.Quot

namespace Plonk.Complete
variable {K : Type*} [Field K]

/-- the running product `z_i = ∏_{j<i} num_j / den_j` -/
def accSeq (num den : ℕ → K) (i : ℕ) : K := ∏ j ∈ Finset.range i, num j / den j

@[simp] theorem accSeq_zero (num den : ℕ → K) : accSeq num den 0 = 1 := Finset.prod_range_zero _

theorem accSeq_succ (num den : ℕ → K) (i : ℕ) :
    accSeq num den (i + 1) = accSeq num den i * (num i / den i) :=
  Finset.prod_range_succ _ i

theorem accSeq_step (num den : ℕ → K) (i : ℕ) (hd : den i ≠ 0) :
    accSeq num den (i + 1) * den i = accSeq num den i * num i := by
  rw [accSeq_succ, mul_assoc, div_mul_cancel₀ _ hd]

/-- at a row where `z` is the running product, the permutation step with next value `x` vanishes
    iff `x` is the next running product -/
theorem accSeq_step_iff (num den z : ℕ → K) {i : ℕ} (hd : den i ≠ 0) (hz : z i = accSeq num den i)
    (x : K) : num i * z i - den i * x = 0 ↔ x = accSeq num den (i + 1) := by
  rw [hz, sub_eq_zero, mul_comm, ← accSeq_step num den i hd, mul_comm, mul_right_inj' hd, eq_comm]

/-- the running product closes (`z_n = 1 = z_0`) iff the two full products agree -/
theorem accSeq_eq_one_iff (n : ℕ) (num den : ℕ → K) (hden : ∀ i < n, den i ≠ 0) :
    accSeq num den n = 1 ↔ ∏ i ∈ Finset.range n, num i = ∏ i ∈ Finset.range n, den i := by
  unfold accSeq
  rw [Finset.prod_div_distrib, div_eq_one_iff_eq]
  exact Finset.prod_ne_zero_iff.mpr fun j hj => hden j (Finset.mem_range.mp hj)

/-- the sequence of the model's recurrence (`z_0 = 1`, `z_{i+1} = z_i·(num_i·den_i⁻¹)` for
    `i + 1 < n`) is the running product -/
theorem eq_accSeq_of_rec (n : ℕ) (num den z : ℕ → K) (hz0 : 0 < n → z 0 = 1)
    (hz : ∀ i, i + 1 < n → z (i + 1) = z i * (num i * (den i)⁻¹)) :
    ∀ i < n, z i = accSeq num den i := by
  intro i
  induction i with
  | zero => intro h; rw [hz0 h, accSeq_zero]
  | succ i ih =>
    intro hi
    rw [hz i hi, ih (by omega), accSeq_succ, div_eq_mul_inv]

/-- **The grand-product argument.**  With non-zero denominators on the rows `0 … n−1`, a sequence
    starts at `1` and satisfies every cyclic permutation step (the last one wraps round to `z 0`) iff
    it is the running product on the rows and the two full products agree.  Soundness reads it
    from left to right, completeness from right to left. -/
theorem cyclic_steps_iff {n : ℕ} (hn : 0 < n) (num den z : ℕ → K) (hden : ∀ i < n, den i ≠ 0) :
    (z 0 = 1 ∧ ∀ i < n, num i * z i - den i * z ((i + 1) % n) = 0) ↔
      (∀ i < n, z i = accSeq num den i) ∧
        ∏ i ∈ Finset.range n, num i = ∏ i ∈ Finset.range n, den i := by
  rw [← accSeq_eq_one_iff n num den hden]
  obtain ⟨m, rfl⟩ : ∃ m, n = m + 1 := ⟨n - 1, by omega⟩
  constructor
  · rintro ⟨h0, hs⟩
    have hz : ∀ i < m + 1, z i = accSeq num den i := by
      intro i
      induction i with
      | zero => intro _; rw [h0, accSeq_zero]
      | succ i ih =>
        intro hi
        have := hs i (by omega)
        rwa [Nat.mod_eq_of_lt hi, accSeq_step_iff num den z (hden i (by omega)) (ih (by omega))] at this
    refine ⟨hz, ?_⟩
    have := hs m (by omega)
    rw [Nat.mod_self, accSeq_step_iff num den z (hden m (by omega)) (hz m (by omega)), h0] at this
    exact this.symm
  · rintro ⟨hz, hc⟩
    refine ⟨by rw [hz 0 hn, accSeq_zero], fun i hi => ?_⟩
    rw [accSeq_step_iff num den z (hden i hi) (hz i hi)]
    rcases Nat.lt_or_ge (i + 1) (m + 1) with h | h
    · rw [Nat.mod_eq_of_lt h, hz _ h]
    · obtain rfl : i = m := by omega
      rw [Nat.mod_self, hz 0 hn, accSeq_zero, hc]

end Plonk.Complete
