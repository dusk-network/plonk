/-
  Tie by TRANSLATION, second translator: `Plonk/GeneratedComposer.lean` is regenerated from the Rust sources of the
  composer gadgets (`src/composer.rs`, `src/composer/{bits,select,point}.rs`,
  `src/composer/constraint_system/{constraint,witness,ecc}.rs`) by `tools/rs2lean_composer.py` on every run.
  The theorems below state that every translated function IS the hand-written model function of
  `Plonk/Model/{Gate,Composer}.lean` that all gadget theorems (C07–C14) are about.  A changed coefficient, a dropped or
  added builder call, a swapped wire, a reordered gate or witness, a different selector index changes the generated
  definition and breaks the corresponding proof.
-/
import Plonk.GeneratedComposer
import Plonk.Proofs.ComposerSourceHost

namespace Plonk.ComposerSource
open Plonk Plonk.Composer Plonk.GeneratedComposer

/-! ### the prelude of the translator is sound for the source at hand -/

/-- the Montgomery constant of the prelude is `2^-256 mod r` -/
theorem mont_rinv_ok : (2 ^ 256 * MONT_RINV) % R = 1 := by decide +kernel

/-- the array view is faithful: `Selector` discriminants are exactly `0..COEFFICIENTS-1`, so no access is out of bounds
    and distinct selectors address distinct slots -/
theorem selector_slots : Selector.all.map Selector.toNat = List.range RConstraint.COEFFICIENTS := by decide
theorem selector_all (r : Selector) : r ∈ Selector.all := by rw [← List.elem_iff]; cases r <;> rfl
theorem wire_slots : WiredWitness.all.map WiredWitness.toNat = List.range RConstraint.WITNESSES := by decide
theorem wire_all (r : WiredWitness) : r ∈ WiredWitness.all := by rw [← List.elem_iff]; cases r <;> rfl

theorem coeffSet_toNat (s : Constraint) (r : Selector) (v : Nat) :
    coeffSet s (Selector.toNat r) v = setSel s v r := by cases r <;> rfl

theorem coeffGet_toNat (s : Constraint) (r : Selector) :
    coeffGet s (Selector.toNat r) = getSel s r := by cases r <;> rfl

theorem witSet_toNat (s : Constraint) (r : WiredWitness) (v : Nat) :
    witSet s (WiredWitness.toNat r) v = setWire s v r := by cases r <;> rfl

theorem witGet_toNat (s : Constraint) (r : WiredWitness) :
    witGet s (WiredWitness.toNat r) = getWire s r := by cases r <;> rfl

/-! ### witness.rs / ecc.rs: the newtypes are erased -/

theorem witness_new_eq (i : Nat) : RWitness.new i = i := rfl
theorem witness_index_eq (w : Nat) : RWitness.index w = w := rfl
theorem witness_consts : RWitness.ZERO = 0 ∧ RWitness.ONE = 1 ∧ RComposer.ZERO = Composer.ZERO ∧ RComposer.ONE = Composer.ONE :=
  ⟨rfl, rfl, rfl, rfl⟩

theorem witness_point_eq (x y : Nat) (p : Pt) :
    RWitnessPoint.new x y = (x, y) ∧ RWitnessPoint.x p = p.1 ∧ RWitnessPoint.y p = p.2 ∧
    RTorsionFreeWitnessPoint.new_unchecked p = p ∧ RTorsionFreeWitnessPoint.x p = p.1 ∧
    RTorsionFreeWitnessPoint.y p = p.2 ∧ RWitnessPoint.from_ p = p := ⟨rfl, rfl, rfl, rfl, rfl, rfl, rfl⟩

/-! ### constraint.rs -/

theorem new_eq : RConstraint.new = ({} : Constraint) := by decide
theorem default_eq : RConstraint.default_ = ({} : Constraint) := by decide
theorem has_public_input_eq (s : Constraint) : RConstraint.has_public_input s = s.hasPi := rfl
theorem set_eq (s : Constraint) (r : Selector) (v : Nat) : RConstraint.set s r v = setSel s (v % R) r :=
  coeffSet_toNat s r _

theorem set_witness_eq (s : Constraint) (r : WiredWitness) (w : Nat) : RConstraint.set_witness s r w = setWire s w r :=
  witSet_toNat s r w

theorem coeff_eq (s : Constraint) (r : Selector) : RConstraint.coeff s r = getSel s r := coeffGet_toNat s r
theorem witness_eq (s : Constraint) (r : WiredWitness) : RConstraint.witness s r = getWire s r := witGet_toNat s r

theorem mult_eq (s : Constraint) (v : Nat) : RConstraint.mult s v = { s with qm := v % R } := rfl
theorem left_eq (s : Constraint) (v : Nat) : RConstraint.left s v = { s with ql := v % R } := rfl
theorem right_eq (s : Constraint) (v : Nat) : RConstraint.right s v = { s with qr := v % R } := rfl
theorem output_eq (s : Constraint) (v : Nat) : RConstraint.output s v = { s with qo := v % R } := rfl
theorem fourth_eq (s : Constraint) (v : Nat) : RConstraint.fourth s v = { s with qf := v % R } := rfl
theorem constant_eq (s : Constraint) (v : Nat) : RConstraint.constant_ s v = { s with qc := v % R } := rfl
theorem public_eq (s : Constraint) (v : Nat) : RConstraint.public_ s v = { s with pi := v % R, hasPi := true } := rfl
theorem a_eq (s : Constraint) (w : Nat) : RConstraint.a s w = { s with a := w } := rfl
theorem b_eq (s : Constraint) (w : Nat) : RConstraint.b s w = { s with b := w } := rfl
theorem c_eq (s : Constraint) (w : Nat) : RConstraint.c s w = { s with c := w } := rfl
theorem d_eq (s : Constraint) (w : Nat) : RConstraint.d s w = { s with d := w } := rfl

/-- `dst[..n].copy_from_slice(&src[..n])` copies slot by slot -/
theorem copy_prefix (dst src : Constraint) (n : Nat) :
    coeffPrefixSet dst n (coeffPrefix src n)
      = (List.range n).foldl (fun acc i => coeffSet acc i (coeffGet src i)) dst := by
  unfold coeffPrefixSet coeffPrefix
  apply List.foldl_ext
  intro acc i hi
  have : i < n := List.mem_range.mp hi
  simp [List.getD, this]

/-- the slots below `Selector::Arithmetic` are the seven external coefficients -/
theorem copy_external (s : Constraint) :
    (List.range (Selector.toNat Selector.Arithmetic)).foldl (fun acc i => coeffSet acc i (coeffGet s i))
        RConstraint.default_
      = { qm := s.qm, ql := s.ql, qr := s.qr, qo := s.qo, qf := s.qf, qc := s.qc, pi := s.pi } := by
  rw [default_eq, show List.range (Selector.toNat .Arithmetic) = [Selector.Multiplication, .Left, .Right, .Output,
    .Fourth, .Constant, .PublicInput].map Selector.toNat from rfl, List.foldl_map]
  simp only [coeffSet_toNat, coeffGet_toNat, List.foldl_cons, List.foldl_nil, setSel, getSel]

theorem witsCopy_eq (dst src : Constraint) :
    witsCopy dst src = { dst with a := src.a, b := src.b, c := src.c, d := src.d } := by
  rw [witsCopy, ← wire_slots, List.foldl_map]
  simp only [witSet_toNat, witGet_toNat, WiredWitness.all, List.foldl_cons, List.foldl_nil, setWire, getWire]

theorem from_external_eq : RConstraint.from_external = Constraint.fromExternal := by
  funext s
  unfold RConstraint.from_external
  simp only [copy_prefix, copy_external, witsCopy_eq]
  rfl

theorem arithmetic_eq : RConstraint.arithmetic = Constraint.arithmetic := by
  funext s; unfold RConstraint.arithmetic; rw [from_external_eq]; rfl

theorem range_eq : RConstraint.range = Constraint.range := by
  funext s; unfold RConstraint.range; rw [from_external_eq]; rfl

theorem logic_eq : RConstraint.logic = Constraint.logic := by
  funext s; unfold RConstraint.logic; rw [from_external_eq]; rfl

theorem logic_xor_eq : RConstraint.logic_xor = Constraint.logicXor := by
  funext s; unfold RConstraint.logic_xor; rw [from_external_eq]; rfl

theorem group_add_fixed_base_eq : RConstraint.group_add_fixed_base = Constraint.groupAddFixedBase := by
  funext s; unfold RConstraint.group_add_fixed_base; rw [from_external_eq]; rfl

theorem group_add_variable_base_eq : RConstraint.group_add_variable_base = Constraint.groupAddVariableBase := by
  funext s; unfold RConstraint.group_add_variable_base; rw [from_external_eq]; rfl

/-! ### composer.rs -/

theorem index_eq : RComposer.index = getVal := rfl
theorem append_witness_internal_eq (v : Nat) (c : Composer) :
    (RComposer.append_witness_internal v).run c = (c.wit.size, { c with wit := c.wit.push v }) := rfl

theorem append_witness_eq : RComposer.append_witness = appendWitness := rfl
theorem uninitialized_eq : RComposer.uninitialized = ({} : Composer) := rfl

theorem append_custom_gate_internal_eq : RComposer.append_custom_gate_internal = appendCustomGate := by
  funext s c
  cases s with
  | mk qm ql qr qo qf qc pi qarith qrange qlogic qfixed qvar a b c d hasPi => cases hasPi <;> rfl

theorem append_custom_gate_eq : RComposer.append_custom_gate = appendCustomGate := by
  funext s; unfold RComposer.append_custom_gate; rw [append_custom_gate_internal_eq]

theorem append_gate_eq : RComposer.append_gate = appendGate := by
  funext s; unfold RComposer.append_gate appendGate; rw [append_custom_gate_eq, arithmetic_eq]

/-- the fast-path constant of `append_evaluated_output` (raw Montgomery limbs in the source) is `-1` -/
theorem minus_one_limbs :
    fromMontLimbs [0xfffffffd00000003, 0xfb38ec08fffb13fc, 0x99ad88181ce5880f, 0x5bc8f5f97cd877d8] = R - 1 := by
  decide +kernel

theorem append_evaluated_output_eq : RComposer.append_evaluated_output = appendEvaluatedOutput := by
  funext s
  unfold RComposer.append_evaluated_output appendEvaluatedOutput
  simp only [index_eq, append_witness_eq, append_gate_eq, coeff_eq, witness_eq, getSel, getWire, minus_one_limbs, intoScalar]
  apply bind_congr; intro a
  apply bind_congr; intro b
  apply bind_congr; intro d
  generalize (if (s.qo == 1 % R) = true then _ else _ : Option Nat) = c?
  cases c? <;> rfl

theorem assert_equal_eq : RComposer.assert_equal = assertEqual := by
  funext a b; unfold RComposer.assert_equal assertEqual; rw [append_gate_eq]; rfl

theorem assert_equal_constant_eq : RComposer.assert_equal_constant = assertEqualConstant := by
  funext a c p
  unfold RComposer.assert_equal_constant assertEqualConstant
  rw [append_gate_eq]
  simp only [constant_eq, intoScalar, Nat.mod_mod]
  cases p <;> rfl

theorem gate_add_eq : RComposer.gate_add = gateAdd := by
  funext s
  unfold RComposer.gate_add gateAdd
  rw [append_evaluated_output_eq, arithmetic_eq]
  apply bind_congr; intro t
  cases t <;> rfl

theorem gate_mul_eq : RComposer.gate_mul = gateMul := by
  funext s
  unfold RComposer.gate_mul gateMul gateAdd
  rw [append_evaluated_output_eq, arithmetic_eq]
  apply bind_congr; intro t
  cases t <;> rfl

theorem appendWitness_mod (v : Nat) : appendWitness (v % R) = appendWitness v := by
  funext c; simp only [appendWitness, Nat.mod_mod]

theorem assertEqualConstant_mod (a v : Nat) (p : Option Nat) :
    assertEqualConstant a (v % R) p = assertEqualConstant a v p := by
  unfold assertEqualConstant; simp only [Nat.mod_mod]

theorem append_constant_eq : RComposer.append_constant = appendConstant := by
  funext v
  unfold RComposer.append_constant appendConstant
  rw [append_witness_eq, assert_equal_constant_eq]
  simp only [intoScalar, appendWitness_mod, assertEqualConstant_mod]

theorem append_public_eq : RComposer.append_public = appendPublic := by
  funext v
  unfold RComposer.append_public appendPublic
  rw [append_witness_eq, append_gate_eq]
  simp only [intoScalar, appendWitness_mod, public_eq, Nat.mod_mod]
  rfl

theorem append_dummy_gates_eq : RComposer.append_dummy_gates = appendDummyGates := by
  unfold RComposer.append_dummy_gates appendDummyGates
  rw [append_witness_eq, append_gate_eq]
  rfl

theorem initialized_eq : RComposer.initialized = Composer.initialized := by
  unfold RComposer.initialized Composer.initialized
  rw [append_witness_eq, assert_equal_constant_eq, append_dummy_gates_eq, uninitialized_eq]

/-! ### bits.rs / select.rs -/

theorem component_boolean_eq : RComposer.component_boolean = componentBoolean := by
  funext a; unfold RComposer.component_boolean componentBoolean; rw [append_gate_eq]; rfl

theorem component_select_eq : RComposer.component_select = componentSelect := by
  funext bit a b; unfold RComposer.component_select componentSelect; rw [gate_mul_eq, gate_add_eq]; rfl

theorem component_select_one_eq : RComposer.component_select_one = componentSelectOne := by
  funext bit v; unfold RComposer.component_select_one componentSelectOne
  rw [index_eq, append_witness_eq, append_gate_eq]; rfl

theorem component_select_zero_eq : RComposer.component_select_zero = componentSelectZero := by
  funext bit v; unfold RComposer.component_select_zero componentSelectZero; rw [gate_mul_eq]; rfl

/-! ### point.rs -/

theorem eight_inv_eq : EIGHT_INV = Generated.EIGHT_INV := by decide +kernel

theorem reject_degenerate_z_eq (e : Ext) :
    reject_degenerate_z e = (match e.toAffine? with | none => .error .degenerate | some _ => .ok ()) := by
  unfold reject_degenerate_z Ext.toAffine? intoScalar
  by_cases h : (e.z == 0) = true <;> simp [h]

theorem append_affine_point_eq : RComposer.append_affine_point = appendAffinePoint := by
  funext p; unfold RComposer.append_affine_point appendAffinePoint; rw [append_witness_eq]; rfl

theorem assert_equal_point_eq : RComposer.assert_equal_point = assertEqualPoint := by
  funext a b; unfold RComposer.assert_equal_point assertEqualPoint; rw [assert_equal_eq]; rfl

theorem component_neg_point_eq : RComposer.component_neg_point = componentNegPoint := by
  funext p; unfold RComposer.component_neg_point componentNegPoint; rw [gate_mul_eq]; rfl

theorem select_identity_gates_eq : RComposer.select_identity_gates = selectIdentityGates := by
  funext bit a; unfold RComposer.select_identity_gates selectIdentityGates
  rw [component_select_zero_eq, component_select_one_eq]; rfl

theorem component_select_identity_eq : RComposer.component_select_identity = componentSelectIdentity := by
  funext bit a; unfold RComposer.component_select_identity componentSelectIdentity
  rw [component_boolean_eq, select_identity_gates_eq]; rfl

theorem component_select_point_eq : RComposer.component_select_point = componentSelectPoint := by
  funext bit a b; unfold RComposer.component_select_point componentSelectPoint
  rw [component_select_eq]; rfl

theorem add_point_gates_eq : RComposer.add_point_gates = addPointGates := by
  -- as functions of the composer state: the source reads `x_1` and `y_2` a second time, which does not change the state
  funext a b c
  simp only [RComposer.add_point_gates, addPointGates, index_eq, append_witness_eq, append_custom_gate_eq,
    group_add_variable_base_eq, host_sum_eq, new_eq, a_eq, b_eq, c_eq, d_eq, getVal, appendWitness, appendCustomGate,
    bind, StateT.bind, pure, StateT.pure]
  rfl

theorem component_add_point_eq : RComposer.component_add_point = componentAddPoint := by
  funext a b; unfold RComposer.component_add_point componentAddPoint; rw [add_point_gates_eq]; rfl

theorem component_sub_point_eq : RComposer.component_sub_point = componentSubPoint := by
  funext a b; unfold RComposer.component_sub_point componentSubPoint
  rw [component_neg_point_eq, component_add_point_eq]

theorem assert_torsion_free_gates_eq : RComposer.assert_torsion_free_gates = assertTorsionFreeGates := by
  funext p q; unfold RComposer.assert_torsion_free_gates assertTorsionFreeGates
  rw [append_affine_point_eq, gate_mul_eq, append_gate_eq, add_point_gates_eq, assert_equal_point_eq]; rfl

/-- `(JubJubExtended::from(p) * k).into()` is the model's `edMul k p` -/
theorem edMul_eq (k : Nat) (p : Pt) : jjAffineFromExt (Ext.mulBits (Ext.ofAffine p) k) = edMul k p := rfl

theorem assert_torsion_free_point_eq :
    RComposer.assert_torsion_free_point = (fun p => assertTorsionFreePoint p >>= fun _ => pure p) := by
  funext p; unfold RComposer.assert_torsion_free_point assertTorsionFreePoint
  simp only [index_eq, assert_torsion_free_gates_eq, edMul_eq, eight_inv_eq]
  rfl

theorem append_point_eq : RComposer.append_point = appendPoint := by
  funext e; unfold RComposer.append_point appendPoint jjAffineFromExt
  simp only [reject_degenerate_z_eq, append_affine_point_eq]
  cases e.toAffine? <;> rfl

theorem append_public_point_eq : RComposer.append_public_point = appendPublicPoint := by
  funext e; unfold RComposer.append_public_point appendPublicPoint jjAffineFromExt
  simp only [reject_degenerate_z_eq, append_affine_point_eq, assert_equal_constant_eq]
  cases e.toAffine? <;> rfl

theorem assert_equal_public_point_eq : RComposer.assert_equal_public_point = assertEqualPublicPoint := by
  funext p e; unfold RComposer.assert_equal_public_point assertEqualPublicPoint jjAffineFromExt
  simp only [reject_degenerate_z_eq, assert_equal_constant_eq]
  cases e.toAffine? <;> rfl

theorem append_constant_point_eq : RComposer.append_constant_point = appendConstantPoint := by
  funext e; unfold RComposer.append_constant_point appendConstantPoint jjAffineFromExt
  simp only [reject_degenerate_z_eq, append_constant_eq]
  cases e.toAffine? <;> rfl

end Plonk.ComposerSource
