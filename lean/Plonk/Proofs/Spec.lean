/-
  What a composer program does, in one statement.

  `Spec k m c r g j S V H`: run from `c`, the program `m` returns `r`, appends `g` gates and `j`
  witnesses (the last appended gate plain, the stored values reduced) and keeps `PiFresh`, hence
  `WF`; its rows, read in ANY later state, force `S w` on every assignment `w` (`sound`); the later
  table `c''.val` satisfies `V` (`vals`), and it satisfies the rows as soon as it satisfies `H`
  (`complete`).  The only hypothesis on `c` is `PiFresh c`: no stale public input leaks into a
  fresh row.  The kind `k` says how much more is known: `k ≥ 1` (exact) — the rows say no more
  than `S` (`conv`, `rows_iff`); `k = 2` (plain) — every appended gate is plain (`appends`).
  Components whose inner rows read their successor (curve addition, the fixed-base ladder proper)
  are exact but not plain; whatever contains a range check (truncation, logic, the fixed-base
  component) is stated with kind `0`.

  Specifications compose along `>>=` (`Spec.bind`, of kind the smaller of the two), so the
  specification of a straight-line component is the chain of those of its steps, weakened once at
  the end (`Spec.mono`); the states in between never get a name.
-/
import Plonk.Proofs.Frame

namespace Plonk
open Plonk.Composer

namespace Composer

theorem run_bind_of_fst {α β : Type} {m : CM α} {f : α → CM β} {c : Composer} {a : α}
    (h : (m.run c).1 = a) : (m >>= f).run c = (f a).run (m.run c).2 := by
  subst h; rfl

structure Spec {α : Type} (k : Nat) (m : CM α) (c : Composer) (r : α) (g j : Nat)
    (S V H : (Nat → Nat) → Prop) : Prop where
  fst : (m.run c).1 = r
  appendsL : AppendsL c (m.run c).2 g j
  piFresh : PiFresh c → PiFresh (m.run c).2
  /-- whatever the component stores is reduced (`append_witness` reduces) -/
  red : ∀ i, c.wit.size ≤ i → (m.run c).2.val i < R
  sound : PiFresh c → ∀ {c''}, Extends (m.run c).2 c'' → ∀ w,
    c''.rowsHoldW w c.gates.size (m.run c).2.gates.size → S w
  vals : ∀ {c''}, Extends (m.run c).2 c'' → V c''.val
  complete : PiFresh c → ∀ {c''}, Extends (m.run c).2 c'' → H c''.val →
    c''.rowsHoldW c''.val c.gates.size (m.run c).2.gates.size
  conv : 1 ≤ k → PiFresh c → ∀ w, S w →
    (m.run c).2.rowsHoldW w c.gates.size (m.run c).2.gates.size
  plain : 2 ≤ k → ∀ i, c.gates.size ≤ i → i < (m.run c).2.gates.size →
    Gate.plain ((m.run c).2.gateAt i)

section
variable {α β : Type} {k k' : Nat} {m : CM α} {f : α → CM β} {c : Composer} {a a' : α} {b : β}
  {g j g' j' : Nat} {S V H S' V' H' : (Nat → Nat) → Prop}

theorem Spec.ext (h : Spec k m c a g j S V H) : Extends c (m.run c).2 := h.appendsL.ext
theorem Spec.gates (h : Spec k m c a g j S V H) : (m.run c).2.gates.size = c.gates.size + g :=
  h.appendsL.gates
theorem Spec.wit (h : Spec k m c a g j S V H) : (m.run c).2.wit.size = c.wit.size + j :=
  h.appendsL.wit

theorem Spec.wf (h : Spec k m c a g j S V H) (hc : WF c) : WF (m.run c).2 where
  val_lt i :=
    if hi : i < c.wit.size then by rw [h.ext.val_eq hi]; exact hc.val_lt i
    else h.red i (Nat.le_of_not_lt hi)
  pis_zero := h.piFresh hc.pis_zero

theorem Spec.appends (h : Spec k m c a g j S V H) (hk : 2 ≤ k) : Appends c (m.run c).2 g j :=
  ⟨h.ext, h.gates, h.wit, h.plain hk⟩

/-- the rows of an exact component, read in a later state -/
theorem Spec.rows_iff (h : Spec k m c a g j S V H) (hk : 1 ≤ k) (hc : PiFresh c) {c'' : Composer}
    (hext : Extends (m.run c).2 c'') (w : Nat → Nat) :
    c''.rowsHoldW w c.gates.size (m.run c).2.gates.size ↔ S w :=
  ⟨h.sound hc hext w, fun hS => (h.appendsL.rows_ext hext w).mpr (h.conv hk hc w hS)⟩

/-- … and in its own final state -/
theorem Spec.rows_iff_self (h : Spec k m c a g j S V H) (hk : 1 ≤ k) (hc : PiFresh c)
    (w : Nat → Nat) :
    (m.run c).2.rowsHoldW w c.gates.size (m.run c).2.gates.size ↔ S w :=
  h.rows_iff hk hc (Extends.refl _) w

/-- `complete`, the rows read in the component's own final state -/
theorem Spec.complete_self (h : Spec k m c a g j S V H) (hc : PiFresh c) {c'' : Composer}
    (hext : Extends (m.run c).2 c'') (hH : H c''.val) :
    (m.run c).2.rowsHoldW c''.val c.gates.size (m.run c).2.gates.size :=
  (h.appendsL.rows_ext hext _).mp (h.complete hc hext hH)

/-- what the rows say of the model's own table: the values it stores in the wires the rows
    determine -/
theorem Spec.sound_val (h : Spec k m c a g j S V H) (hc : PiFresh c) {c'' : Composer}
    (hext : Extends (m.run c).2 c'') (hH : H c''.val) : S c''.val :=
  h.sound hc hext _ (h.complete hc hext hH)

/-- a specification speaks of `m.run c` only -/
theorem Spec.congr {m' : CM α} (e : m.run c = m'.run c) (h : Spec k m' c a g j S V H) :
    Spec k m c a g j S V H := by
  refine ⟨?_, ?_, ?_, ?_, ?_, ?_, ?_, ?_, ?_⟩ <;> rw [e]
  exacts [h.fst, h.appendsL, h.piFresh, h.red, h.sound, h.vals, h.complete, h.conv, h.plain]

/-- a program that only reads the state (`pure`, `getVal`, `get`) -/
theorem Spec.of_run_eq (h : m.run c = (a, c)) :
    Spec 2 m c a 0 0 (fun _ => True) (fun _ => True) (fun _ => True) := by
  refine ⟨?_, ?_, ?_, ?_, ?_, ?_, ?_, ?_, ?_⟩ <;> rw [h]
  · exact AppendsL.refl c
  · exact fun h => h
  · exact fun i hi => by rw [val_of_size_le c hi]; exact R_pos
  · exact fun _ _ _ _ _ => trivial
  · exact fun _ => trivial
  · exact fun _ _ _ _ => rowsHoldW_empty _ _ _
  · exact fun _ _ _ _ => rowsHoldW_empty _ _ _
  · exact fun _ _ h₁ h₂ => absurd h₂ (Nat.not_lt.mpr h₁)

theorem Spec.pure (a : α) (c : Composer) :
    Spec 2 (pure a : CM α) c a 0 0 (fun _ => True) (fun _ => True) (fun _ => True) :=
  .of_run_eq rfl

/-- Sequential composition. For completeness the second part may use what the rows of the first
    say about the table. -/
theorem Spec.bind (h₁ : Spec k m c a g j S V H)
    (h₂ : Spec k' (f a) (m.run c).2 b g' j' S' V' H') :
    Spec (min k k') (m >>= f) c b (g + g') (j + j') (fun w => S w ∧ S' w) (fun v => V v ∧ V' v)
      (fun v => H v ∧ (S v → H' v)) := by
  have e := run_bind_of_fst (f := f) h₁.fst
  refine ⟨?_, ?_, ?_, ?_, ?_, ?_, ?_, ?_, ?_⟩ <;> rw [e]
  · exact h₂.fst
  · exact h₁.appendsL.trans h₂.appendsL
  · exact fun h => h₂.piFresh (h₁.piFresh h)
  · intro i hi
    by_cases h : (m.run c).2.wit.size ≤ i
    · exact h₂.red i h
    · rw [h₂.ext.val_eq (Nat.lt_of_not_le h)]; exact h₁.red i hi
  · intro h _ hext w hr
    have hs := (rowsHoldW_split _ w h₁.ext.gates_size h₂.ext.gates_size).mp hr
    exact ⟨h₁.sound h (h₂.ext.trans hext) w hs.1, h₂.sound (h₁.piFresh h) hext w hs.2⟩
  · exact fun hext => ⟨h₁.vals (h₂.ext.trans hext), h₂.vals hext⟩
  · intro h _ hext hH
    have r := h₁.complete h (h₂.ext.trans hext) hH.1
    exact (rowsHoldW_split _ _ h₁.ext.gates_size h₂.ext.gates_size).mpr
      ⟨r, h₂.complete (h₁.piFresh h) hext (hH.2 (h₁.sound h (h₂.ext.trans hext) _ r))⟩
  · intro hk hc w hS
    exact (h₁.appendsL.rows_split h₂.ext w).mpr
      ⟨h₁.conv (Nat.le_trans hk (Nat.min_le_left ..)) hc w hS.1,
        h₂.conv (Nat.le_trans hk (Nat.min_le_right ..)) (h₁.piFresh hc) w hS.2⟩
  · intro hk
    exact ((h₁.appends (Nat.le_trans hk (Nat.min_le_left ..))).trans
      (h₂.appends (Nat.le_trans hk (Nat.min_le_right ..)))).plain

/-- a step that only reads the state contributes nothing -/
theorem Spec.bind_read (h : m.run c = (a, c)) (h₂ : Spec k (f a) c b g j S V H) :
    Spec k (m >>= f) c b g j S V H :=
  h₂.congr (by rw [run_bind_of_fst (congrArg Prod.fst h), h])

/-- the result of the last step passed through a function -/
theorem Spec.bind_pure {β : Type} (φ : α → β) (h : Spec k m c a g j S V H) :
    Spec k (m >>= fun x => Pure.pure (φ x)) c (φ a) g j S V H := by
  refine ⟨?_, ?_, ?_, ?_, ?_, ?_, ?_, ?_, ?_⟩ <;> rw [run_bind_of_fst h.fst]
  exacts [rfl, h.appendsL, h.piFresh, h.red, h.sound, h.vals, h.complete, h.conv, h.plain]

/-- Weakening: a lower kind, another spelling of result and counts, a weaker `S` (equivalent, if
    the kind stays exact), a weaker `V`, a stronger `H`. The table `v` is a later one: it agrees
    with `c.val` on the witnesses of `c` and is reduced on those of the component. -/
theorem Spec.mono (h : Spec k m c a g j S V H) (hk : k' ≤ k) (ha : a = a') (hg : g = g')
    (hj : j = j') (hS : ∀ w, S w → S' w) (hS' : 1 ≤ k' → ∀ w, S' w → S w)
    (hV : ∀ v, (∀ i < c.wit.size, v i = c.val i) → V v → V' v)
    (hH : ∀ v, (∀ i < c.wit.size, v i = c.val i) →
      (∀ i, c.wit.size ≤ i → i < c.wit.size + j → v i < R) → V v → H' v → H v) :
    Spec k' m c a' g' j' S' V' H' where
  fst := ha ▸ h.fst
  appendsL := hg ▸ hj ▸ h.appendsL
  piFresh := h.piFresh
  red := h.red
  sound hc _ hext w hr := hS w (h.sound hc hext w hr)
  vals hext := hV _ (fun _ hi => (h.ext.trans hext).val_eq hi) (h.vals hext)
  complete hc _ hext hH' :=
    h.complete hc hext (hH _ (fun _ hi => (h.ext.trans hext).val_eq hi)
      (fun i hi hi' => by rw [hext.val_eq (h.wit ▸ hi')]; exact h.red i hi) (h.vals hext) hH')
  conv hk' hc w hS'w := h.conv (Nat.le_trans hk' hk) hc w (hS' hk' w hS'w)
  plain hk' := h.plain (Nat.le_trans hk' hk)

/-- `Spec.mono` with an equivalent reading of the rows -/
theorem Spec.mono_iff (h : Spec k m c a g j S V H) (hk : k' ≤ k) (ha : a = a') (hg : g = g')
    (hj : j = j') (hS : ∀ w, S w ↔ S' w)
    (hV : ∀ v, (∀ i < c.wit.size, v i = c.val i) → V v → V' v)
    (hH : ∀ v, (∀ i < c.wit.size, v i = c.val i) →
      (∀ i, c.wit.size ≤ i → i < c.wit.size + j → v i < R) → V v → H' v → H v) :
    Spec k' m c a' g' j' S' V' H' :=
  h.mono hk ha hg hj (fun w => (hS w).mp) (fun _ w => (hS w).mpr) hV hH

/-- plain gates whose rows mean `S`; the model's table satisfies `S` when it satisfies `H` -/
theorem Spec.of_rows (hr : (m.run c).1 = a) (hA : Appends c (m.run c).2 g j)
    (hpi : PiFresh c → PiFresh (m.run c).2) (hred : ∀ i, c.wit.size ≤ i → (m.run c).2.val i < R)
    (hrows : PiFresh c → ∀ w,
      (m.run c).2.rowsHoldW w c.gates.size (m.run c).2.gates.size ↔ S w)
    (hH : ∀ {c''}, Extends (m.run c).2 c'' → H c''.val → S c''.val) :
    Spec 2 m c a g j S (fun _ => True) H where
  fst := hr
  appendsL := hA.toL
  piFresh := hpi
  red := hred
  sound h _ hext w hr := (hrows h w).mp ((hA.toL.rows_ext hext w).mp hr)
  vals _ := trivial
  complete h _ hext hv := (hA.toL.rows_ext hext _).mpr ((hrows h _).mpr (hH hext hv))
  conv _ h w hS := (hrows h w).mpr hS
  plain _ := hA.plain

end

end Composer
end Plonk
