/-
  C05 (prover exactness), algebraic half — bridge from the model's widget scalars
  (`rangeScalar`, `logicScalar`, `fixedScalar`, `varScalar` of `Model/Verifier.lean`, built from the
  row-semantics functions `rangeComps`, `logicComps`, `fixedComps`, `varComps` of `Model/Gate.lean`)
  to the field-level weighted sums of `QuotientMath/QuotientNum`, and from the challenge-weighted
  row expression to the model's Boolean row check `rowHolds` (`gate_sum_zero_iff`).
-/
import Plonk.Proofs.RowBridge
import Plonk.Proofs.LogicRows
import Plonk.Proofs.FixedBaseRows
import Plonk.Proofs.EdwardsRows
import Plonk.Proofs.QuotientNum
import Plonk.Model.Verifier

namespace Plonk.Quot
open Plonk

/-- the wire values of a row in the field -/
def wiresF (a b c d an bn dn : Nat) : Wires F :=
  ⟨toF a, toF b, toF c, toF d, toF an, toF bn, toF dn⟩

/-- the selector values of a gate in the field -/
def selF (g : Gate) : Sel F :=
  ⟨toF g.qm, toF g.ql, toF g.qr, toF g.qo, toF g.qf, toF g.qc, toF g.qarith, toF g.qrange,
    toF g.qlogic, toF g.qfixed, toF g.qvar⟩

theorem deltaF_eq_deltaR (x : F) : deltaF x = deltaR x := rfl

theorem toF_getD_eq_map_getD (l : List Nat) (j : Nat) : toF (l.getD j 0) = (l.map toF).getD j 0 := by
  rw [List.getD_eq_getElem?_getD, List.getD_eq_getElem?_getD, List.getElem?_map]
  cases l[j]? <;> simp

theorem map_toF_rangeComps (a b c d an bn dn : Nat) :
    (rangeComps a b c d dn).map toF = rangeCompsR (wiresF a b c d an bn dn) := by
  simp [rangeComps, rangeCompsR, wiresF, deltaF_eq_deltaR]

theorem deltaXorAndF_eq_R (a b w c qc : F) : deltaXorAndF a b w c qc = deltaXorAndR a b w c qc := rfl

theorem map_toF_logicComps (qc a an b bn c d dn : Nat) :
    (logicComps qc a an b bn c d dn).map toF = logicCompsR (toF qc) (wiresF a b c d an bn dn) := by
  simp [logicComps, logicCompsR, wiresF, deltaF_eq_deltaR, deltaXorAndF_eq_R]

theorem map_toF_fixedComps (ql qr qc a an b bn c d dn : Nat) :
    (fixedComps ql qr qc a an b bn c d dn).map toF =
      fixedCompsR (toF ql) (toF qr) (toF qc) (wiresF a b c d an bn dn) := by
  simp only [fixedComps, fixedCompsR, wiresF, List.map_cons, List.map_nil, toF_fadd, toF_fmul,
    toF_fsub, toF_fsq, toF_one]
  rfl

theorem map_toF_varComps (a an b bn c d dn : Nat) :
    (varComps a an b bn c d dn).map toF = varCompsR (wiresF a b c d an bn dn) := by
  simp only [varComps, varCompsR, wiresF, List.map_cons, List.map_nil, toF_fadd, toF_fmul,
    toF_fsub]
  rfl

theorem rangeComps_lt (a b c d dn : Nat) : ∀ x ∈ rangeComps a b c d dn, x < R := by
  intro x hx
  simp only [rangeComps, List.mem_cons, List.mem_nil_iff, or_false] at hx
  rcases hx with h | h | h | h <;> (rw [h]; exact delta_lt _)

theorem logicComps_lt (qc a an b bn c d dn : Nat) : ∀ x ∈ logicComps qc a an b bn c d dn, x < R := by
  intro x hx
  simp only [logicComps, List.mem_cons, List.mem_nil_iff, or_false] at hx
  rcases hx with h | h | h | h | h <;> rw [h]
  · exact delta_lt _
  · exact delta_lt _
  · exact delta_lt _
  · exact fsub_lt _ _
  · exact deltaXorAnd_lt _ _ _ _ _

theorem toF_rangeScalar_wsum (sep : Nat) (e : Evals) :
    toF (rangeScalar sep e) =
      wsum (rangeCompsR (wiresF e.a e.b e.c e.d e.aw e.bw e.dw)) (toF sep) := by
  simp only [rangeScalar, toF_fmul, toF_fadd, toF_fsq, toF_getD_eq_map_getD,
    map_toF_rangeComps e.a e.b e.c e.d e.aw e.bw e.dw]
  simp only [rangeCompsR, wsum, hornerSq, List.getD_cons_zero, List.getD_cons_succ]
  ring

theorem toF_logicScalar_wsum (sep : Nat) (e : Evals) :
    toF (logicScalar sep e) =
      wsum (logicCompsR (toF e.qc) (wiresF e.a e.b e.c e.d e.aw e.bw e.dw)) (toF sep) := by
  simp only [logicScalar, toF_fmul, toF_fadd, toF_fsq, toF_getD_eq_map_getD, map_toF_logicComps]
  simp only [logicCompsR, wsum, hornerSq, List.getD_cons_zero, List.getD_cons_succ]
  ring

theorem toF_fixedScalar_wsum (sep : Nat) (e : Evals) :
    toF (fixedScalar sep e) =
      wsum (fixedCompsR (toF e.ql) (toF e.qr) (toF e.qc) (wiresF e.a e.b e.c e.d e.aw e.bw e.dw))
        (toF sep) := by
  simp only [fixedScalar, toF_fmul, toF_fadd, toF_fsq, toF_getD_eq_map_getD, map_toF_fixedComps]
  -- only the shape of the list matters: keep the four components opaque for `ring`
  generalize hcs : fixedCompsR (A := F) _ _ _ _ = cs
  obtain ⟨c0, c1, c2, c3, rfl⟩ : ∃ c0 c1 c2 c3, cs = [c0, c1, c2, c3] := ⟨_, _, _, _, hcs.symm⟩
  simp only [wsum, hornerSq, List.getD_cons_zero, List.getD_cons_succ]
  ring

theorem toF_varScalar_wsum (sep : Nat) (e : Evals) :
    toF (varScalar sep e) = wsum (varCompsR (wiresF e.a e.b e.c e.d e.aw e.bw e.dw)) (toF sep) := by
  simp only [varScalar, toF_fmul, toF_fadd, toF_fsq, toF_getD_eq_map_getD, map_toF_varComps]
  simp only [varCompsR, wsum, hornerSq, List.getD_cons_zero, List.getD_cons_succ]
  ring

/-- a selector-guarded widget check of `rowHolds` in the field; this direction needs no bound on `q` -/
theorem widget_of (q : Nat) (cs : List Nat) (hcs : ∀ x ∈ cs, x < R)
    (h : (q == 0 || allZero cs) = true) : ∀ c ∈ cs.map toF, toF q * c = 0 := by
  intro c hc
  rcases Bool.or_eq_true _ _ ▸ h with h | h
  · rw [beq_iff_eq.mp h, toF_zero, zero_mul]
  · obtain ⟨x, hx, rfl⟩ := List.mem_map.mp hc
    rw [(allZero_iff cs hcs).mp h x hx, mul_zero]

theorem widget_iff (q : Nat) (hq : q < R) (cs : List Nat) (hcs : ∀ x ∈ cs, x < R) :
    (q == 0 || allZero cs) = true ↔ ∀ c ∈ cs.map toF, toF q * c = 0 := by
  refine ⟨widget_of q cs hcs, fun h => ?_⟩
  rw [Bool.or_eq_true, beq_zero_iff hq, allZero_iff cs hcs]
  by_cases h0 : toF q = 0
  · exact Or.inl h0
  · exact Or.inr fun x hx => (mul_eq_zero.mp (h _ (List.mem_map.mpr ⟨x, hx, rfl⟩))).resolve_left h0

/-- selectors that `rowHolds` tests against zero are canonical representatives -/
structure SelReduced (g : Gate) : Prop where
  qrange : g.qrange < R
  qlogic : g.qlogic < R
  qfixed : g.qfixed < R
  qvar : g.qvar < R

theorem arithF_eq (g : Gate) (a b c d an bn dn pi : Nat) :
    arithF g (toF a) (toF b) (toF c) (toF d) (toF pi) =
      arithR (selF g) (wiresF a b c d an bn dn) + toF pi := rfl

/-- `rowHolds` in the field, for arbitrary (possibly non-canonical) selectors: the arithmetic
    identity (with the public input) and, per widget, selector times component `= 0` -/
theorem rowHolds_field (g : Gate) (a b c d an bn dn pi : Nat)
    (h : rowHolds g a b c d an bn dn pi = true) :
    arithR (selF g) (wiresF a b c d an bn dn) + toF pi = 0 ∧
    (∀ x ∈ rangeCompsR (wiresF a b c d an bn dn), toF g.qrange * x = 0) ∧
    (∀ x ∈ logicCompsR (toF g.qc) (wiresF a b c d an bn dn), toF g.qlogic * x = 0) ∧
    (∀ x ∈ fixedCompsR (toF g.ql) (toF g.qr) (toF g.qc) (wiresF a b c d an bn dn),
      toF g.qfixed * x = 0) ∧
    (∀ x ∈ varCompsR (wiresF a b c d an bn dn), toF g.qvar * x = 0) := by
  unfold rowHolds at h
  rw [Bool.and_eq_true, Bool.and_eq_true, Bool.and_eq_true, Bool.and_eq_true, arithVal_beq_zero,
    arithF_eq g a b c d an bn dn pi] at h
  obtain ⟨⟨⟨⟨h0, h1⟩, h2⟩, h3⟩, h4⟩ := h
  have e1 := widget_of _ _ (rangeComps_lt a b c d dn) h1
  have e2 := widget_of _ _ (logicComps_lt g.qc a an b bn c d dn) h2
  have e3 := widget_of _ _ (fixedComps_lt g.ql g.qr g.qc a an b bn c d dn) h3
  have e4 := widget_of _ _ (varComps_lt a an b bn c d dn) h4
  rw [map_toF_rangeComps a b c d an bn dn] at e1
  rw [map_toF_logicComps] at e2
  rw [map_toF_fixedComps] at e3
  rw [map_toF_varComps] at e4
  exact ⟨h0, e1, e2, e3, e4⟩

/-- `rowHolds` in the field: the arithmetic identity (with the public input) and, per widget,
    selector times component `= 0` for every component -/
theorem rowHolds_iff_field (g : Gate) (hg : SelReduced g) (a b c d an bn dn pi : Nat) :
    rowHolds g a b c d an bn dn pi = true ↔
      arithR (selF g) (wiresF a b c d an bn dn) + toF pi = 0 ∧
      (∀ x ∈ rangeCompsR (wiresF a b c d an bn dn), toF g.qrange * x = 0) ∧
      (∀ x ∈ logicCompsR (toF g.qc) (wiresF a b c d an bn dn), toF g.qlogic * x = 0) ∧
      (∀ x ∈ fixedCompsR (toF g.ql) (toF g.qr) (toF g.qc) (wiresF a b c d an bn dn),
        toF g.qfixed * x = 0) ∧
      (∀ x ∈ varCompsR (wiresF a b c d an bn dn), toF g.qvar * x = 0) := by
  unfold rowHolds
  rw [Bool.and_eq_true, Bool.and_eq_true, Bool.and_eq_true, Bool.and_eq_true,
    arithVal_beq_zero, arithF_eq g a b c d an bn dn pi,
    widget_iff _ hg.qrange _ (rangeComps_lt a b c d dn),
    widget_iff _ hg.qlogic _ (logicComps_lt g.qc a an b bn c d dn),
    widget_iff _ hg.qfixed _ (fixedComps_lt g.ql g.qr g.qc a an b bn c d dn),
    widget_iff _ hg.qvar _ (varComps_lt a an b bn c d dn),
    map_toF_rangeComps a b c d an bn dn, map_toF_logicComps, map_toF_fixedComps, map_toF_varComps,
    and_assoc, and_assoc, and_assoc]

theorem length_rangeCompsR {A : Type*} [CommRing A] (w : Wires A) : (rangeCompsR w).length = 4 := rfl
theorem length_logicCompsR {A : Type*} [CommRing A] (qc : A) (w : Wires A) : (logicCompsR qc w).length = 5 := rfl
theorem length_fixedCompsR {A : Type*} [CommRing A] (ql qr qc : A) (w : Wires A) : (fixedCompsR ql qr qc w).length = 4 := rfl
theorem length_varCompsR {A : Type*} [CommRing A] (w : Wires A) : (varCompsR w).length = 3 := rfl

/-- the weighted row expression as a constant plus four selector-weighted sums, the form of
    `sum4_grid_zero` / `sum4_bad_set` -/
theorem gateSumR_eq {A : Type*} [CommRing A] (q : Sel A) (w : Wires A) (pi : A) (s : Seps A) :
    gateSumR q w pi s =
      arithR q w + pi + q.qrange * wsum (rangeCompsR w) s.rs + q.qlogic * wsum (logicCompsR q.qc w) s.ls +
        q.qfixed * wsum (fixedCompsR q.ql q.qr q.qc w) s.fs + q.qvar * wsum (varCompsR w) s.vs := by
  unfold gateSumR
  ring

/-- completeness direction: a row that holds makes the weighted row expression vanish for every
    choice of the four separation challenges -/
theorem gate_sum_zero_of_rowHolds (g : Gate) (a b c d an bn dn pi : Nat)
    (h : rowHolds g a b c d an bn dn pi = true) (s : Seps F) :
    gateSumR (selF g) (wiresF a b c d an bn dn) (toF pi) s = 0 := by
  obtain ⟨h0, h1, h2, h3, h4⟩ := rowHolds_field g a b c d an bn dn pi h
  rw [gateSumR_eq, h0, mul_wsum_eq_zero (selF g).qrange _ h1,
    mul_wsum_eq_zero (selF g).qlogic (logicCompsR (selF g).qc _) h2,
    mul_wsum_eq_zero (selF g).qfixed (fixedCompsR (selF g).ql (selF g).qr (selF g).qc _) h3,
    mul_wsum_eq_zero (selF g).qvar _ h4, add_zero, add_zero, add_zero, add_zero]

/-- **The weighted row expression and the row check.** For a grid of separation challenges with
    more than `7 / 9 / 7 / 5` values per axis:
    `arith + q_range·range(ρ) + q_logic·logic(λ) + q_fixed·fixed(φ) + q_var·var(ν) + PI` vanishes on
    the whole grid iff `rowHolds` is true (and then it vanishes for *all* challenges). -/
theorem gate_sum_zero_iff (g : Gate) (hg : SelReduced g) (a b c d an bn dn pi : Nat)
    (Sr Sl Sf Sv : Finset F) (hr : 7 < Sr.card) (hl : 9 < Sl.card) (hf : 7 < Sf.card)
    (hv : 5 < Sv.card) :
    (∀ ρ ∈ Sr, ∀ l ∈ Sl, ∀ φ ∈ Sf, ∀ ν ∈ Sv,
      gateSumR (selF g) (wiresF a b c d an bn dn) (toF pi) ⟨ρ, l, φ, ν⟩ = 0) ↔
    rowHolds g a b c d an bn dn pi = true :=
  ⟨fun h =>
    (rowHolds_iff_field g hg a b c d an bn dn pi).mpr <|
      sum4_grid_zero (arithR (selF g) (wiresF a b c d an bn dn) + toF pi) (toF g.qrange) (toF g.qlogic)
        (toF g.qfixed) (toF g.qvar) (rangeCompsR (wiresF a b c d an bn dn))
        (logicCompsR (toF g.qc) (wiresF a b c d an bn dn))
        (fixedCompsR (toF g.ql) (toF g.qr) (toF g.qc) (wiresF a b c d an bn dn))
        (varCompsR (wiresF a b c d an bn dn)) Sr Sl Sf Sv (by omega) (by omega) (by omega) (by omega)
        (by rw [length_rangeCompsR]; exact hr) (by rw [length_logicCompsR]; exact hl)
        (by rw [length_fixedCompsR]; exact hf) (by rw [length_varCompsR]; exact hv)
        fun ρ hρ l hl φ hφ ν hν =>
          (gateSumR_eq (selF g) (wiresF a b c d an bn dn) (toF pi) ⟨ρ, l, φ, ν⟩).symm.trans
            (h ρ hρ l hl φ hφ ν hν),
   fun h ρ _ l _ φ _ ν _ => gate_sum_zero_of_rowHolds g a b c d an bn dn pi h ⟨ρ, l, φ, ν⟩⟩

/-- The explicit bad set: if the row does **not** hold, then for one of the four separation
    challenges (the one of a failing widget) and any values of the other three, the weighted row
    expression vanishes for at most `7 / 9 / 7 / 5` values of that challenge — or it is a non-zero
    constant (arithmetic identity fails and no widget component is selected). -/
theorem gate_sum_bad_set (g : Gate) (hg : SelReduced g) (a b c d an bn dn pi : Nat)
    (h : rowHolds g a b c d an bn dn pi = false) :
    let E := fun s : Seps F => gateSumR (selF g) (wiresF a b c d an bn dn) (toF pi) s
    (∀ s, E s ≠ 0) ∨
    (∀ l φ ν, ∀ S : Finset F, (∀ ρ ∈ S, E ⟨ρ, l, φ, ν⟩ = 0) → S.card ≤ 7) ∨
    (∀ ρ φ ν, ∀ S : Finset F, (∀ l ∈ S, E ⟨ρ, l, φ, ν⟩ = 0) → S.card ≤ 9) ∨
    (∀ ρ l ν, ∀ S : Finset F, (∀ φ ∈ S, E ⟨ρ, l, φ, ν⟩ = 0) → S.card ≤ 7) ∨
    (∀ ρ l φ, ∀ S : Finset F, (∀ ν ∈ S, E ⟨ρ, l, φ, ν⟩ = 0) → S.card ≤ 5) := by
  intro E
  have hnot : ¬ rowHolds g a b c d an bn dn pi = true := by rw [h]; exact Bool.false_ne_true
  rw [rowHolds_iff_field g hg] at hnot
  have hE (s : Seps F) := gateSumR_eq (selF g) (wiresF a b c d an bn dn) (toF pi) s
  have H := sum4_bad_set (arithR (selF g) (wiresF a b c d an bn dn) + toF pi) (toF g.qrange)
    (toF g.qlogic) (toF g.qfixed) (toF g.qvar) (rangeCompsR (wiresF a b c d an bn dn))
    (logicCompsR (toF g.qc) (wiresF a b c d an bn dn))
    (fixedCompsR (toF g.ql) (toF g.qr) (toF g.qc) (wiresF a b c d an bn dn))
    (varCompsR (wiresF a b c d an bn dn)) hnot
  rw [length_rangeCompsR, length_logicCompsR, length_fixedCompsR, length_varCompsR] at H
  refine H.imp (fun H s => (hE s).trans_ne (H s.rs s.ls s.fs s.vs)) ?_
  refine Or.imp (fun H l φ ν S hS => H l φ ν S fun ρ hρ => (hE ⟨ρ, l, φ, ν⟩).symm.trans (hS ρ hρ)) ?_
  refine Or.imp (fun H ρ φ ν S hS => H ρ φ ν S fun l hl => (hE ⟨ρ, l, φ, ν⟩).symm.trans (hS l hl)) ?_
  exact Or.imp (fun H ρ l ν S hS => H ρ l ν S fun φ hφ => (hE ⟨ρ, l, φ, ν⟩).symm.trans (hS φ hφ))
    (fun H ρ l φ S hS => H ρ l φ S fun ν hν => (hE ⟨ρ, l, φ, ν⟩).symm.trans (hS ν hν))

end Plonk.Quot
