/-
  C05 (permutation half), part 4: `sigmaMaps` depends only on the partition of the wire positions
  induced by the wiring — invariance under injective relabelling of the witnesses (C15) and under
  the order in which the witnesses are processed (C18, `HashMap` iteration order).
-/
import Plonk.Proofs.PermutationCycles

namespace Plonk
namespace Perm

/-! ### congruence -/

theorem tableOf_congr {f g : Pos → Pos} (n : Nat) (h : ∀ p, p.1 < 4 → p.2 < n → f p = g p) :
    tableOf f n = tableOf g n := by
  unfold tableOf
  apply Array.ext
  · simp
  · intro col h1 h2
    have hcol : col < 4 := by simpa using h1
    apply Array.ext
    · simp
    · intro i h3 h4
      have hi : i < n := by simpa using h3
      simpa using h (col, i) hcol hi

/-- two layouts whose wirings induce the same partition of the positions (and agree on which
    positions are wired to allocated witnesses) have the same `σ` -/
theorem sigmaFn_congr (c c' : Composer) (hsz : c.gates.size = c'.gates.size)
    (heq : ∀ p q : Pos, p.1 < 4 → p.2 < c.gates.size → q.1 < 4 → q.2 < c.gates.size →
      (wireAt c p = wireAt c q ↔ wireAt c' p = wireAt c' q))
    (hrg : ∀ p : Pos, p.1 < 4 → p.2 < c.gates.size → (wireAt c p < c.wit.size ↔ wireAt c' p < c'.wit.size))
    (p : Pos) : sigmaFn c p = sigmaFn c' p := by
  by_cases h : Active c p
  · have h' : Active c' p := ⟨⟨h.1.1, hsz ▸ h.1.2⟩, (hrg p h.1.1 h.1.2).mp h.2⟩
    rw [sigmaFn_of_active h, sigmaFn_of_active h']
    have : classOf c (wireAt c p) = classOf c' (wireAt c' p) := by
      unfold classOf
      rw [← hsz]
      apply List.filter_congr
      intro q hq
      rw [mem_allPos] at hq
      have := heq q p hq.1 hq.2 h.1.1 h.1.2
      by_cases e : wireAt c q = wireAt c p
      · simp [e, this.mp e]
      · have e' : ¬ wireAt c' q = wireAt c' p := fun x => e (this.mpr x)
        simp [e, e']
    rw [this]
  · have h' : ¬ Active c' p := by
      intro h'
      have hb : p.2 < c.gates.size := hsz ▸ h'.1.2
      exact h ⟨⟨h'.1.1, hb⟩, (hrg p h'.1.1 hb).mpr h'.2⟩
    rw [sigmaFn_of_not_active h, sigmaFn_of_not_active h']

theorem sigmaMaps_congr (c c' : Composer) (n : Nat) (hsz : c.gates.size = c'.gates.size)
    (heq : ∀ p q : Pos, p.1 < 4 → p.2 < c.gates.size → q.1 < 4 → q.2 < c.gates.size →
      (wireAt c p = wireAt c q ↔ wireAt c' p = wireAt c' q))
    (hrg : ∀ p : Pos, p.1 < 4 → p.2 < c.gates.size → (wireAt c p < c.wit.size ↔ wireAt c' p < c'.wit.size)) :
    sigmaMaps c n = sigmaMaps c' n := by
  rw [sigmaMaps_eq_table, sigmaMaps_eq_table]
  exact tableOf_congr n (fun p _ _ => sigmaFn_congr c c' hsz heq hrg p)

/-! ### relabelling the witnesses -/

/-- apply `f` to the four wires of a gate -/
def relabelGate (f : Nat → Nat) (g : Gate) : Gate := { g with a := f g.a, b := f g.b, c := f g.c, d := f g.d }

/-- apply `f` to every wire of the layout -/
def mapWires (f : Nat → Nat) (c : Composer) : Composer := { c with gates := c.gates.map (relabelGate f) }

theorem wireAt_relabel (f : Nat → Nat) (c c' : Composer) (hg : c'.gates = c.gates.map (relabelGate f))
    (p : Pos) (hp : p.2 < c.gates.size) : wireAt c' p = f (wireAt c p) := by
  have e : c'.gateAt p.2 = relabelGate f (c.gateAt p.2) := by
    unfold Composer.gateAt
    rw [hg, Array.getD_eq_getD_getElem?, Array.getD_eq_getD_getElem?, Array.getElem?_map,
      Array.getElem?_eq_getElem hp]
    rfl
  unfold wireAt
  rw [e]
  split <;> rfl

/-- relabelling invariance: if the gates of `c'` are those of `c` with the wires renamed by a
    map `f` that is injective on the wires in use and preserves "allocated", the permutation is
    unchanged -/
theorem relabel_sigma (f : Nat → Nat) (c c' : Composer) (n : Nat)
    (hg : c'.gates = c.gates.map (relabelGate f))
    (hinj : ∀ p q : Pos, p.1 < 4 → p.2 < c.gates.size → q.1 < 4 → q.2 < c.gates.size →
      f (wireAt c p) = f (wireAt c q) → wireAt c p = wireAt c q)
    (hrg : ∀ p : Pos, p.1 < 4 → p.2 < c.gates.size →
      (wireAt c p < c.wit.size ↔ f (wireAt c p) < c'.wit.size)) :
    sigmaMaps c' n = sigmaMaps c n := by
  have hsz : c.gates.size = c'.gates.size := by rw [hg]; simp
  refine (sigmaMaps_congr c c' n hsz ?_ ?_).symm
  · intro p q hp1 hp2 hq1 hq2
    rw [wireAt_relabel f c c' hg p hp2, wireAt_relabel f c c' hg q hq2]
    exact ⟨fun h => by rw [h], hinj p q hp1 hp2 hq1 hq2⟩
  · intro p hp1 hp2
    rw [wireAt_relabel f c c' hg p hp2]
    exact hrg p hp1 hp2

/-- the special case `c' = mapWires f c` -/
theorem relabel_sigma_mapWires (f : Nat → Nat) (c : Composer) (n : Nat)
    (hinj : ∀ p q : Pos, p.1 < 4 → p.2 < c.gates.size → q.1 < 4 → q.2 < c.gates.size →
      f (wireAt c p) = f (wireAt c q) → wireAt c p = wireAt c q)
    (hrg : ∀ p : Pos, p.1 < 4 → p.2 < c.gates.size →
      (wireAt c p < c.wit.size ↔ f (wireAt c p) < c.wit.size)) :
    sigmaMaps (mapWires f c) n = sigmaMaps c n :=
  relabel_sigma f c (mapWires f c) n rfl hinj hrg

/-- the special case of a globally injective relabelling that preserves "allocated" -/
theorem relabel_sigma_of_injective (f : Nat → Nat) (hf : Function.Injective f) (c : Composer) (n : Nat)
    (hrg : ∀ w, w < c.wit.size ↔ f w < c.wit.size) :
    sigmaMaps (mapWires f c) n = sigmaMaps c n :=
  relabel_sigma_mapWires f c n (fun _ _ _ _ _ _ h => hf h) (fun _ _ _ => hrg _)

/-! ### order of processing the witnesses -/

/-- `compute_sigma_permutations` with the witnesses visited in the order `order` (the Rust code
    iterates a `HashMap`, i.e. visits every key once in an unspecified order) -/
def sigmaMapsOrder (c : Composer) (n : Nat) (order : List Nat) : Array (Array (Nat × Nat)) := Id.run do
  let mut s : Array (Array (Nat × Nat)) := (Array.range 4).map fun col => (Array.range n).map fun i => (col, i)
  let wp := wirePositions c
  for w in order do
    let l := wp.getD w []
    let k := l.length
    for (j, (col, i)) in l.zipIdx.map (fun (p, j) => (j, p)) do
      let nxt := l.getD ((j + 1) % k) (col, i)
      s := s.modify col (fun a => a.setIfInBounds i nxt)
  return s

theorem sigmaMapsOrder_eq (c : Composer) (n : Nat) (order : List Nat) :
    sigmaMapsOrder c n order =
      (order.map fun w => (wirePositions c).getD w []).foldl writeCycle (ident n) := by
  unfold sigmaMapsOrder
  simp only [Id.run, bind_pure_comp, map_pure, List.forIn_pure_yield_eq_foldl, bind_pure]
  rw [List.foldl_map]
  rfl

/-- the model's own order is `0, 1, …, wit.size − 1` -/
theorem sigmaMapsOrder_range (c : Composer) (n : Nat) :
    sigmaMapsOrder c n (List.range c.wit.size) = sigmaMaps c n := by
  rw [sigmaMapsOrder_eq, sigmaMaps_eq, wirePositions_toList]
  congr 1
  apply List.map_congr_left
  intro w hw
  exact wirePositions_getD c w (List.mem_range.mp hw)

/-- order independence: visiting the witnesses in any order (any permutation of the key set)
    produces the same permutation tables -/
theorem sigma_order_independent (c : Composer) (n : Nat) (order : List Nat)
    (h : order.Perm (List.range c.wit.size)) : sigmaMapsOrder c n order = sigmaMaps c n := by
  rw [sigmaMapsOrder_eq, sigmaMaps_eq_table]
  have hnd : order.Nodup := h.nodup_iff.mpr List.nodup_range
  have hmap : (order.map fun w => (wirePositions c).getD w []) = order.map (classOf c) := by
    apply List.map_congr_left
    intro w hw
    exact wirePositions_getD c w (List.mem_range.mp (h.mem_iff.mp hw))
  rw [hmap]
  obtain ⟨h1, h2⟩ := foldl_classes c n order hnd
  apply table_ext h1
  intro p hp1 hp2
  rw [h2 p hp1 hp2]
  simp only [sigmaFn, h.mem_iff, List.mem_range]

end Perm
end Plonk
