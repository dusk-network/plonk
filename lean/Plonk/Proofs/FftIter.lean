/-
  C19 (FFT half), iterative transform, array level: bit reversal (`bitreverse`,
  `bitreversePermute`), specification of one butterfly chunk and of one stage of `serialFft`
  as index formulas on `getD`.
-/
import Plonk.Model.FFT
import Plonk.Proofs.FftPass
import Mathlib.Tactic.Ring

namespace Plonk
open List

/-! ### bit reversal -/

/-- bit reversal of the `l` low bits, by recursion on the low bit -/
def brev : Nat → Nat → Nat
  | 0, _ => 0
  | l + 1, n => (n % 2) * 2 ^ l + brev l (n / 2)

theorem or_bit (a b : Nat) (h : b < 2) : (a * 2) ||| b = a * 2 + b := by
  have := Nat.two_pow_add_eq_or_of_lt (i := 1) (b := b) (by simpa using h) a
  simp only [Nat.pow_one] at this
  rw [Nat.mul_comm]; exact this.symm

theorem bitreverse_fold (xs : List Nat) : ∀ (acc n : Nat),
    xs.foldl (fun (acc : Nat × Nat) _ => ((acc.1 * 2) ||| (acc.2 % 2), acc.2 / 2)) (acc, n)
      = (acc * 2 ^ xs.length + brev xs.length n, n / 2 ^ xs.length) := by
  induction xs with
  | nil => intro acc n; simp [brev]
  | cons x xs ih =>
    intro acc n
    rw [List.foldl_cons, ih, or_bit _ _ (Nat.mod_lt _ (by decide))]
    simp only [List.length_cons, brev, Nat.pow_succ]
    rw [Nat.div_div_eq_div_mul]
    congr 1
    · ring
    · rw [Nat.mul_comm]

theorem bitreverse_eq_brev (n l : Nat) : bitreverse n l = brev l n := by
  unfold bitreverse
  have := bitreverse_fold (List.range l) 0 n
  simp only [List.length_range] at this
  rw [this]; simp

theorem brev_two_mul_add (t c b : Nat) (hb : b < 2) :
    brev (t + 1) (2 * c + b) = b * 2 ^ t + brev t c := by
  rw [brev, Nat.mul_add_mod, Nat.mod_eq_of_lt hb, Nat.mul_add_div (by decide), Nat.div_eq_of_lt hb,
    Nat.add_zero]

/-- a number with its low bit split off -/
theorem exists_two_mul_add (n : Nat) : ∃ q s, s < 2 ∧ n = 2 * q + s :=
  ⟨n / 2, n % 2, Nat.mod_lt _ (by decide), (Nat.div_add_mod n 2).symm⟩

theorem brev_lt (l : Nat) : ∀ n, brev l n < 2 ^ l := by
  induction l with
  | zero => intro n; exact Nat.one_pos
  | succ l ih =>
    intro n
    obtain ⟨q, s, hs, rfl⟩ := exists_two_mul_add n
    have h1 := ih q
    have h2 : s * 2 ^ l ≤ 1 * 2 ^ l := Nat.mul_le_mul_right _ (Nat.le_of_lt_succ hs)
    rw [brev_two_mul_add l q s hs, Nat.pow_succ]
    omega

/-- recursion on the top bit -/
theorem brev_top (l : Nat) : ∀ (b r : Nat), b < 2 → r < 2 ^ l →
    brev (l + 1) (b * 2 ^ l + r) = 2 * brev l r + b := by
  induction l with
  | zero =>
    intro b r hb hr
    have : r = 0 := by simpa using hr
    subst this
    simp [brev, Nat.mod_eq_of_lt hb]
  | succ l ih =>
    intro b r hb hr
    -- split off the low bit of `r`: both sides peel it with `brev_two_mul_add`
    obtain ⟨q, s, hs, rfl⟩ := exists_two_mul_add r
    have hq : q < 2 ^ l := by rw [Nat.pow_succ] at hr; omega
    have e : b * 2 ^ (l + 1) + (2 * q + s) = 2 * (b * 2 ^ l + q) + s := by
      rw [Nat.pow_succ]; ring
    rw [e, brev_two_mul_add _ _ s hs, ih b q hb hq, brev_two_mul_add _ _ s hs, Nat.pow_succ]
    ring

/-- bit reversal is an involution on `[0, 2^l)` -/
theorem brev_brev (l : Nat) : ∀ n, n < 2 ^ l → brev l (brev l n) = n := by
  induction l with
  | zero => intro n hn; simp at hn; subst hn; rfl
  | succ l ih =>
    intro n hn
    have hn2 : n / 2 < 2 ^ l := by rw [Nat.pow_succ] at hn; omega
    have step : brev (l + 1) n = (n % 2) * 2 ^ l + brev l (n / 2) := rfl
    rw [step, brev_top l _ _ (Nat.mod_lt _ (by decide)) (brev_lt l _), ih _ hn2]
    omega

/-! ### `bitreversePermute` -/

/-- loop body of `bitreversePermute` -/
def bpStep (logN : Nat) (a : Array Nat) (k : Nat) : Array Nat :=
  let rk := bitreverse k logN
  if k < rk then
    let x := a.getD k 0; let y := a.getD rk 0
    (a.setIfInBounds k y).setIfInBounds rk x
  else a

theorem bitreversePermute_eq (a : Array Nat) (logN : Nat) :
    bitreversePermute a logN = (List.range a.size).foldl (bpStep logN) a := rfl

/-- step `k` of `bitreversePermute` exchanges `k` and `brev L k` if `k` is the smaller one -/
theorem bpStep_localOn (L k : Nat) :
    LocalOn (fun i => k < brev L k ∧ (i = k ∨ i = brev L k)) (bpStep L · k) := by
  unfold bpStep
  simp only [bitreverse_eq_brev]
  by_cases h : k < brev L k
  · simp only [h, if_true, true_and]
    refine ⟨fun _ => Array.size_setIfInBounds.trans Array.size_setIfInBounds, fun a i hi => ?_,
      fun a b hs hab i hi => ?_⟩
    · rw [getD_setIfInBounds, getD_setIfInBounds, if_neg fun h => hi (Or.inr h.1.symm),
        if_neg fun h => hi (Or.inl h.1.symm)]
    · rw [getD_setIfInBounds, getD_setIfInBounds, getD_setIfInBounds, getD_setIfInBounds,
        Array.size_setIfInBounds, Array.size_setIfInBounds, hs, hab k (Or.inl rfl),
        hab _ (Or.inr rfl), hab i hi]
  · simp only [h, if_false, false_and]
    exact LocalOn.id _

theorem bitreversePermute_spec (L : Nat) (a : Array Nat) (hsize : a.size = 2 ^ L) :
    (bitreversePermute a L).size = a.size ∧
    ∀ i, i < 2 ^ L → (bitreversePermute a L).getD i 0 = a.getD (brev L i) 0 := by
  rw [bitreversePermute_eq, hsize]
  have inv := brev_brev L
  have lt := brev_lt L
  obtain ⟨h1, h2, h3⟩ := LocalOn.pass_range (bpStep_localOn L) (2 ^ L)
    (fun k k' hk hk' i ⟨h, hi⟩ ⟨h', hi'⟩ => by
      have e := inv k (hk.trans hk'); have e' := inv k' hk'
      rcases hi with rfl | rfl <;> rcases hi' with rfl | hi'
      · exact Nat.lt_irrefl _ hk
      · rw [hi', e'] at h; exact Nat.lt_asymm h h'
      · rw [e] at h'; exact Nat.lt_asymm hk h'
      · rw [← e, hi', e'] at hk; exact Nat.lt_irrefl _ hk) a
  refine ⟨h1.trans hsize, fun i hi => ?_⟩
  -- the swap that moves `i` is step `min i (brev L i)`; a fixed point of `brev L` is never moved
  have swap : ∀ k, k < 2 ^ L → k < brev L k →
      (bpStep L a k).getD k 0 = a.getD (brev L k) 0 ∧ (bpStep L a k).getD (brev L k) 0 = a.getD k 0 := by
    intro k hk h
    unfold bpStep
    simp only [bitreverse_eq_brev, h, if_true]
    rw [getD_setIfInBounds, getD_setIfInBounds, getD_setIfInBounds, getD_setIfInBounds,
      Array.size_setIfInBounds, if_neg fun h' => Nat.ne_of_gt h h'.1, if_pos ⟨rfl, hsize ▸ hk⟩,
      if_pos ⟨rfl, hsize ▸ lt k⟩]
    exact ⟨rfl, rfl⟩
  rcases Nat.lt_trichotomy i (brev L i) with h | h | h
  · rw [h2 i hi i ⟨h, Or.inl rfl⟩, (swap i hi h).1]
  · rw [h3 i fun k hk ⟨hlt, hik⟩ => ?_, ← h]
    rcases hik with rfl | rfl
    · exact Nat.ne_of_lt hlt h
    · rw [inv k hk] at h; exact Nat.ne_of_gt hlt h
  · have hb : brev L i < brev L (brev L i) := by rw [inv i hi]; exact h
    rw [h2 _ (lt i) i ⟨hb, Or.inr (inv i hi).symm⟩]
    have := (swap _ (lt i) hb).2
    rwa [inv i hi] at this


/-! ### one butterfly chunk -/

/-- canonical representative of `wm^j`, as produced by the running product of the loop -/
def twid (wm : Nat) : Nat → Nat
  | 0 => 1 % R
  | j + 1 => fmul (twid wm j) wm

theorem twid_lt (wm j : Nat) : twid wm j < R := by
  cases j with
  | zero => exact one_mod_R_lt
  | succ j => exact fmul_lt _ _

theorem toF_twid (wm j : Nat) : toF (twid wm j) = toF wm ^ j := by
  induction j with
  | zero => simp [twid]
  | succ j ih => simp [twid, ih, pow_succ]

/-! ### one stage -/

theorem twid_succ (wm j : Nat) : twid wm (j + 1) = fmul (twid wm j) wm := rfl

/-- **one stage** in block coordinates: block `c`, place `i` of the lower and of the upper half -/
theorem stage_getD (a : Array Nat) (m wm cnt : Nat) (hb : cnt * (2 * m) ≤ a.size) {c i : Nat}
    (hc : c < cnt) (hi : i < m) :
    let b := (range cnt).foldl (fun a c => butterflyChunk a (c * 2 * m) m wm) a
    b.size = a.size ∧
    b.getD ((2 * c + 0) * m + i) 0
      = fadd (a.getD ((2 * c + 0) * m + i) 0) (fmul (a.getD ((2 * c + 1) * m + i) 0) (twid wm i)) ∧
    b.getD ((2 * c + 1) * m + i) 0
      = fsub (a.getD ((2 * c + 0) * m + i) 0) (fmul (a.getD ((2 * c + 1) * m + i) 0) (twid wm i)) := by
  intro b
  have hblk : c * (2 * m) + 2 * m ≤ cnt * (2 * m) := by
    rw [← Nat.succ_mul]; exact Nat.mul_le_mul_right _ hc
  obtain ⟨h1, h, -⟩ := LocalOn.pass_range (fun c => butterflyChunk_localOn (c * 2 * m) m wm) cnt
    (fun k k' hk _ i => by
      have : k * 2 * m + 2 * m ≤ k' * 2 * m := by
        rw [Nat.mul_assoc, Nat.mul_assoc, ← Nat.succ_mul]; exact Nat.mul_le_mul_right _ hk
      omega) a
  have e0 : (2 * c + 0) * m + i = c * 2 * m + 0 + i := by ring
  have e1 : (2 * c + 1) * m + i = c * 2 * m + m + 0 + i := by ring
  have hc2 : c * 2 * m = c * (2 * m) := Nat.mul_assoc ..
  obtain ⟨g0, g1⟩ := brState_getD a (c * 2 * m) m 0 wm (twid wm) (twid_succ wm) hi (Nat.zero_add m).le
    (by omega)
  refine ⟨h1, ?_, ?_⟩
  · rw [e0, e1]; exact (h c hc _ (by omega)).trans g0
  · rw [e0, e1]; exact (h c hc _ (by omega)).trans g1

end Plonk
