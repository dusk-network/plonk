/-
  Loops that carry a running product beside their real state, `(acc, w) ↦ (step acc w x, w·g)`:
  the side component never looks at the other one, so it can be computed beforehand
  (`foldl_beside`), and it is the geometric sequence `geom c g`.
-/
import Plonk.Proofs.FieldBridge

namespace Plonk
open List

/-- `c·gⁱ` with the model's multiplication, as the loops compute it -/
def geom (c g : Nat) : Nat → Nat
  | 0 => c
  | i + 1 => fmul (geom c g i) g

theorem toF_geom (c g i : Nat) : toF (geom c g i) = toF c * toF g ^ i := by
  induction i with
  | zero => simp [geom]
  | succ i ih => rw [geom, toF_fmul, ih, pow_succ, mul_assoc]

theorem geom_lt {c : Nat} (hc : c < R) (g : Nat) : ∀ i, geom c g i < R
  | 0 => hc
  | _ + 1 => fmul_lt _ _

theorem geom_eq_val {c : Nat} (hc : c < R) (g i : Nat) : geom c g i = (toF c * toF g ^ i).val := by
  rw [← toF_geom, val_toF_of_lt (geom_lt hc g i)]

/-- a loop whose second component does not look at the first: the second component can be
    computed beforehand (`t k, t (k+1), …`) -/
theorem foldl_beside {α σ ι : Type} (step : α → σ → ι → α) (h : σ → σ) (t : Nat → σ)
    (ht : ∀ j, t (j + 1) = h (t j)) : ∀ (xs : List ι) (k : Nat) (a : α),
    xs.foldl (fun (st : α × σ) x => (step st.1 st.2 x, h st.2)) (a, t k)
      = ((xs.zipIdx k).foldl (fun a xi => step a (t xi.2) xi.1) a, t (k + xs.length))
  | [], _, _ => rfl
  | x :: xs, k, a => by
    rw [foldl_cons, ← ht, foldl_beside step h t ht xs (k + 1), zipIdx_cons, foldl_cons, length_cons,
      Nat.add_right_comm, Nat.add_assoc]

theorem zipIdx_range (n : Nat) : (range n).zipIdx = (range n).map fun i => (i, i) := by
  apply ext_getElem <;> simp

/-- … for a counting loop -/
theorem foldl_range_beside {α σ : Type} (g : α → σ → Nat → α) (h : σ → σ) (t : Nat → σ)
    (ht : ∀ j, t (j + 1) = h (t j)) (a : α) (n : Nat) :
    (range n).foldl (fun (st : α × σ) j => (g st.1 st.2 j, h st.2)) (a, t 0)
      = ((range n).foldl (fun a j => g a (t j) j) a, t n) := by
  rw [foldl_beside g h t ht, zipIdx_range, foldl_map, length_range, Nat.zero_add]

/-- … for the loops that collect a list in reverse -/
theorem foldl_emit_beside {σ ι β : Type} (emit : ι → σ → β) (h : σ → σ) (t : Nat → σ)
    (ht : ∀ j, t (j + 1) = h (t j)) (xs : List ι) :
    (xs.foldl (fun (st : List β × σ) x => (emit x st.2 :: st.1, h st.2)) ([], t 0)).1.reverse
      = xs.zipIdx.map fun xi => emit xi.1 (t xi.2) := by
  rw [foldl_beside (fun acc w x => emit x w :: acc) h t ht xs 0 []]
  generalize xs.zipIdx 0 = ys
  suffices ∀ acc : List β, (ys.foldl (fun a xi => emit xi.1 (t xi.2) :: a) acc).reverse
      = acc.reverse ++ ys.map fun xi => emit xi.1 (t xi.2) from this []
  induction ys with
  | nil => intro acc; simp
  | cons y ys ih => intro acc; rw [foldl_cons, ih]; simp

theorem foldl_emit_beside_range {σ β : Type} (emit : σ → β) (h : σ → σ) (t : Nat → σ)
    (ht : ∀ j, t (j + 1) = h (t j)) (n : Nat) :
    ((range n).foldl (fun (st : List β × σ) _ => (emit st.2 :: st.1, h st.2)) ([], t 0)).1.reverse
      = (range n).map fun i => emit (t i) := by
  rw [foldl_emit_beside (fun _ w => emit w) h t ht, zipIdx_range, map_map]; rfl

end Plonk
