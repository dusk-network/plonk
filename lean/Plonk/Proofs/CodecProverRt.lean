/-
  Prover-key and prover round trips: `PKeyRaw.fromBytes (PKeyRaw.toBytes k) = .ok k`,
  `ProverM.fromBytes (ProverM.toBytes p) = .ok p` for well-formed data; the encoders produce byte lists
  (used by the non-vacuity examples of the canonicity theorems).
-/
import Plonk.Proofs.CodecProver

set_option Elab.async false

namespace Plonk

theorem polyToBytes_of_trim {p : Poly} (ht : Poly.trim p = p) : polyToBytes p = p.flatMap scalarBytesLE := by
  unfold polyToBytes Poly.degree
  rw [ht]
  cases p with
  | nil => rfl
  | cons c cs =>
    have : (c :: cs).length - 1 + 1 = (c :: cs).length := by simp
    rw [this, List.take_length]

theorem u64le?_append {n : Nat} (hn : n < 2 ^ 64) (rest : List Nat) :
    u64le? (natToBytesLE n 8 ++ rest) = some (n, rest) := by
  unfold u64le?
  have hl : (natToBytesLE n 8).length = 8 := natToBytesLE_length _ _
  rw [if_neg (by rw [List.length_append, hl]; omega), List.take_left' hl, List.drop_left' hl,
    bytesToNatLE_natToBytesLE (lt_of_lt_of_eq hn (by norm_num))]

theorem pkReadPoly_encode {n : Nat} {p : Poly} (rest : List Nat) (ht : Poly.trim p = p) (hl : p.length ≤ n)
    (hn : n < 2 ^ 64) (hp : ∀ c ∈ p, c < R) :
    pkReadPoly n (natToBytesLE p.length 8 ++ polyToBytes p ++ rest) = .ok (p, rest) := by
  unfold pkReadPoly
  rw [List.append_assoc, u64le?_append (by omega), polyToBytes_of_trim ht]
  simp only
  rw [if_neg (by omega)]
  by_cases hz : p = []
  · subst hz; simp
  · have hlen : p.length ≠ 0 := by rwa [Ne, List.length_eq_zero_iff]
    have hfl : (p.flatMap scalarBytesLE).length = p.length * 32 := by
      rw [length_flatMap_const scalarBytesLE_length]; omega
    rw [if_neg (by simp; omega), if_neg (by rw [List.length_append, hfl]; omega), List.take_left' hfl,
      List.drop_left' hfl]
    have := readScalars_encode p [] hp
    rw [List.append_nil] at this
    rw [this]
    simp only [ht]

theorem Domain.bne_self (d : Domain) : (d != d) = false := by
  have : (d == d) = true := (Domain.beq_iff d d).mpr rfl
  simp [bne, this]

theorem evalsToBytes_length (d : Domain) (ev : List Nat) : (evalsToBytes d ev).length = 172 + 32 * ev.length := by
  unfold evalsToBytes
  rw [List.length_append, Domain.toBytes_length, length_flatMap_const scalarBytesLE_length]

theorem pkReadEvals_encode {d8 : Domain} {ev : List Nat} (rest : List Nat) (hd : Domain.new? d8.size = some d8)
    (hl : ev.length = d8.size) (hev : ∀ e ∈ ev, e < R) :
    pkReadEvals (d8.size * 32 + 172) d8 (evalsToBytes d8 ev ++ rest) = .ok (ev, rest) := by
  unfold pkReadEvals
  have hlen : (evalsToBytes d8 ev).length = d8.size * 32 + 172 := by rw [evalsToBytes_length, hl]; omega
  rw [if_neg (by rw [List.length_append, hlen]; omega), List.take_left' hlen, List.drop_left' hlen,
    evalsFromBytes_evalsToBytes hd hl hev]
  simp only [Domain.bne_self, Bool.false_eq_true, if_false]

/-- one (polynomial, evaluations) item of the prover-key encoding -/
def pkItem (d8 : Domain) (p : Poly) (ev : List Nat) : List Nat :=
  natToBytesLE p.length 8 ++ polyToBytes p ++ evalsToBytes d8 ev

theorem PKeyRaw_go_encode {n : Nat} {d8 : Domain} (hn : n < 2 ^ 64) (hd : Domain.new? d8.size = some d8)
    (lp : List Poly) (le : List (List Nat)) (rest : List Nat) (ps : Array Poly) (es : Array (List Nat))
    (hlen : lp.length = le.length)
    (hp : ∀ p ∈ lp, Poly.trim p = p ∧ p.length ≤ n ∧ ∀ c ∈ p, c < R)
    (he : ∀ e ∈ le, e.length = d8.size ∧ ∀ c ∈ e, c < R) :
    PKeyRaw.fromBytes.go (pkReadPoly n) (pkReadEvals (d8.size * 32 + 172) d8) lp.length
      ((List.zip lp le).flatMap (fun q => pkItem d8 q.1 q.2) ++ rest) ps es =
      .ok (⟨ps.toList ++ lp⟩, ⟨es.toList ++ le⟩, rest) := by
  induction lp generalizing le ps es with
  | nil =>
    cases le with
    | nil => simp [PKeyRaw.fromBytes.go]
    | cons e le => simp at hlen
  | cons p lp ih =>
    cases le with
    | nil => simp at hlen
    | cons e le =>
      obtain ⟨h1, h2, h3⟩ := hp p (by simp)
      obtain ⟨g1, g2⟩ := he e (by simp)
      rw [List.length_cons, PKeyRaw_go_succ, List.zip_cons_cons, List.flatMap_cons]
      simp only [pkItem]
      rw [List.append_assoc, List.append_assoc, pkReadPoly_encode _ h1 h2 hn h3]
      simp only
      rw [pkReadEvals_encode _ hd g1 g2]
      simp only
      have := ih le (ps.push p) (es.push e) (by simpa using hlen)
        (fun q hq => hp q (List.mem_cons_of_mem _ hq)) (fun q hq => he q (List.mem_cons_of_mem _ hq))
      simp only [pkItem] at this
      rw [this]
      simp

theorem range_flatMap_getD {α β γ : Type} (F : α → β → List γ) (a : α) (b : β) (l1 : List α) (l2 : List β)
    (hl : l1.length = l2.length) :
    (List.range l1.length).flatMap (fun i => F (l1.getD i a) (l2.getD i b)) =
      (List.zip l1 l2).flatMap (fun q => F q.1 q.2) := by
  induction l1 generalizing l2 with
  | nil => rfl
  | cons x l1 ih =>
    cases l2 with
    | nil => simp at hl
    | cons y l2 =>
      rw [List.length_cons, List.range_succ_eq_map, List.flatMap_cons, List.flatMap_map, List.zip_cons_cons,
        List.flatMap_cons]
      congr 1
      rw [← ih l2 (by simpa using hl)]
      rfl

theorem array_getD_mk {α : Type} (l : List α) (i : Nat) (d : α) : (Array.mk l).getD i d = l.getD i d := by
  simp [Array.getD, List.getD]
  split <;> simp_all

/-- shape of the prover-key encoding: header, 15 items, `lin`, `vh`, zero padding -/
theorem PKeyRaw.toBytes_shape {n : Nat} {lp : List Poly} {le : List (List Nat)} {lin vh : List Nat} {d8 : Domain}
    (hd : Domain.new? (n * 8) = some d8) (hlp : lp.length = 15) (hle : le.length = 15)
    (hev0 : ∀ e ∈ le, e.length = d8.size) :
    ∃ pad, (PKeyRaw.mk n ⟨lp⟩ ⟨le⟩ lin vh).toBytes = natToBytesLE n 8 ++ (natToBytesLE (d8.size * 32 + 172) 8 ++
      ((List.zip lp le).flatMap (fun q => pkItem d8 q.1 q.2) ++
        (evalsToBytes d8 lin ++ (evalsToBytes d8 vh ++ pad)))) := by
  unfold PKeyRaw.toBytes
  simp only [Nat.mul_comm 8 n, hd, DOMAIN_SIZE_eq, array_getD_mk]
  have h0 : (le.getD 0 []).length = d8.size := by
    match le, hle with
    | e :: le', _ => exact hev0 e (by simp)
  have hr : (List.range 15).flatMap (fun i => natToBytesLE (List.length (lp.getD i [])) 8 ++ polyToBytes (lp.getD i []) ++
      evalsToBytes d8 (le.getD i [])) = (List.zip lp le).flatMap (fun q => pkItem d8 q.1 q.2) := by
    have := range_flatMap_getD (fun p e => pkItem d8 p e) [] [] lp le (by rw [hlp, hle])
    rw [hlp] at this
    exact this
  rw [hr, h0]
  generalize List.replicate _ 0 = pad
  exact ⟨pad, by simp only [List.append_assoc]⟩

theorem polyToBytes_length_le (p : Poly) : (polyToBytes p).length ≤ 32 * p.length := by
  unfold polyToBytes
  rw [length_flatMap_const scalarBytesLE_length]
  exact Nat.mul_le_mul_left _ (List.length_take_le' _ _)

theorem foldl_max_length_le {n : Nat} (l : List Poly) (m : Nat) (h : ∀ p ∈ l, p.length ≤ n) (hm : m ≤ n) :
    l.foldl (fun m p => max m p.length) m ≤ n := by
  induction l generalizing m with
  | nil => exact hm
  | cons p l ih =>
    exact ih _ (fun q hq => h q (List.mem_cons_of_mem _ hq)) (max_le hm (h p (by simp)))

/-- size of the prover-key encoding: the buffer of `to_var_bytes` is sized from `n` -/
theorem PKeyRaw.WF.toBytes_length_le {k : PKeyRaw} {d8 : Domain} (wf : k.WF d8) :
    k.toBytes.length ≤ 4832 * k.n + 3060 := by
  obtain ⟨n, ⟨lp⟩, ⟨le⟩, lin, vh⟩ := k
  have hd : Domain.new? (n * 8) = some d8 := wf.dom
  have hpol : ∀ p ∈ lp, p.length ≤ n := fun p hp => (wf.polys p hp).1
  have hev : ∀ e ∈ le, e.length ≤ n * 8 := fun e he => ((wf.evals e he).1).le
  have hll : lin.length = n * 8 := wf.lin_len
  have hvl : vh.length = n * 8 := wf.vh_len
  have hlp : lp.length = 15 := wf.npolys
  unfold PKeyRaw.toBytes
  simp only [Nat.mul_comm 8 n, hd, DOMAIN_SIZE_eq, array_getD_mk]
  have hmax : (Array.mk lp).foldl (fun m p => max m p.length) 0 ≤ n := by
    rw [← Array.foldl_toList]; exact foldl_max_length_le lp 0 hpol (Nat.zero_le _)
  have h0 := List.getD_of_forall (d := []) (P := fun p : List Nat => p.length ≤ n * 8) (Nat.zero_le _) hev 0
  have hitems := flatMap_length_le (l := List.range 15) (c := 180 + 288 * n)
    (f := fun i => natToBytesLE (lp.getD i []).length 8 ++ polyToBytes (lp.getD i []) ++ evalsToBytes d8 (le.getD i []))
    (fun i _ => by
      have := polyToBytes_length_le (lp.getD i [])
      have := List.getD_of_forall (d := []) (P := fun p : List Nat => p.length ≤ n) (Nat.zero_le _) hpol i
      have := List.getD_of_forall (d := []) (P := fun p : List Nat => p.length ≤ n * 8) (Nat.zero_le _) hev i
      simp only [List.length_append, natToBytesLE_length, evalsToBytes_length]
      omega)
  simp only [List.length_append, List.length_replicate, natToBytesLE_length, evalsToBytes_length, hll, hvl,
    List.length_range] at hitems ⊢
  omega

/-- prover-key round trip for well-formed keys (`PKeyRaw.WF`, which includes that the polynomials are
    stored trimmed) -/
theorem PKeyRaw.fromBytes_toBytes {k : PKeyRaw} {d8 : Domain} (wf : k.WF d8) :
    PKeyRaw.fromBytes k.toBytes = .ok k := by
  obtain ⟨n, ⟨lp⟩, ⟨le⟩, lin, vh⟩ := k
  have ht : ∀ p ∈ lp, Poly.trim p = p := wf.trimmed
  have hn : n * 8 < 2 ^ 64 := wf.n_lt
  have hd : Domain.new? (n * 8) = some d8 := wf.dom
  have hs8 : d8.size = n * 8 := wf.size8
  have hlp : lp.length = 15 := wf.npolys
  have hle : le.length = 15 := wf.nevals
  have hpol : ∀ p ∈ lp, p.length ≤ n ∧ ∀ c ∈ p, c < R := wf.polys
  have hev : ∀ e ∈ le, e.length = n * 8 ∧ ∀ c ∈ e, c < R := wf.evals
  have hml : d8.matchesLinearOverCoset lin = true := wf.lin
  have hmv : d8.matchesVanishingOverCoset n vh = true := wf.vh
  have hll : lin.length = n * 8 := wf.lin_len
  have hvl : vh.length = n * 8 := wf.vh_len
  have hllt : ∀ c ∈ lin, c < R := wf.lin_lt
  have hvlt : ∀ c ∈ vh, c < R := wf.vh_lt
  have hpow : nextPow2' (n * 8) = n * 8 := wf.pow2
  have hdd : Domain.new? d8.size = some d8 := Domain.new?_idem hd
  obtain ⟨pad, e⟩ := PKeyRaw.toBytes_shape (lin := lin) (vh := vh) hd hlp hle (fun e he => by rw [(hev e he).1, hs8])
  have hs32 := Domain.new?_size_lt hd
  have hgo := PKeyRaw_go_encode (n := n) (d8 := d8) (by omega) hdd lp le
    (evalsToBytes d8 lin ++ (evalsToBytes d8 vh ++ pad)) #[] #[] (by rw [hlp, hle])
    (fun p hp => ⟨ht p hp, hpol p hp⟩) (fun e he => ⟨by rw [(hev e he).1, hs8], (hev e he).2⟩)
  rw [hlp] at hgo
  rw [e, PKeyRaw.fromBytes_eq]
  simp only [Except.ite_error_eq_ok, Except.bind_eq_ok, Option.elim_error_eq_ok, Except.ok.injEq, Prod.exists]
  exact ⟨n, _, u64le?_append (by omega) _, _, _, u64le?_append (by omega) _, by rw [USIZE_MAX_eq]; omega,
    by rw [hpow]; simp, d8, hd, _, _, _, hgo,
    lin, _, pkReadEvals_encode _ hdd (by rw [hll, hs8]) hllt, by simp [hml],
    vh, _, pkReadEvals_encode pad hdd (by rw [hvl, hs8]) hvlt, by simp [hmv], rfl⟩

/-- the frame decoder on a payload that is the concatenation of its four fields, each decoding, with
    the checks of `Prover::new` -/
theorem ProverM.fromFrame_append {label pkB ckB vkB : List Nat} {size constraints : Nat} {key : PKeyRaw}
    {ck : List G1} {vk : VKey} {d d8 : Domain}
    (hfit : label.length + pkB.length + ckB.length + vkB.length < 2 ^ 64)
    (hc : constraints ≤ 2 ^ 63) (hsz : nextPow2' constraints = size)
    (hkey : PKeyRaw.fromBytes pkB = .ok key) (hn : key.n = size) (hck : commitKeyFromRaw ckB = .ok ck)
    (hvk : VKey.fromBytes? vkB = some vk) (hd : Domain.new? constraints = some d)
    (hd8 : Domain.new? (d.size * 8) = some d8) (hvl : key.vh.length = d8.size) (hvz : ∀ x ∈ key.vh, x ≠ 0) :
    ProverM.fromFrame label.length pkB.length ckB.length vkB.length size constraints
        (label ++ (pkB ++ (ckB ++ (vkB ++ [])))) =
      .ok { label := label, key := key, ck := ck, vk := vk, size := size, constraints := constraints } := by
  simp only [ProverM.fromFrame, Except.ite_error_eq_ok, Except.bind_eq_ok, Option.elim_error_eq_ok, Except.ok.injEq, USIZE_MAX_eq]
  have hl : (label ++ (pkB ++ (ckB ++ (vkB ++ [])))).length =
      label.length + pkB.length + ckB.length + vkB.length := by
    simp only [List.length_append, List.length_nil, Nat.add_zero, Nat.add_assoc]
  obtain ⟨o1, o2, o3⟩ := usize_sums hfit
  have hany : (key.vh.any fun x => x == 0) = false := by
    rw [List.any_eq_false]; intro x hx; simpa using hvz x hx
  refine ⟨o1, o2, o3, hl.ge.not_gt, by rw [hsz]; simp; omega, key, ?_, by simp [hn], ck, ?_,
    vk, ?_, d, hd, d8, hd8, by rw [hany, hvl]; simp, by rw [List.take_left' rfl]⟩
  · rw [List.drop_left' rfl, List.take_left' rfl]; exact hkey
  · rw [List.drop_left' rfl, List.drop_left' rfl, List.take_left' rfl]; exact hck
  · rw [List.drop_left' rfl, List.drop_left' rfl, List.drop_left' rfl, List.take_left' rfl]; exact hvk

/-- prover round trip.  Hypotheses: well-formed prover key, non-empty well-formed commit key,
    well-formed verifier key, the checks of `Prover::new` (`constraints ≤ 2^63`, `size` its next power of
    two and equal to `key.n`, the domain of `constraints` exists, `vh` has no zero entry), and the total
    length fits `usize`. -/
theorem ProverM.fromBytes_toBytes {p : ProverM} {d8 : Domain} (wf : p.key.WF d8)
    (hck : p.ck ≠ [] ∧ ∀ q ∈ p.ck, q.Valid ∧ q.torsionFree = true) (hvk : p.vk.WF)
    (hc : p.constraints ≤ 2 ^ 63) (hsz : nextPow2' p.constraints = p.size) (hn : p.key.n = p.size)
    (hd : (Domain.new? p.constraints).isSome = true) (hvz : ∀ x ∈ p.key.vh, x ≠ 0)
    (hfit : p.label.length + p.key.toBytes.length + (8 + 97 * p.ck.length) + 968 < 2 ^ 64) :
    ProverM.fromBytes p.toBytes = .ok p := by
  have hckl := commitKeyToRaw_length p.ck
  have hvkl := VKey.toBytes_length p.vk
  have e : p.toBytes = u64beBytes p.label.length ++ (u64beBytes p.key.toBytes.length ++
      (u64beBytes (commitKeyToRaw p.ck).length ++ (u64beBytes p.vk.toBytes.length ++ (u64beBytes p.size ++
      (u64beBytes p.constraints ++ (p.label ++ (p.key.toBytes ++ (commitKeyToRaw p.ck ++ (p.vk.toBytes ++ []))))))))) := by
    unfold ProverM.toBytes
    simp only [List.append_assoc, List.append_nil]
  have hsize : p.size < 2 ^ 64 := by have := wf.n_lt; rw [hn] at this; omega
  obtain ⟨d, hdd⟩ := Option.isSome_iff_exists.mp hd
  have hds : d.size = p.key.n := by rw [Domain.new?_size hdd, hsz, hn]
  have hkey := PKeyRaw.fromBytes_toBytes wf
  have hckd := commitKeyFromRaw_toRaw hck.1 (by rw [USIZE_MAX_eq]; omega) hck.2
  have hvkd := VKey.fromBytes_toBytes hvk
  rw [e]
  -- the three encodings as variables: the arithmetic below is then about their lengths only
  generalize p.key.toBytes = pkB at hfit hkey
  generalize commitKeyToRaw p.ck = ckB at hckl hckd
  generalize p.vk.toBytes = vkB at hvkl hvkd
  rw [← hckl, ← hvkl] at hfit
  obtain ⟨f1, f2, f3, f4⟩ := lt_of_sum_lt hfit
  rw [fromBytes_frame_of (frame := ProverM.fromFrame) ProverM.fromBytes_eq f1 f2 f3 f4 hsize (lt_of_le_of_lt hc (by decide))]
  exact ProverM.fromFrame_append hfit hc hsz hkey hn hckd hvkd hdd (by rw [hds]; exact wf.dom)
    (by rw [wf.vh_len, wf.size8]) hvz

theorem ProofM.toBytes_allBytes {p : ProofM} (hp : p.WF) : AllBytes p.toBytes := by
  rw [ProofM.toBytes_eq]
  exact AllBytes.append (AllBytes.flatMap fun q hq => G1.toCompressed_allBytes (hp.1 q hq).1)
    (AllBytes.flatMap fun s _ => scalarBytesLE_allBytes s)

theorem VKey.toBytes_allBytes {k : VKey} (hk : k.WF) : AllBytes k.toBytes := by
  rw [VKey.toBytes_eq, VKey.body]
  exact AllBytes.append (AllBytes.append (natToBytesLE_allBytes _ _)
    (AllBytes.flatMap fun q hq => G1.toCompressed_allBytes (hk.2 q hq).1)) (AllBytes.replicate_zero _)

theorem Domain.toBytes_allBytes (d : Domain) : AllBytes d.toBytes := by
  unfold Domain.toBytes
  exact AllBytes.append (AllBytes.append (AllBytes.append (AllBytes.append (AllBytes.append (AllBytes.append
    (natToBytesLE_allBytes _ _) (natToBytesLE_allBytes _ _)) (scalarBytesLE_allBytes _)) (scalarBytesLE_allBytes _))
    (scalarBytesLE_allBytes _)) (scalarBytesLE_allBytes _)) (scalarBytesLE_allBytes _)

theorem evalsToBytes_allBytes (d : Domain) (ev : List Nat) : AllBytes (evalsToBytes d ev) := by
  unfold evalsToBytes
  exact AllBytes.append (Domain.toBytes_allBytes d) (AllBytes.flatMap fun s _ => scalarBytesLE_allBytes s)

theorem G1.toRaw_allBytes (p : G1) : AllBytes p.toRaw := by
  cases p with
  | inf =>
    rw [G1.toRaw_inf]
    exact AllBytes.append (AllBytes.append (natToBytesLE_allBytes _ _) (natToBytesLE_allBytes _ _))
      (AllBytes.cons (by norm_num) AllBytes.nil)
  | aff x y =>
    rw [G1.toRaw_aff]
    exact AllBytes.append (AllBytes.append (natToBytesLE_allBytes _ _) (natToBytesLE_allBytes _ _))
      (AllBytes.cons (by norm_num) AllBytes.nil)

theorem commitKeyToRaw_allBytes (ck : List G1) : AllBytes (commitKeyToRaw ck) := by
  unfold commitKeyToRaw
  exact AllBytes.append (natToBytesLE_allBytes _ _) (AllBytes.flatMap fun p _ => G1.toRaw_allBytes p)

end Plonk
