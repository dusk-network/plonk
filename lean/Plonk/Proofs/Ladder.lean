/-
  The MSB-first double-and-add ladder, once: for any representation relation `Rep` into an
  additive monoid, a loop whose step doubles the represented element and adds the digit's value
  computes the Horner fold of the digit values.  Instances: the Edwards ladder (`ladderF`), the
  extended-coordinate ladder (`Ext.mulBits`), G1 double-and-add (`J1.mul`) and Straus (`G1.msum`).
-/
import Mathlib.Algebra.BigOperators.Group.List.Basic
import Mathlib.Tactic.Ring
import Plonk.Model.Field

namespace Plonk

/-- value of an MSB-first bit list, continuing from `n` -/
def bitsValMSB (bits : List Bool) (n : ℕ) : ℕ := bits.foldl (fun n b => 2 * n + b.toNat) n

@[simp] theorem bitsValMSB_nil (n : ℕ) : bitsValMSB [] n = n := rfl
@[simp] theorem bitsValMSB_cons (b : Bool) (bs : List Bool) (n : ℕ) :
    bitsValMSB (b :: bs) n = bitsValMSB bs (2 * n + b.toNat) := rfl

theorem ladder_rep_gen {J G δ : Type} [AddMonoid G] {Rep : J → G → Prop} {step : J → δ → J}
    {val : δ → G}
    (hstep : ∀ {acc : J} {A : G} (d : δ), Rep acc A → Rep (step acc d) (A + A + val d)) :
    ∀ (ds : List δ) {acc : J} {A : G}, Rep acc A →
      Rep (ds.foldl step acc) (ds.foldl (fun A d => A + A + val d) A)
  | [], _, _, h => h
  | d :: ds, _, _, h => ladder_rep_gen hstep ds (hstep d h)

/-- binary digits of a multiple of `P`: from `n • P` the ladder over `bits` reaches
    `bitsValMSB bits n • P` -/
theorem ladder_rep {J G : Type} [AddMonoid G] {Rep : J → G → Prop} {P : G} {step : J → Bool → J}
    (hstep : ∀ {acc : J} {A : G} (b : Bool), Rep acc A → Rep (step acc b) (A + A + b.toNat • P)) :
    ∀ (bits : List Bool) {acc : J} {n : ℕ}, Rep acc (n • P) →
      Rep (bits.foldl step acc) (bitsValMSB bits n • P)
  | [], _, _, h => h
  | b :: bits, _, n, h => by
    rw [List.foldl_cons, bitsValMSB_cons]
    refine ladder_rep hstep bits ?_
    rw [add_nsmul, two_mul, add_nsmul]
    exact hstep b h

/-- several scalars at once (Straus): the Horner fold of the sums is the sum of the Horner folds -/
theorem horner_sum {G ι : Type} [AddCommMonoid G] (ts : List ι) (f : ι → ℕ → ℕ) (P : ι → G) :
    ∀ (is : List ℕ) (a : ι → ℕ),
      is.foldl (fun A i => A + A + (ts.map fun t => f t i • P t).sum)
          (ts.map fun t => a t • P t).sum =
        (ts.map fun t => (is.foldl (fun m i => 2 * m + f t i) (a t)) • P t).sum
  | [], _ => rfl
  | i :: is, a => by
    rw [List.foldl_cons, ← List.sum_map_add, ← List.sum_map_add]
    simp only [← add_nsmul, ← two_mul]
    exact horner_sum ts f P is fun t => 2 * a t + f t i

theorem msb_fold (n k a : Nat) :
    (List.range n).foldl (fun m i => 2 * m + bit k (n - 1 - i)) a = a * 2 ^ n + k % 2 ^ n := by
  induction n generalizing a with
  | zero =>
    rw [List.range_zero, List.foldl_nil, Nat.pow_zero, Nat.mod_one, Nat.mul_one, Nat.add_zero]
  | succ n ih =>
    rw [List.range_succ_eq_map, List.foldl_cons, List.foldl_map]
    have hf : (fun m i => 2 * m + bit k (n + 1 - 1 - Nat.succ i)) =
        fun m i => 2 * m + bit k (n - 1 - i) := by
      funext m i
      rw [Nat.add_sub_cancel, Nat.sub_succ', Nat.sub_right_comm]
    -- the top bit goes into the accumulator: `k % 2^(n+1) = k % 2^n + 2^n * bit k n`
    rw [hf, ih, Nat.add_sub_cancel, Nat.sub_zero, Nat.mod_pow_succ]
    unfold bit
    rw [Nat.pow_succ]
    ring

theorem toNat_bit_beq (k j : ℕ) : (bit k j == 1).toNat = bit k j := by
  unfold bit
  rcases Nat.mod_two_eq_zero_or_one (k / 2 ^ j) with h | h <;> rw [h] <;> rfl

/-- the bits `n-1 … 0` of `k`, as the loops of the model read them -/
theorem bitsValMSB_bits (n k a : ℕ) :
    bitsValMSB ((List.range n).map fun i => bit k (n - 1 - i) == 1) a = a * 2 ^ n + k % 2 ^ n := by
  unfold bitsValMSB
  rw [List.foldl_map, ← msb_fold n k a]
  simp only [toNat_bit_beq]

/-- a loop over bit positions is the ladder over the bits read there -/
theorem foldl_range_bits {J : Type} (step : J → Bool → J) (k n : ℕ) (acc : J) :
    (List.range n).foldl (fun acc i => step acc (bit k (n - 1 - i) == 1)) acc =
      ((List.range n).map fun i => bit k (n - 1 - i) == 1).foldl step acc :=
  (List.foldl_map ..).symm

end Plonk
