/-
  Basic facts about the composer state machine: what each primitive does to the state.
-/
import Plonk.Proofs.RowBridge

namespace Plonk

namespace Composer

@[simp] theorem appendWitness_run (v : Nat) (c : Composer) :
    (appendWitness v).run c = (c.wit.size, { c with wit := c.wit.push (v % R) }) := rfl

@[simp] theorem getVal_run (w : Nat) (c : Composer) : (getVal w).run c = (c.val w, c) := rfl

@[simp] theorem appendCustomGate_run (s : Constraint) (c : Composer) :
    (appendCustomGate s).run c =
      ((), { c with gates := c.gates.push s.toGate,
                    pis := if s.hasPi then c.pis.push (c.gates.size, s.pi) else c.pis }) := rfl

@[simp] theorem appendGate_run (s : Constraint) (c : Composer) :
    (appendGate s).run c = (appendCustomGate (Constraint.arithmetic s)).run c := rfl

theorem getElem?_push_of_lt {α} (a : Array α) (x : α) {i : Nat} (hi : i < a.size) :
    (a.push x)[i]? = a[i]? := by
  rw [Array.getElem?_push, if_neg (Nat.ne_of_lt hi)]

theorem val_push (c : Composer) (v i : Nat) :
    ({ c with wit := c.wit.push v } : Composer).val i = if i = c.wit.size then v else c.val i := by
  unfold val
  simp only [Array.getD_eq_getD_getElem?, Array.getElem?_push]
  split
  · next h => simp
  · next h => simp

theorem val_of_size_le (c : Composer) {i : Nat} (h : c.wit.size ≤ i) : c.val i = 0 := by
  unfold val; simp [Array.getD_eq_getD_getElem?, Array.getElem?_eq_none h]

theorem val_of_wit_append {c c' : Composer} {l : Array Nat} (h : c'.wit = c.wit ++ l) (j : Nat) :
    c'.val (c.wit.size + j) = l.getD j 0 := by
  unfold val
  rw [h, Array.getD_eq_getD_getElem?, Array.getD_eq_getD_getElem?,
    Array.getElem?_append_right (Nat.le_add_right _ _), Nat.add_sub_cancel_left]

theorem val_append_ge (c : Composer) (l : Array Nat) (j : Nat) (g p) :
    ({ gates := g, wit := c.wit ++ l, pis := p } : Composer).val (c.wit.size + j) = l.getD j 0 :=
  val_of_wit_append rfl j

theorem getElem?_gates_of_lt {c : Composer} {i : Nat} (hi : i < c.gates.size) :
    c.gates[i]? = some (c.gateAt i) := by
  unfold gateAt; rw [Array.getD_eq_getD_getElem?, Array.getElem?_eq_getElem hi]; rfl

theorem gateAt_of_get {c : Composer} {i : Nat} {g : Gate} (h : c.gates[i]? = some g) :
    c.gateAt i = g := by
  unfold gateAt; simp only [Array.getD_eq_getD_getElem?]; rw [h]; rfl

/-! ### running straight-line code -/

theorem run_bind' {α β} (m : CM α) (f : α → CM β) (c : Composer) :
    (m >>= f).run c = (f (m.run c).1).run (m.run c).2 := rfl

theorem appendWitnesses_run (l : List Nat) (c : Composer) :
    (appendWitnesses l).run c = ((), { c with wit := c.wit ++ (l.map (· % R)).toArray }) := by
  induction l generalizing c with
  | nil => simp [appendWitnesses]; rfl
  | cons v vs ih =>
    rw [appendWitnesses, run_bind', ih]
    simp

theorem appendCustomGates_run (l : List Constraint) (h : ∀ s ∈ l, s.hasPi = false)
    (c : Composer) :
    (appendCustomGates l).run c =
      ((), { c with gates := c.gates ++ (l.map Constraint.toGate).toArray }) := by
  induction l generalizing c with
  | nil => simp [appendCustomGates]; rfl
  | cons v vs ih =>
    rw [appendCustomGates, run_bind', ih (fun s hs => h s (List.mem_cons_of_mem _ hs))]
    have := h v (List.mem_cons_self)
    simp [this]

theorem push3_eq {α} (a : Array α) (x y z : α) :
    ((a.push x).push y).push z = a ++ #[x, y, z] := by
  rw [← Array.toList_inj]; simp

theorem push2_eq {α} (a : Array α) (x y : α) : (a.push x).push y = a ++ #[x, y] := by
  rw [← Array.toList_inj]; simp

end Composer
end Plonk
