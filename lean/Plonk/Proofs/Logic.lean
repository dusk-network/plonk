/-
  C10 (logic component), composer glue: what `appendLogicComponent pairs a b isXor` appends
  (layout of the loop `go`, the closing row, the two truncation bindings), the meaning of the
  appended rows under an arbitrary assignment, soundness and completeness.

  Math-level ingredients: `LogicRows.lean` (widget table, accumulator chain), `TruncMath.lean`
  (split uniqueness, canonical guard); glue of the primitives: `Arith.lean`, `Range.lean`.
-/
import Plonk.Proofs.LogicRows
import Plonk.Proofs.Trunc

namespace Plonk
open Plonk.Composer

namespace Composer

/-- state after one iteration of the loop: four witnesses (the three new accumulators and the
    product of the two input quads) and one logic gate whose product wire is the new witness -/
def logicStep (pairs : Nat) (isXor : Bool) (av bv i : Nat) (s : Constraint) (la ra oa : Nat)
    (c : Composer) : Composer :=
  { gates := c.gates.push ({ s with c := c.wit.size + 2 } : Constraint).toGate,
    wit := (((c.wit.push (fadd (fmul la 4) (quadFromTop av pairs i) % R)).push
        (fadd (fmul ra 4) (quadFromTop bv pairs i) % R)).push
        ((quadFromTop av pairs i * quadFromTop bv pairs i) % R)).push
        (fadd (fmul oa 4) (logicOp isXor (quadFromTop av pairs i) (quadFromTop bv pairs i)) % R),
    pis := c.pis }

theorem logicGo_zero (pairs : Nat) (isXor : Bool) (av bv i : Nat) (s : Constraint)
    (la ra oa : Nat) (c : Composer) :
    (appendLogicComponent.go pairs isXor av bv 0 i s la ra oa).run c = (s, c) := by
  unfold appendLogicComponent.go; rfl

theorem logicGo_succ (pairs : Nat) (isXor : Bool) (av bv k i : Nat) (s : Constraint)
    (la ra oa : Nat) (c : Composer) (hs : s.hasPi = false) :
    (appendLogicComponent.go pairs isXor av bv (k+1) i s la ra oa).run c =
      (appendLogicComponent.go pairs isXor av bv k (i+1)
        { s with a := c.wit.size, b := c.wit.size + 1, c := c.wit.size + 2, d := c.wit.size + 3 }
        (fadd (fmul la 4) (quadFromTop av pairs i)) (fadd (fmul ra 4) (quadFromTop bv pairs i))
        (fadd (fmul oa 4) (logicOp isXor (quadFromTop av pairs i) (quadFromTop bv pairs i)))).run
        (logicStep pairs isXor av bv i s la ra oa c) := by
  conv_lhs => unfold appendLogicComponent.go
  simp only [bind, StateT.bind, StateT.run, appendWitness, appendCustomGate, hs, logicStep, logicOp]
  simp [Nat.add_assoc]

theorem logicStep_wit (pairs : Nat) (isXor : Bool) (av bv i : Nat) (s : Constraint)
    (la ra oa : Nat) (c : Composer) :
    (logicStep pairs isXor av bv i s la ra oa c).wit = c.wit ++
      #[fadd (fmul la 4) (quadFromTop av pairs i) % R, fadd (fmul ra 4) (quadFromTop bv pairs i) % R,
        (quadFromTop av pairs i * quadFromTop bv pairs i) % R,
        fadd (fmul oa 4) (logicOp isXor (quadFromTop av pairs i) (quadFromTop bv pairs i)) % R] := by
  simp only [logicStep]; rw [← Array.toList_inj]; simp

theorem logicStep_extends (pairs : Nat) (isXor : Bool) (av bv i : Nat) (s : Constraint)
    (la ra oa : Nat) (c : Composer) : Extends c (logicStep pairs isXor av bv i s la ra oa c) := by
  refine extends_of_append #[({ s with c := c.wit.size + 2 } : Constraint).toGate]
    #[fadd (fmul la 4) (quadFromTop av pairs i) % R, fadd (fmul ra 4) (quadFromTop bv pairs i) % R,
      (quadFromTop av pairs i * quadFromTop bv pairs i) % R,
      fadd (fmul oa 4) (logicOp isXor (quadFromTop av pairs i) (quadFromTop bv pairs i)) % R]
    ?_ ?_ rfl
  · simp [logicStep]
  · exact logicStep_wit ..

@[simp] theorem logicStep_gates_size (pairs : Nat) (isXor : Bool) (av bv i : Nat) (s : Constraint)
    (la ra oa : Nat) (c : Composer) :
    (logicStep pairs isXor av bv i s la ra oa c).gates.size = c.gates.size + 1 := by
  simp [logicStep]

@[simp] theorem logicStep_wit_size (pairs : Nat) (isXor : Bool) (av bv i : Nat) (s : Constraint)
    (la ra oa : Nat) (c : Composer) :
    (logicStep pairs isXor av bv i s la ra oa c).wit.size = c.wit.size + 4 := by
  simp [logicStep]

/-- the four values one iteration stores (the accumulators are reduced already) -/
theorem logicStep_vals (pairs : Nat) (isXor : Bool) (av bv i : Nat) (s : Constraint)
    (la ra oa : Nat) (c : Composer) :
    (logicStep pairs isXor av bv i s la ra oa c).val c.wit.size
      = fadd (fmul la 4) (quadFromTop av pairs i) ∧
    (logicStep pairs isXor av bv i s la ra oa c).val (c.wit.size + 1)
      = fadd (fmul ra 4) (quadFromTop bv pairs i) ∧
    (logicStep pairs isXor av bv i s la ra oa c).val (c.wit.size + 2)
      = (quadFromTop av pairs i * quadFromTop bv pairs i) % R ∧
    (logicStep pairs isXor av bv i s la ra oa c).val (c.wit.size + 3)
      = fadd (fmul oa 4) (logicOp isXor (quadFromTop av pairs i) (quadFromTop bv pairs i)) := by
  have hw := logicStep_wit pairs isXor av bv i s la ra oa c
  have v0 : _ = fadd (fmul la 4) (quadFromTop av pairs i) % R := val_of_wit_append hw 0
  have v1 : _ = fadd (fmul ra 4) (quadFromTop bv pairs i) % R := val_of_wit_append hw 1
  have v3 : _ = fadd (fmul oa 4) (logicOp isXor (quadFromTop av pairs i)
    (quadFromTop bv pairs i)) % R := val_of_wit_append hw 3
  rw [Nat.mod_eq_of_lt (fadd_lt _ _)] at v0 v1 v3
  exact ⟨v0, v1, val_of_wit_append hw 2, v3⟩

/-- wire slot `off` of row `j` of the loop: the wire the loop was entered with for `j = 0`,
    else the witness allocated at step `j − 1` -/
def lslot (W prev off j : Nat) : Nat := if j = 0 then prev else W + 4 * (j - 1) + off

@[simp] theorem lslot_zero (W prev off : Nat) : lslot W prev off 0 = prev := rfl
theorem lslot_succ (W prev off j : Nat) : lslot W prev off (j + 1) = W + 4 * j + off := by
  simp [lslot]

/-- slots of the loop entered one iteration later, at the wires that iteration allocated -/
theorem lslot_shift {W p off : Nat} (hp : p = W + off) (j : Nat) :
    lslot (W + 4) p off j = W + 4 * j + off := by
  subst hp
  cases j with
  | zero => rfl
  | succ j => rw [lslot_succ]; omega

/-- the gate of a loop row: selectors of `s`, explicit wires -/
def lgate (s : Constraint) (a b c d : Nat) : Gate :=
  ({ s with a := a, b := b, c := c, d := d } : Constraint).toGate

/-- Layout of `k` iterations from the state `c`, entered with the row constraint `s` whose
    accumulator wires are `pa pb pd`, ending in `r`: `k` gates and `4k` witnesses appended, no
    public input; row `j` has the selectors of `s`, the product wire `W + 4j + 2` and the
    accumulator wires *before* quad `j`; the returned constraint carries those after the last. -/
structure LoopLayout (s : Constraint) (pa pb pd k : Nat) (c : Composer)
    (r : Constraint × Composer) : Prop where
  ext : Extends c r.2
  gates : r.2.gates.size = c.gates.size + k
  wit : r.2.wit.size = c.wit.size + 4 * k
  pis : r.2.pis = c.pis
  row : ∀ j, j < k → r.2.gates[c.gates.size + j]?
    = some (lgate s (lslot c.wit.size pa 0 j) (lslot c.wit.size pb 1 j)
        (c.wit.size + 4 * j + 2) (lslot c.wit.size pd 3 j))
  out_a : r.1.a = lslot c.wit.size pa 0 k
  out_b : r.1.b = lslot c.wit.size pb 1 k
  out_d : r.1.d = lslot c.wit.size pd 3 k

theorem logicGo_layout (pairs : Nat) (isXor : Bool) (av bv : Nat) (k : Nat) :
    ∀ (i : Nat) (s : Constraint) (la ra oa : Nat) (c : Composer) r,
      (appendLogicComponent.go pairs isXor av bv k i s la ra oa).run c = r → s.hasPi = false →
      LoopLayout s s.a s.b s.d k c r := by
  induction k with
  | zero =>
    rintro i s la ra oa c r rfl -
    rw [logicGo_zero]
    exact ⟨Extends.refl c, rfl, rfl, rfl, fun j hj => absurd hj (Nat.not_lt_zero _), rfl, rfl, rfl⟩
  | succ k ih =>
    intro i s la ra oa c r hr hs
    rw [logicGo_succ _ _ _ _ _ _ _ _ _ _ _ hs] at hr
    have hstep := logicStep_extends pairs isXor av bv i s la ra oa c
    obtain ⟨h1, h2, h3, h4, h5, h6, h7, h8⟩ := ih _ _ _ _ _ _ r hr hs
    rw [logicStep_gates_size] at h2 h5
    rw [logicStep_wit_size] at h3 h5 h6 h7 h8
    refine ⟨hstep.trans h1, by rw [h2]; omega, by rw [h3]; omega, by rw [h4]; rfl, ?_, ?_, ?_, ?_⟩
    · intro j hj
      rcases j with _ | j
      · rw [Nat.add_zero, h1.gates_prefix _ (by rw [logicStep_gates_size]; omega)]
        simp [logicStep, lgate]
      · rw [show c.gates.size + (j + 1) = c.gates.size + 1 + j by omega, h5 j (by omega)]
        dsimp only
        rw [lslot_succ, lslot_succ, lslot_succ, lslot_shift (W := c.wit.size) (p := c.wit.size) (off := 0) rfl,
          lslot_shift (p := c.wit.size + 1) rfl, lslot_shift (p := c.wit.size + 3) rfl,
          show c.wit.size + 4 + 4 * j + 2 = c.wit.size + 4 * (j + 1) + 2 by omega]
        rfl
    · rw [h6, lslot_succ]; exact lslot_shift (W := c.wit.size) (p := c.wit.size) (off := 0) rfl k
    · rw [h7, lslot_succ]; exact lslot_shift rfl k
    · rw [h8, lslot_succ]; exact lslot_shift rfl k

theorem logicOp_quad_lt (isXor : Bool) {q r : Nat} (hq : q < 4) (hr : r < 4) :
    logicOp isXor q r < 4 := logicOp_lt isXor (n := 1) (by simpa using hq) (by simpa using hr)

/-- (`pairs ≤ 127`, so that nothing wraps) entered with the honest
    accumulators of the top `i` quads, the loop stores at step `j` the accumulators of the top
    `i + j + 1` quads of `av`, `bv`, `op av bv`, and the product of the two input quads. -/
theorem logicGo_vals (pairs : Nat) (isXor : Bool) (av bv : Nat) (hp : pairs ≤ 127) (k : Nat) :
    ∀ (i : Nat) (s : Constraint) (la ra oa : Nat) (c : Composer) r,
      (appendLogicComponent.go pairs isXor av bv k i s la ra oa).run c = r → s.hasPi = false →
      i + k ≤ pairs → la = topQuads av pairs i → ra = topQuads bv pairs i →
      oa = topQuads (logicOp isXor av bv) pairs i → ∀ j, j < k →
        r.2.val (c.wit.size + 4 * j) = topQuads av pairs (i + j + 1) ∧
        r.2.val (c.wit.size + 4 * j + 1) = topQuads bv pairs (i + j + 1) ∧
        r.2.val (c.wit.size + 4 * j + 2) = quadFromTop av pairs (i + j) * quadFromTop bv pairs (i + j) ∧
        r.2.val (c.wit.size + 4 * j + 3) = topQuads (logicOp isXor av bv) pairs (i + j + 1) := by
  induction k with
  | zero => intro i s la ra oa c r _ _ _ _ _ _ j hj; exact absurd hj (Nat.not_lt_zero _)
  | succ k ih =>
    intro i s la ra oa c r hr hs hik hla hra hoa j hj
    rw [logicGo_succ _ _ _ _ _ _ _ _ _ _ _ hs] at hr
    have hR : 4 ^ (i + 1) < R := four_pow_lt_R (by omega)
    have e1 : fadd (fmul la 4) (quadFromTop av pairs i) = topQuads av pairs (i + 1) := by
      rw [hla]; exact topQuads_succ_model av pairs i (by omega) hR
    have e2 : fadd (fmul ra 4) (quadFromTop bv pairs i) = topQuads bv pairs (i + 1) := by
      rw [hra]; exact topQuads_succ_model bv pairs i (by omega) hR
    have e3 : fadd (fmul oa 4) (logicOp isXor (quadFromTop av pairs i) (quadFromTop bv pairs i))
        = topQuads (logicOp isXor av bv) pairs (i + 1) := by
      rw [hoa, ← quadFromTop_logicOp]
      exact topQuads_succ_model _ pairs i (by omega) hR
    have hlay := logicGo_layout pairs isXor av bv k _ _ _ _ _ _ r hr hs
    rcases j with _ | j
    · obtain ⟨v0, v1, v2, v3⟩ := logicStep_vals pairs isXor av bv i s la ra oa c
      have hsz := logicStep_wit_size pairs isXor av bv i s la ra oa c
      have hlt : quadFromTop av pairs i * quadFromTop bv pairs i < R :=
        lt_of_le_of_lt (Nat.mul_le_mul (Nat.le_of_lt_succ (quadFromTop_lt av pairs i))
          (Nat.le_of_lt_succ (quadFromTop_lt bv pairs i))) (by have := R_gt_table_bound; omega)
      simp only [Nat.mul_zero, Nat.add_zero]
      rw [hlay.ext.val_eq (by rw [hsz]; omega), hlay.ext.val_eq (by rw [hsz]; omega),
        hlay.ext.val_eq (by rw [hsz]; omega), hlay.ext.val_eq (by rw [hsz]; omega),
        v0, v1, v2, v3, e1, e2, e3, Nat.mod_eq_of_lt hlt]
      exact ⟨rfl, rfl, rfl, rfl⟩
    · have := ih _ _ _ _ _ _ r hr hs (by omega) e1 e2 e3 j (by omega)
      rw [logicStep_wit_size] at this
      have ea : c.wit.size + 4 * (j + 1) = c.wit.size + 4 + 4 * j := by omega
      have ei : i + (j + 1) + 1 = i + 1 + j + 1 := by omega
      have ei' : i + (j + 1) = i + 1 + j := by omega
      rw [ea, ei, ei']
      exact this

/-- the base constraint of the loop -/
def logicBase (isXor : Bool) : Constraint :=
  if isXor then Constraint.logicXor {} else Constraint.logic {}

theorem logicBase_hasPi (isXor : Bool) : (logicBase isXor).hasPi = false := by
  cases isXor <;> rfl

theorem R_sub_one_beq_zero : (R - 1 == 0) = false := by decide +kernel

theorem toF_logicBase_qc (isXor : Bool) : toF (logicBase isXor).qc = logicQc isXor := by
  cases isXor
  · exact toF_logic_qc
  · exact toF_logicXor_qc

theorem rowHolds_lgate (isXor : Bool) (wa wb wc wd a b c d an bn dn : Nat) :
    rowHolds (lgate (logicBase isXor) wa wb wc wd) a b c d an bn dn 0 = true ↔
      logicRowF (logicQc isXor) (toF a) (toF an) (toF b) (toF bn) (toF c) (toF d) (toF dn) := by
  have hqc : (lgate (logicBase isXor) wa wb wc wd).qc = (logicBase isXor).qc := rfl
  rw [rowHolds_logic _ (by cases isXor; rfl; exact R_sub_one_beq_zero)
    (by cases isXor <;> rfl) (by cases isXor <;> rfl) (by cases isXor <;> rfl)
    (by cases isXor <;> rfl), hqc, toF_logicBase_qc]

/-- the closing row of a component: all selectors zero, three wires -/
def logicCloseGate (a b d : Nat) : Gate := ({ a := a, b := b, d := d } : Constraint).toGate

theorem logicCloseGate_plain (a b d : Nat) : Gate.plain (logicCloseGate a b d) :=
  ⟨rfl, rfl, rfl, rfl⟩

theorem rowHolds_logicCloseGate (wa wb wd a b c d an bn dn : Nat) :
    rowHolds (logicCloseGate wa wb wd) a b c d an bn dn 0 = true := by
  rw [rowHolds_arith _ rfl rfl rfl rfl]
  unfold arithF logicCloseGate
  simp [Constraint.toGate]

/-- result of the loop of `append_logic_component` entered from the state `c` -/
def logicLoop (pairs a b : Nat) (isXor : Bool) (c : Composer) : Constraint × Composer :=
  (appendLogicComponent.go pairs isXor (c.val a) (c.val b) pairs 0 (logicBase isXor) 0 0 0).run c

/-- state after the loop and the closing row -/
def logicCore (pairs a b : Nat) (isXor : Bool) (c : Composer) : Composer :=
  ((appendCustomGate
      { a := (logicLoop pairs a b isXor c).1.a,
        b := (logicLoop pairs a b isXor c).1.b,
        d := (logicLoop pairs a b isXor c).1.d }).run (logicLoop pairs a b isXor c).2).2

theorem appendLogicComponent_run_pos (pairs a b : Nat) (isXor : Bool) (c : Composer)
    (hp : pairs ≠ 0) :
    (appendLogicComponent pairs a b isXor).run c =
      ((logicLoop pairs a b isXor c).1.d,
          ((bindTruncationSplit b (logicLoop pairs a b isXor c).1.b (pairs * 2)).run
            ((bindTruncationSplit a (logicLoop pairs a b isXor c).1.a (pairs * 2)).run
              (logicCore pairs a b isXor c)).2).2) := by
  have h : (pairs != 0) = true := by simpa using hp
  unfold appendLogicComponent
  rw [run_bind', getVal_run, run_bind', getVal_run, run_bind', run_bind']
  simp only [h, if_true]
  rw [run_bind', run_bind']
  rfl

theorem appendLogicComponent_run_zero (pairs a b : Nat) (isXor : Bool) (c : Composer)
    (hp : pairs = 0) :
    (appendLogicComponent pairs a b isXor).run c =
      ((logicLoop pairs a b isXor c).1.d, logicCore pairs a b isXor c) := by
  have h : (pairs != 0) = false := by simpa using hp
  unfold appendLogicComponent
  rw [run_bind', getVal_run, run_bind', getVal_run, run_bind', run_bind']
  simp only [h]
  rfl

theorem logicBase_a (isXor : Bool) : (logicBase isXor).a = 0 := by cases isXor <;> rfl
theorem logicBase_b (isXor : Bool) : (logicBase isXor).b = 0 := by cases isXor <;> rfl
theorem logicBase_d (isXor : Bool) : (logicBase isXor).d = 0 := by cases isXor <;> rfl

/-- accumulator wire of the left input after `j` quads (the zero witness for `j = 0`) -/
def logicWireA (W j : Nat) : Nat := lslot W 0 0 j
/-- accumulator wire of the right input after `j` quads -/
def logicWireB (W j : Nat) : Nat := lslot W 0 1 j
/-- accumulator wire of the output after `j` quads -/
def logicWireD (W j : Nat) : Nat := lslot W 0 3 j

theorem logicLoop_spec (pairs a b : Nat) (isXor : Bool) (c : Composer) :
    LoopLayout (logicBase isXor) 0 0 0 pairs c (logicLoop pairs a b isXor c) := by
  have h := logicGo_layout pairs isXor (c.val a) (c.val b) pairs 0 (logicBase isXor) 0 0 0 c
    (logicLoop pairs a b isXor c) rfl (logicBase_hasPi isXor)
  rw [logicBase_a, logicBase_b, logicBase_d] at h
  exact h

/-- Layout of the loop plus closing row `c'`: `pairs + 1` gates, `4·pairs` witnesses, no public
    input; row `j < pairs` is a logic row on the accumulators before quad `j` and the product
    wire `W + 4j + 2`; row `pairs` is the unselected closing row on the final accumulators. -/
structure CoreLayout (pairs : Nat) (isXor : Bool) (c c' : Composer) : Prop where
  ext : Extends c c'
  gates : c'.gates.size = c.gates.size + pairs + 1
  wit : c'.wit.size = c.wit.size + 4 * pairs
  pis : c'.pis = c.pis
  row : ∀ j, j < pairs → c'.gates[c.gates.size + j]? =
    some (lgate (logicBase isXor) (logicWireA c.wit.size j) (logicWireB c.wit.size j)
      (c.wit.size + 4 * j + 2) (logicWireD c.wit.size j))
  close : c'.gates[c.gates.size + pairs]? =
    some (logicCloseGate (logicWireA c.wit.size pairs) (logicWireB c.wit.size pairs)
      (logicWireD c.wit.size pairs))

theorem logicCore_spec (pairs a b : Nat) (isXor : Bool) (c : Composer) :
    CoreLayout pairs isXor c (logicCore pairs a b isXor c) := by
  have L := logicLoop_spec pairs a b isXor c
  have hA : Appends (logicLoop pairs a b isXor c).2 (logicCore pairs a b isXor c) 1 0 :=
    appendCustomGate_appends _ _ (logicCloseGate_plain _ _ _)
  refine ⟨L.ext.trans hA.ext, by rw [hA.gates, L.gates], hA.wit.trans L.wit, L.pis,
    fun j hj => ?_, ?_⟩
  · rw [hA.ext.gates_prefix _ (by rw [L.gates]; omega)]
    exact L.row j hj
  · show _ = some (logicCloseGate (lslot _ 0 0 pairs) (lslot _ 0 1 pairs) (lslot _ 0 3 pairs))
    rw [← L.out_a, ← L.out_b, ← L.out_d, ← L.gates]
    exact Array.getElem?_push_size

/-- the accumulator chain read off an assignment -/
def LogicChain (isXor : Bool) (W pairs : Nat) (w : Nat → Nat) : Prop :=
  ∀ j, j < pairs →
    logicRowF (logicQc isXor) (toF (w (logicWireA W j))) (toF (w (logicWireA W (j + 1))))
      (toF (w (logicWireB W j))) (toF (w (logicWireB W (j + 1)))) (toF (w (W + 4 * j + 2)))
      (toF (w (logicWireD W j))) (toF (w (logicWireD W (j + 1))))

/-- the `pairs + 1` rows of the loop and the closing row, read in any later state, hold under
    an arbitrary assignment iff the `pairs` widget row equations hold along the wire chain. -/
theorem logicCore_rows_iff (pairs a b : Nat) (isXor : Bool) (c : Composer) (hpi : PiFresh c)
    (c'' : Composer) (hext : Extends (logicCore pairs a b isXor c) c'') (w : Nat → Nat) :
    c''.rowsHoldW w c.gates.size (c.gates.size + pairs + 1) ↔
      LogicChain isXor c.wit.size pairs w := by
  have L := logicCore_spec pairs a b isXor c
  have hpi0 : ∀ i, c.gates.size ≤ i → i < c.gates.size + pairs + 1 → c''.piAt i = 0 := by
    intro i hi hi2
    rw [hext.pis_old i (by rw [L.gates]; exact hi2), piAt_congr L.pis]
    exact hpi i hi
  have hclose : c''.rowHoldsW w (c.gates.size + pairs) = true := by
    have hg : c''.gates[c.gates.size + pairs]? = _ :=
      (hext.gates_prefix _ (by rw [L.gates]; omega)).trans L.close
    rw [rowHoldsW_of_get_plain hg (logicCloseGate_plain _ _ _) (hpi0 _ (by omega) (by omega))]
    exact rowHolds_logicCloseGate ..
  have key : ∀ j, j < pairs → (c''.rowHoldsW w (c.gates.size + j) = true ↔
      logicRowF (logicQc isXor) (toF (w (logicWireA c.wit.size j)))
        (toF (w (logicWireA c.wit.size (j + 1))))
        (toF (w (logicWireB c.wit.size j))) (toF (w (logicWireB c.wit.size (j + 1))))
        (toF (w (c.wit.size + 4 * j + 2)))
        (toF (w (logicWireD c.wit.size j))) (toF (w (logicWireD c.wit.size (j + 1))))) := by
    intro j hj
    have hg : c''.gates[c.gates.size + j]? = _ :=
      (hext.gates_prefix _ (by rw [L.gates]; omega)).trans (L.row j hj)
    have hg' : ∃ g', c''.gates[c.gates.size + j + 1]? = some g' ∧
        g'.a = logicWireA c.wit.size (j + 1) ∧ g'.b = logicWireB c.wit.size (j + 1) ∧
        g'.d = logicWireD c.wit.size (j + 1) := by
      by_cases hj1 : j + 1 < pairs
      · exact ⟨_, (hext.gates_prefix _ (by rw [L.gates]; omega)).trans (L.row (j + 1) hj1), rfl, rfl, rfl⟩
      · have e : j + 1 = pairs := by omega
        rw [Nat.add_assoc, e]
        exact ⟨_, (hext.gates_prefix _ (by rw [L.gates]; omega)).trans L.close, rfl, rfl, rfl⟩
    obtain ⟨g', hg', ea, eb, ed⟩ := hg'
    rw [rowHoldsW_of_get hg hg' (hpi0 _ (by omega) (by omega)), ea, eb, ed, rowHolds_lgate]
    rfl
  constructor
  · intro h j hj
    exact (key j hj).mp (h _ (by omega) (by omega))
  · intro h i hi1 hi2
    obtain ⟨j, rfl⟩ : ∃ j, i = c.gates.size + j := ⟨i - c.gates.size, by omega⟩
    by_cases hj : j < pairs
    · exact (key j hj).mpr (h j hj)
    · have : j = pairs := by omega
      subst this; exact hclose

theorem logicChain_sound (isXor : Bool) (W pairs : Nat) (w : Nat → Nat) (hp : pairs ≤ 127)
    (h0 : toF (w 0) = 0) (h : LogicChain isXor W pairs w) :
    (toF (w (logicWireA W pairs))).val < 4 ^ pairs ∧
    (toF (w (logicWireB W pairs))).val < 4 ^ pairs ∧
    (toF (w (logicWireD W pairs))).val =
      logicOp isXor (toF (w (logicWireA W pairs))).val (toF (w (logicWireB W pairs))).val :=
  logic_chain_sound_val isXor (fun j => toF (w (logicWireA W j))) (fun j => toF (w (logicWireB W j)))
    (fun j => toF (w (logicWireD W j))) (fun j => toF (w (W + 4 * j + 2))) pairs (four_pow_lt_R hp)
    h0 h0 h0 h

theorem logicStep_wf (pairs : Nat) (isXor : Bool) (av bv i : Nat) (s : Constraint)
    (la ra oa : Nat) (c : Composer) (h : WF c) :
    WF (logicStep pairs isXor av bv i s la ra oa c) := by
  refine wf_of_wit_append h _ (logicStep_wit ..) ?_ rfl (by simp)
  intro j hj
  have : j = 0 ∨ j = 1 ∨ j = 2 ∨ j = 3 := by simp at hj; omega
  rcases this with rfl | rfl | rfl | rfl <;> exact Nat.mod_lt _ R_pos

theorem logicGo_wf (pairs : Nat) (isXor : Bool) (av bv : Nat) (k : Nat) :
    ∀ (i : Nat) (s : Constraint) (la ra oa : Nat) (c : Composer), s.hasPi = false → WF c →
      WF ((appendLogicComponent.go pairs isXor av bv k i s la ra oa).run c).2 := by
  induction k with
  | zero => intro i s la ra oa c _ h; rw [logicGo_zero]; exact h
  | succ k ih =>
    intro i s la ra oa c hs h
    rw [logicGo_succ _ _ _ _ _ _ _ _ _ _ _ hs]
    exact ih _ _ _ _ _ _ hs (logicStep_wf pairs isXor av bv i s la ra oa c h)

theorem logicCore_val (pairs a b : Nat) (isXor : Bool) (c : Composer) (i : Nat) :
    (logicCore pairs a b isXor c).val i = (logicLoop pairs a b isXor c).2.val i := rfl

theorem logicCore_wf (pairs a b : Nat) (isXor : Bool) (c : Composer) (h : WF c) :
    WF (logicCore pairs a b isXor c) :=
  appendCustomGate_wf _ _ (logicGo_wf pairs isXor _ _ pairs 0 _ 0 0 0 c (logicBase_hasPi isXor) h)

theorem logicWire_lt (W pairs off j : Nat) (hW : 0 < W) (hj : j ≤ pairs) (ho : off < 4) :
    lslot W 0 off j < W + 4 * pairs := by
  rcases j with _ | j
  · simp; omega
  · rw [lslot_succ]; omega

/-- (`pairs ≤ 127`, zero witness `0`) read in any later state,
    wire `j` of each accumulator chain holds the top `j` quads of (the low `2·pairs` bits of)
    `a`, `b`, `op a b`; the product wire of row `j` holds the product of the two input quads. -/
theorem logicCore_vals (pairs a b : Nat) (isXor : Bool) (c : Composer) (hp : pairs ≤ 127)
    (hW : 0 < c.wit.size) (hz : c.val 0 = 0) {c'' : Composer}
    (hext : Extends (logicCore pairs a b isXor c) c'') :
    (∀ j, j ≤ pairs →
      c''.val (logicWireA c.wit.size j) = topQuads (c.val a) pairs j ∧
      c''.val (logicWireB c.wit.size j) = topQuads (c.val b) pairs j ∧
      c''.val (logicWireD c.wit.size j) = topQuads (logicOp isXor (c.val a) (c.val b)) pairs j) ∧
    (∀ j, j < pairs →
      c''.val (c.wit.size + 4 * j + 2) =
        quadFromTop (c.val a) pairs j * quadFromTop (c.val b) pairs j) := by
  have hv := logicGo_vals pairs isXor (c.val a) (c.val b) hp pairs 0 (logicBase isXor) 0 0 0 c
    (logicLoop pairs a b isXor c) rfl (logicBase_hasPi isXor) (by omega) (topQuads_zero _ _).symm
    (topQuads_zero _ _).symm (topQuads_zero _ _).symm
  obtain ⟨hext0, -, hsz, -⟩ := logicCore_spec pairs a b isXor c
  constructor
  · intro j hj
    rw [hext.val_eq (by rw [hsz]; exact logicWire_lt _ _ _ _ hW hj (by omega)),
      hext.val_eq (by rw [hsz]; exact logicWire_lt _ _ _ _ hW hj (by omega)),
      hext.val_eq (by rw [hsz]; exact logicWire_lt _ _ _ _ hW hj (by omega))]
    rcases j with _ | j
    · simp only [logicWireA, logicWireB, logicWireD, lslot_zero, topQuads_zero]
      rw [hext0.val_eq hW]; exact ⟨hz, hz, hz⟩
    · obtain ⟨h1, h2, -, h4⟩ := hv j (by omega)
      simp only [logicWireA, logicWireB, logicWireD, lslot_succ, logicCore_val]
      simp only [Nat.zero_add] at h1 h2 h4
      exact ⟨h1, h2, h4⟩
  · intro j hj
    obtain ⟨-, -, h3, -⟩ := hv j hj
    rw [hext.val_eq (by rw [hsz]; omega), logicCore_val]
    simp only [Nat.zero_add] at h3
    exact h3

theorem logicCore_chain_honest (pairs a b : Nat) (isXor : Bool) (c : Composer) (hp : pairs ≤ 127)
    (hW : 0 < c.wit.size) (hz : c.val 0 = 0) (c'' : Composer)
    (hext : Extends (logicCore pairs a b isXor c) c'') :
    LogicChain isXor c.wit.size pairs c''.val := by
  obtain ⟨hacc, hprod⟩ := logicCore_vals pairs a b isXor c hp hW hz hext
  obtain ⟨-, -, -, -, -, -, hrow⟩ := logic_chain_complete isXor (c.val a) (c.val b) pairs
  intro j hj
  have := hrow j hj
  simp only at this
  obtain ⟨a0, b0, d0⟩ := hacc j (by omega)
  obtain ⟨a1, b1, d1⟩ := hacc (j + 1) (by omega)
  rw [a0, a1, b0, b1, d0, d1, hprod j hj]
  exact this

theorem appendLogicComponent_fst (pairs a b : Nat) (isXor : Bool) (c : Composer) :
    ((appendLogicComponent pairs a b isXor).run c).1 = logicWireD c.wit.size pairs := by
  have h := (logicLoop_spec pairs a b isXor c).out_d
  by_cases hp : pairs = 0
  · rw [appendLogicComponent_run_zero _ _ _ _ _ hp]; exact h
  · rw [appendLogicComponent_run_pos _ _ _ _ _ hp]; exact h

theorem appendLogicComponent_snd_zero (pairs a b : Nat) (isXor : Bool) (c : Composer)
    (hp : pairs = 0) :
    ((appendLogicComponent pairs a b isXor).run c).2 = logicCore pairs a b isXor c := by
  rw [appendLogicComponent_run_zero _ _ _ _ _ hp]

/-- for `pairs ≠ 0`: loop, closing row, then the two truncation bindings of the final input
    accumulators to `a` and `b` -/
theorem appendLogicComponent_snd_pos (pairs a b : Nat) (isXor : Bool) (c : Composer)
    (hp : pairs ≠ 0) :
    ((appendLogicComponent pairs a b isXor).run c).2 =
      ((bindTruncationSplit b (logicWireB c.wit.size pairs) (pairs * 2)).run
        ((bindTruncationSplit a (logicWireA c.wit.size pairs) (pairs * 2)).run
          (logicCore pairs a b isXor c)).2).2 := by
  have L := logicLoop_spec pairs a b isXor c
  rw [appendLogicComponent_run_pos _ _ _ _ _ hp, L.out_a, L.out_b]
  rfl

/-- gates appended by the component (a function of `pairs` only) -/
def logicGateCount (pairs : Nat) : Nat :=
  pairs + 1 + (if pairs = 0 then 0 else 2 * btsGateCount (pairs * 2))

/-- witnesses allocated by the component (a function of `pairs` only) -/
def logicWitCount (pairs : Nat) : Nat :=
  4 * pairs + (if pairs = 0 then 0 else 2 * btsWitCount (pairs * 2))

theorem logicCore_lastPlain (pairs a b : Nat) (isXor : Bool) (c : Composer) :
    LastPlain (logicCore pairs a b isXor c) :=
  (appendCustomGate_appends _ _ (logicCloseGate_plain _ _ _) :
    Appends (logicLoop pairs a b isXor c).2 (logicCore pairs a b isXor c) 1 0).lastPlain

/-- Loop and closing row (`pairs ≤ 127` for the values and for completeness): the
    rows say that the widget equations hold along the wire chain; the final accumulators of the
    model's table hold `a`, `b` and `op a b` truncated to `2·pairs` bits. -/
theorem logicCore_block (pairs a b : Nat) (isXor : Bool) (c : Composer) :
    Block c (logicCore pairs a b isXor c) (pairs + 1) (4 * pairs)
      (fun w => LogicChain isXor c.wit.size pairs w)
      (fun v => pairs ≤ 127 → 0 < c.wit.size → c.val 0 = 0 →
        v (logicWireA c.wit.size pairs) = c.val a % 4 ^ pairs ∧
        v (logicWireB c.wit.size pairs) = c.val b % 4 ^ pairs ∧
        v (logicWireD c.wit.size pairs) = logicOp isXor (c.val a % 4 ^ pairs) (c.val b % 4 ^ pairs))
      (fun v => pairs ≤ 127 ∧ 0 < c.wit.size ∧ v 0 = 0) := by
  obtain ⟨hext0, hg, hw, -⟩ := logicCore_spec pairs a b isXor c
  refine {
    ext := hext0
    gates := hg
    wit := hw
    wf := logicCore_wf pairs a b isXor c
    lastPlain := fun _ => logicCore_lastPlain pairs a b isXor c
    sound := fun h c'' hext w hr => ?_
    vals := fun _ c'' hext hp hW hz => ?_
    complete := fun h c'' hext hH => ?_ }
  · rw [hg] at hr
    exact (logicCore_rows_iff pairs a b isXor c h.pis_zero c'' hext w).mp hr
  · obtain ⟨vA, vB, vD⟩ := (logicCore_vals pairs a b isXor c hp hW hz hext).1 pairs (Nat.le_refl _)
    rw [topQuads_self] at vA vB vD
    rw [vA, vB, vD, logicOp_mod]
    exact ⟨rfl, rfl, rfl⟩
  · have hz : c.val 0 = 0 := by rw [← (hext0.trans hext).val_eq hH.2.1]; exact hH.2.2
    rw [hg]
    exact (logicCore_rows_iff pairs a b isXor c h.pis_zero c'' hext _).mpr
      (logicCore_chain_honest pairs a b isXor c hH.1 hH.2.1 hz c'' hext)

/-- `append_logic_component`. Soundness (`pairs ≤ 127`, arbitrary assignment with
    the zero witness at `0`): the canonical value of the returned witness is `op` of the canonical
    values of `a`, `b` truncated to `2·pairs` bits. Completeness: inputs allocated, zero witness
    `0`. The model's table holds `op (a mod 4^pairs) (b mod 4^pairs)` in the returned witness. -/
theorem appendLogicComponent_block (pairs a b : Nat) (isXor : Bool) (c : Composer) :
    Block c ((appendLogicComponent pairs a b isXor).run c).2 (logicGateCount pairs)
      (logicWitCount pairs)
      (fun w => pairs ≤ 127 → toF (w 0) = 0 →
        (toF (w (logicWireD c.wit.size pairs))).val =
          logicOp isXor ((toF (w a)).val % 4 ^ pairs) ((toF (w b)).val % 4 ^ pairs))
      (fun v => pairs ≤ 127 → 0 < c.wit.size → c.val 0 = 0 →
        v (logicWireD c.wit.size pairs) = logicOp isXor (c.val a % 4 ^ pairs) (c.val b % 4 ^ pairs))
      (fun v => pairs ≤ 127 ∧ a < c.wit.size ∧ b < c.wit.size ∧ v 0 = 0) := by
  by_cases hp0 : pairs = 0
  · rw [appendLogicComponent_snd_zero _ _ _ _ _ hp0]
    refine (logicCore_block pairs a b isXor c).mono (by unfold logicGateCount; rw [if_pos hp0])
      (by unfold logicWitCount; rw [if_pos hp0]; rfl) ?_ (fun _ v _ hV hp hW hz => (hV hp hW hz).2.2)
      (fun _ v _ _ _ hH => ⟨hH.1, Nat.zero_lt_of_lt hH.2.1, hH.2.2.2⟩)
    rintro - w - - h0
    subst hp0
    simp only [logicWireD, lslot_zero, h0, pow_zero, Nat.mod_one, ZMod.val_zero]
    cases isXor <;> rfl
  rw [appendLogicComponent_snd_pos _ _ _ _ _ hp0]
  apply Block.mono
  · apply (logicCore_block pairs a b isXor c).trans
    apply (bindTruncationSplit_block _ _ _ _).trans
    exact bindTruncationSplit_block _ _ _ _
  · unfold logicGateCount; rw [if_neg hp0]; omega
  · unfold logicWitCount; rw [if_neg hp0]; omega
  · rintro - w ⟨chain, sA, sB⟩ hp h0
    obtain ⟨bA, bB, eD⟩ := logicChain_sound isXor c.wit.size pairs w hp h0 chain
    rw [four_pow_eq, Nat.mul_comm 2 pairs] at bA bB
    rw [eD, (sA (by omega) h0 bA).1, (sB (by omega) h0 bB).1, Nat.mul_comm pairs 2, ← four_pow_eq]
  · rintro - v - ⟨hV, -⟩ hp hW hz; exact (hV hp hW hz).2.2
  · rintro - v hagree - ⟨hV, -⟩ ⟨hp, ha, hb, hz⟩
    have hW : 0 < c.wit.size := Nat.zero_lt_of_lt ha
    obtain ⟨vA, vB, -⟩ := hV hp hW (by rw [← hagree 0 hW]; exact hz)
    have w2 := (logicCore_spec pairs a b isXor c).wit
    have w3 := (bindTruncationSplit_block a (logicWireA c.wit.size pairs) (pairs * 2)
      (logicCore pairs a b isXor c)).wit
    have lA := logicWire_lt c.wit.size pairs 0 pairs hW (Nat.le_refl _) (by omega)
    have lB := logicWire_lt c.wit.size pairs 1 pairs hW (Nat.le_refl _) (by omega)
    refine ⟨⟨hp, hW, hz⟩, fun _ => ⟨⟨by omega, by omega, by rw [w2]; exact lA, hz, ?_⟩, fun _ =>
      ⟨by omega, by omega, by rw [w3, w2]; exact Nat.lt_add_right _ lB, hz, ?_⟩⟩⟩
    · rw [vA, hagree a ha, Nat.mul_comm pairs 2, ← four_pow_eq]
    · rw [vB, hagree b hb, Nat.mul_comm pairs 2, ← four_pow_eq]

theorem logicCore_layout {c1 c2 : Composer} (h : SameLayout c1 c2) (pairs a b : Nat)
    (isXor : Bool) :
    SameLayout (logicCore pairs a b isXor c1) (logicCore pairs a b isXor c2) := by
  have L₁ := logicCore_spec pairs a b isXor c1
  have L₂ := logicCore_spec pairs a b isXor c2
  have hg : c1.gates.size = c2.gates.size := by rw [h.gates]
  refine ⟨?_, by rw [L₁.wit, L₂.wit, h.wsize], by rw [L₁.pis, L₂.pis, h.pis]⟩
  apply Array.ext_getElem?
  intro i
  by_cases hi : i < c1.gates.size
  · rw [L₁.ext.gates_prefix i hi, L₂.ext.gates_prefix i (by omega), h.gates]
  · obtain ⟨j, rfl⟩ : ∃ j, i = c1.gates.size + j := ⟨i - c1.gates.size, by omega⟩
    by_cases hj : j < pairs
    · have := L₂.row j hj
      rw [← hg, ← h.wsize] at this
      rw [L₁.row j hj, this]
    · by_cases hj2 : j = pairs
      · subst hj2
        have := L₂.close
        rw [← hg, ← h.wsize] at this
        rw [L₁.close, this]
      · have g₁ := L₁.gates
        have g₂ := L₂.gates
        rw [Array.getElem?_eq_none (by omega), Array.getElem?_eq_none (by omega)]

theorem appendLogicComponent_layout {c1 c2 : Composer} (h : SameLayout c1 c2) (pairs a b : Nat)
    (isXor : Bool) :
    SameLayout ((appendLogicComponent pairs a b isXor).run c1).2
      ((appendLogicComponent pairs a b isXor).run c2).2 := by
  have hc := logicCore_layout h pairs a b isXor
  by_cases hp : pairs = 0
  · rw [appendLogicComponent_snd_zero _ _ _ _ _ hp, appendLogicComponent_snd_zero _ _ _ _ _ hp]
    exact hc
  · rw [appendLogicComponent_snd_pos _ _ _ _ _ hp, appendLogicComponent_snd_pos _ _ _ _ _ hp,
      h.wsize]
    exact bindTruncationSplit_layout (bindTruncationSplit_layout hc _ _ _) _ _ _

/-- (fixed layout) whatever canonical values `va`, `vb`
    the two inputs carry, some assignment satisfies every row of the component, and it gives the
    returned witness the value `op (va mod 4^pairs) (vb mod 4^pairs)`. -/
theorem appendLogicComponent_exists (pairs a b : Nat) (isXor : Bool) (c : Composer)
    (hp : pairs ≤ 127) (h : WF c) (ha : a < c.wit.size) (hb : b < c.wit.size) (va vb : Nat)
    (hva : va < R) (hvb : vb < R) (ha0 : a = 0 → va = 0) (hb0 : b = 0 → vb = 0)
    (hab : a = b → va = vb) :
    ∃ w : Nat → Nat, w a = va ∧ w b = vb ∧ w 0 = 0 ∧
      w (logicWireD c.wit.size pairs) = logicOp isXor (va % 4 ^ pairs) (vb % 4 ^ pairs) ∧
      ((appendLogicComponent pairs a b isXor).run c).2.rowsHoldW w c.gates.size
        ((appendLogicComponent pairs a b isXor).run c).2.gates.size := by
  obtain ⟨c₁, l1, wf1, va1, -, -⟩ := exists_sameLayout_val c a va h hva ha ha0
  obtain ⟨c₂, l2, hwf, vb2, vz2, hne⟩ :=
    exists_sameLayout_val c₁ b vb wf1 hvb (l1.wsize ▸ hb) hb0
  have hl : SameLayout c c₂ :=
    ⟨l1.gates.trans l2.gates, l1.wsize.trans l2.wsize, l1.pis.trans l2.pis⟩
  have ha2 : a < c₂.wit.size := hl.wsize ▸ ha
  have hb2 : b < c₂.wit.size := hl.wsize ▸ hb
  have va2 : c₂.val a = va := by
    by_cases e : a = b
    · subst e; have hv := hab rfl; subst hv; exact vb2
    · by_cases e0 : a = 0
      · subst e0; have hv := ha0 rfl; subst hv; exact vz2
      · rw [hne a e e0]; exact va1
  have B := appendLogicComponent_block pairs a b isXor c₂
  have hL := appendLogicComponent_layout hl pairs a b isXor
  have hz2 : ((appendLogicComponent pairs a b isXor).run c₂).2.val 0 = 0 := by
    rw [B.ext.val_eq (by omega), vz2]
  refine ⟨((appendLogicComponent pairs a b isXor).run c₂).2.val, ?_, ?_, hz2, ?_, ?_⟩
  · rw [B.ext.val_eq ha2, va2]
  · rw [B.ext.val_eq hb2, vb2]
  · rw [hl.wsize, B.vals hwf (Extends.refl _) hp (by omega) vz2, va2, vb2]
  · rw [hL.rowsHoldW_iff, hL.gates, hl.gates]
    exact B.complete hwf (Extends.refl _) ⟨hp, ha2, hb2, hz2⟩

end Composer
end Plonk
