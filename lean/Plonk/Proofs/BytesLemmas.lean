/-
  Byte-level lemmas for the codecs: `bytesToNatLE/BE`, `natToBytesLE/BE`, canonical scalars.
-/
import Mathlib.Tactic.Ring
import Mathlib.Tactic.Linarith
import Plonk.Model.Verifier

/-- a property of the default and of all members holds of `getD` -/
theorem List.getD_of_forall {α : Type} {P : α → Prop} {l : List α} {d : α} (hd : P d) (h : ∀ x ∈ l, P x)
    (i : Nat) : P (l.getD i d) := by
  rw [List.getD_eq_getElem?_getD]
  cases hi : l[i]? with
  | none => exact hd
  | some p => exact h p (List.mem_of_getElem? hi)

namespace Plonk

theorem length_flatMap_const {α β : Type} {f : α → List β} {c : Nat} (h : ∀ x, (f x).length = c) (l : List α) :
    (l.flatMap f).length = c * l.length := by
  induction l with
  | nil => rfl
  | cons x l ih => rw [List.flatMap_cons, List.length_append, ih, h, List.length_cons, Nat.mul_succ, Nat.add_comm]

theorem flatMap_length_le {α β : Type} {l : List α} {f : α → List β} {c : Nat} (h : ∀ x ∈ l, (f x).length ≤ c) :
    (l.flatMap f).length ≤ l.length * c := by
  induction l with
  | nil => simp
  | cons x l ih =>
    rw [List.flatMap_cons, List.length_append, List.length_cons, Nat.succ_mul]
    have := h x (by simp)
    have := ih (fun y hy => h y (List.mem_cons_of_mem _ hy))
    omega

/-- a byte list: every entry `< 256` -/
def AllBytes (bs : List Nat) : Prop := ∀ b ∈ bs, b < 256

namespace AllBytes
theorem nil : AllBytes [] := by intro b hb; cases hb
theorem cons {b : Nat} {bs : List Nat} (hb : b < 256) (h : AllBytes bs) : AllBytes (b :: bs) := by
  intro c hc; rcases List.mem_cons.mp hc with rfl | hc
  · exact hb
  · exact h c hc
theorem head {b : Nat} {bs : List Nat} (h : AllBytes (b :: bs)) : b < 256 := h b (by simp)
theorem tail {b : Nat} {bs : List Nat} (h : AllBytes (b :: bs)) : AllBytes bs :=
  fun c hc => h c (List.mem_cons_of_mem _ hc)
theorem append {a b : List Nat} (ha : AllBytes a) (hb : AllBytes b) : AllBytes (a ++ b) := by
  intro c hc; rcases List.mem_append.mp hc with h | h
  · exact ha c h
  · exact hb c h
theorem left {a b : List Nat} (h : AllBytes (a ++ b)) : AllBytes a :=
  fun c hc => h c (List.mem_append_left _ hc)
theorem right {a b : List Nat} (h : AllBytes (a ++ b)) : AllBytes b :=
  fun c hc => h c (List.mem_append_right _ hc)
theorem take {bs : List Nat} (h : AllBytes bs) (n : Nat) : AllBytes (bs.take n) :=
  fun c hc => h c (List.mem_of_mem_take hc)
theorem drop {bs : List Nat} (h : AllBytes bs) (n : Nat) : AllBytes (bs.drop n) :=
  fun c hc => h c (List.mem_of_mem_drop hc)
theorem replicate_zero (n : Nat) : AllBytes (List.replicate n 0) := by
  intro c hc; rw [List.mem_replicate] at hc; omega
theorem flatMap {α : Type} {f : α → List Nat} {l : List α} (h : ∀ a ∈ l, AllBytes (f a)) :
    AllBytes (l.flatMap f) := by
  intro c hc; rcases List.mem_flatMap.mp hc with ⟨a, ha, hca⟩; exact h a ha c hca
end AllBytes

theorem bytesToNatBE_foldl (bs : List Nat) (acc : Nat) :
    bs.foldl (fun acc b => acc * 256 + b % 256) acc = acc * 256 ^ bs.length + bytesToNatBE bs := by
  induction bs generalizing acc with
  | nil => simp [bytesToNatBE]
  | cons b bs ih =>
    simp only [List.foldl_cons, List.length_cons, bytesToNatBE]
    rw [ih, ih (0 * 256 + b % 256)]; ring

theorem bytesToNatBE_nil : bytesToNatBE [] = 0 := rfl

theorem bytesToNatBE_cons (b : Nat) (bs : List Nat) :
    bytesToNatBE (b :: bs) = b % 256 * 256 ^ bs.length + bytesToNatBE bs := by
  show (b :: bs).foldl _ 0 = _
  rw [List.foldl_cons, bytesToNatBE_foldl]; ring

theorem bytesToNatBE_append (a b : List Nat) :
    bytesToNatBE (a ++ b) = bytesToNatBE a * 256 ^ b.length + bytesToNatBE b := by
  show (a ++ b).foldl _ 0 = _
  rw [List.foldl_append, bytesToNatBE_foldl]; rfl

theorem bytesToNatLE_nil : bytesToNatLE [] = 0 := rfl

theorem bytesToNatLE_cons (b : Nat) (bs : List Nat) :
    bytesToNatLE (b :: bs) = b % 256 + 256 * bytesToNatLE bs := by
  unfold bytesToNatLE
  rw [List.reverse_cons, bytesToNatBE_append]
  simp [bytesToNatBE_cons, bytesToNatBE_nil]; ring

theorem bytesToNatLE_append (a b : List Nat) :
    bytesToNatLE (a ++ b) = bytesToNatLE a + 256 ^ a.length * bytesToNatLE b := by
  unfold bytesToNatLE
  rw [List.reverse_append, bytesToNatBE_append, List.length_reverse]; ring

theorem bytesToNatBE_reverse (bs : List Nat) : bytesToNatBE bs.reverse = bytesToNatLE bs := rfl
theorem bytesToNatLE_reverse (bs : List Nat) : bytesToNatLE bs.reverse = bytesToNatBE bs := by
  unfold bytesToNatLE; rw [List.reverse_reverse]

theorem bytesToNatLE_lt (bs : List Nat) : bytesToNatLE bs < 256 ^ bs.length := by
  induction bs with
  | nil => simp [bytesToNatLE_nil]
  | cons b bs ih =>
    rw [bytesToNatLE_cons, List.length_cons, pow_succ]
    have : b % 256 < 256 := Nat.mod_lt _ (by norm_num)
    omega

theorem bytesToNatBE_lt (bs : List Nat) : bytesToNatBE bs < 256 ^ bs.length := by
  have := bytesToNatLE_lt bs.reverse
  rwa [bytesToNatLE_reverse, List.length_reverse] at this

@[simp] theorem natToBytesLE_length (v len : Nat) : (natToBytesLE v len).length = len := by
  simp [natToBytesLE]
@[simp] theorem natToBytesBE_length (v len : Nat) : (natToBytesBE v len).length = len := by
  simp [natToBytesBE]

theorem natToBytesLE_zero (v : Nat) : natToBytesLE v 0 = [] := rfl

theorem natToBytesLE_succ (v n : Nat) :
    natToBytesLE v (n + 1) = v % 256 :: natToBytesLE (v / 256) n := by
  unfold natToBytesLE
  rw [List.range_succ_eq_map, List.map_cons, List.map_map]
  congr 1
  · simp
  · apply List.map_congr_left
    intro i _
    simp only [Function.comp, pow_succ']
    rw [Nat.div_div_eq_div_mul]

theorem natToBytesBE_eq_reverse (v len : Nat) : natToBytesBE v len = (natToBytesLE v len).reverse := by
  apply List.ext_getElem
  · simp
  · intro i h1 h2
    simp only [natToBytesBE_length] at h1
    simp [natToBytesBE, natToBytesLE]

theorem natToBytesLE_eq_reverse (v len : Nat) : natToBytesLE v len = (natToBytesBE v len).reverse := by
  rw [natToBytesBE_eq_reverse, List.reverse_reverse]

theorem natToBytesLE_allBytes (v len : Nat) : AllBytes (natToBytesLE v len) := by
  intro b hb
  simp only [natToBytesLE, List.mem_map] at hb
  rcases hb with ⟨i, _, rfl⟩
  exact Nat.mod_lt _ (by norm_num)

theorem natToBytesBE_allBytes (v len : Nat) : AllBytes (natToBytesBE v len) := by
  rw [natToBytesBE_eq_reverse]; intro b hb; exact natToBytesLE_allBytes v len b (List.mem_reverse.mp hb)

theorem bytesToNatLE_natToBytesLE_mod (v len : Nat) :
    bytesToNatLE (natToBytesLE v len) = v % 256 ^ len := by
  induction len generalizing v with
  | zero => simp [natToBytesLE_zero, bytesToNatLE_nil, Nat.mod_one]
  | succ n ih =>
    rw [natToBytesLE_succ, bytesToNatLE_cons, ih, Nat.mod_mod, pow_succ', Nat.mod_mul]

theorem bytesToNatLE_natToBytesLE {v len : Nat} (h : v < 256 ^ len) :
    bytesToNatLE (natToBytesLE v len) = v := by
  rw [bytesToNatLE_natToBytesLE_mod, Nat.mod_eq_of_lt h]

theorem natToBytesLE_bytesToNatLE {bs : List Nat} (h : AllBytes bs) :
    natToBytesLE (bytesToNatLE bs) bs.length = bs := by
  induction bs with
  | nil => rfl
  | cons b bs ih =>
    rw [List.length_cons, natToBytesLE_succ, bytesToNatLE_cons]
    have hb : b < 256 := h.head
    have h1 : (b % 256 + 256 * bytesToNatLE bs) % 256 = b := by omega
    have h2 : (b % 256 + 256 * bytesToNatLE bs) / 256 = bytesToNatLE bs := by omega
    rw [h1, h2, ih h.tail]

theorem bytesToNatBE_natToBytesBE_mod (v len : Nat) :
    bytesToNatBE (natToBytesBE v len) = v % 256 ^ len := by
  rw [natToBytesBE_eq_reverse, bytesToNatBE_reverse, bytesToNatLE_natToBytesLE_mod]

theorem bytesToNatBE_natToBytesBE {v len : Nat} (h : v < 256 ^ len) :
    bytesToNatBE (natToBytesBE v len) = v := by
  rw [bytesToNatBE_natToBytesBE_mod, Nat.mod_eq_of_lt h]

theorem natToBytesBE_bytesToNatBE {bs : List Nat} (h : AllBytes bs) :
    natToBytesBE (bytesToNatBE bs) bs.length = bs := by
  have hr : AllBytes bs.reverse := fun b hb => h b (List.mem_reverse.mp hb)
  have := natToBytesLE_bytesToNatLE hr
  rw [bytesToNatLE_reverse, List.length_reverse] at this
  rw [natToBytesBE_eq_reverse, this, List.reverse_reverse]

/-- the value determines a byte list of given length -/
theorem bytesToNatLE_inj {a b : List Nat} (ha : AllBytes a) (hb : AllBytes b) (hl : a.length = b.length)
    (h : bytesToNatLE a = bytesToNatLE b) : a = b := by
  rw [← natToBytesLE_bytesToNatLE ha, ← natToBytesLE_bytesToNatLE hb, h, hl]

theorem bytesToNatBE_inj {a b : List Nat} (ha : AllBytes a) (hb : AllBytes b) (hl : a.length = b.length)
    (h : bytesToNatBE a = bytesToNatBE b) : a = b := by
  rw [← natToBytesBE_bytesToNatBE ha, ← natToBytesBE_bytesToNatBE hb, h, hl]

theorem R_lt_256_pow_32 : R < 256 ^ 32 := by decide +kernel

@[simp] theorem scalarBytesLE_length (x : Nat) : (scalarBytesLE x).length = 32 := by
  simp [scalarBytesLE]

theorem scalarBytesLE_allBytes (x : Nat) : AllBytes (scalarBytesLE x) := natToBytesLE_allBytes _ _

theorem scalarFromBytes_scalarBytesLE {x : Nat} (h : x < R) :
    scalarFromBytes? (scalarBytesLE x) = some x := by
  unfold scalarFromBytes?
  have hv : bytesToNatLE (scalarBytesLE x) = x := by
    unfold scalarBytesLE
    rw [Nat.mod_eq_of_lt h]
    exact bytesToNatLE_natToBytesLE (lt_trans h R_lt_256_pow_32)
  simp [hv, h]

/-- scalar decoding is canonical: an accepted byte list is the encoding of the value -/
theorem scalarFromBytes_canonical {bs : List Nat} {x : Nat} (hb : AllBytes bs)
    (h : scalarFromBytes? bs = some x) : scalarBytesLE x = bs ∧ x < R := by
  unfold scalarFromBytes? at h
  split at h
  · cases h
  · next hl =>
    have hl : bs.length = 32 := by simpa using hl
    simp only at h
    split at h
    · next hlt =>
      cases h
      refine ⟨?_, hlt⟩
      unfold scalarBytesLE
      rw [Nat.mod_eq_of_lt hlt, ← hl]
      exact natToBytesLE_bytesToNatLE hb
    · cases h

theorem scalarFromBytes_length {bs : List Nat} {x : Nat} (h : scalarFromBytes? bs = some x) :
    bs.length = 32 := by
  unfold scalarFromBytes? at h
  split at h
  · cases h
  · next hl => simpa using hl

theorem scalarFromBytes_lt {bs : List Nat} {x : Nat} (h : scalarFromBytes? bs = some x) : x < R := by
  unfold scalarFromBytes? at h
  split at h
  · cases h
  · simp only at h
    split at h
    · next hlt => cases h; exact hlt
    · cases h

end Plonk
