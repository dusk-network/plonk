/-
  The variable-base curve-addition widget (`varComps`, selector `q_variable_group_add`) in the
  field: the three components vanish iff the helper wire is `x1·y2` and `(x3, y3)` satisfies the
  cleared-denominator addition law; on curve points (where the law is complete) iff the helper
  is `x1·y2` and `(x3, y3)` IS the Edwards sum — unique output, unique helper wire.
  The last section reads a gate with only `q_variable_group_add` set as this relation.
-/
import Plonk.Proofs.Edwards
import Plonk.Proofs.RowBridge

namespace Plonk

/-- field-level content of the curve-addition row: wires `a=x1, b=y1, c=x2, d=y2` on the row,
    `a'=x3, b'=y3, d'=h` on the next row -/
def VarRowF (x1 y1 x2 y2 x3 y3 h : F) : Prop :=
  x1 * y2 = h ∧
  x3 * (1 + dF * h * (y1 * x2)) = h + y1 * x2 ∧
  y3 * (1 - dF * h * (y1 * x2)) = y1 * y2 + x1 * x2

theorem varComps_lt (a an b bn c d dn : Nat) : ∀ x ∈ varComps a an b bn c d dn, x < R := by
  intro x hx
  simp only [varComps, List.mem_cons, List.mem_nil_iff, or_false] at hx
  rcases hx with h | h | h <;> (rw [h]; exact fsub_lt _ _)

/-- `varComps` in the field (`x1=a, y1=b, x2=c, y2=d, x3=an, y3=bn, h=dn`) -/
theorem varComps_zero_iff (a an b bn c d dn : Nat) :
    allZero (varComps a an b bn c d dn) = true ↔
      toF a * toF d = toF dn ∧
      toF an * (1 + dF * toF dn * (toF b * toF c)) = toF dn + toF b * toF c ∧
      toF bn * (1 - dF * toF dn * (toF b * toF c)) = toF b * toF d + toF a * toF c := by
  rw [allZero_iff _ (varComps_lt a an b bn c d dn)]
  simp only [varComps, List.mem_cons, List.mem_nil_iff, or_false, forall_eq_or_imp, forall_eq,
    toF_fsub, toF_fadd, toF_fmul, toF_EDWARDS_D]
  rw [sub_eq_zero, sub_eq_zero, sub_eq_zero, ← mul_one_add, ← mul_one_sub,
    @eq_comm _ (toF dn + toF b * toF c), @eq_comm _ (toF b * toF d + toF a * toF c)]

theorem varComps_zero_iff_VarRowF (a an b bn c d dn : Nat) :
    allZero (varComps a an b bn c d dn) = true ↔
      VarRowF (toF a) (toF b) (toF c) (toF d) (toF an) (toF bn) (toF dn) :=
  varComps_zero_iff a an b bn c d dn

/-- On curve points the row has exactly one solution: the helper is `x1·y2` and the output is
    the Edwards sum. -/
theorem varRowF_iff_of_on_curve {x1 y1 x2 y2 : F} (h1 : OnCurveF x1 y1) (h2 : OnCurveF x2 y2)
    (x3 y3 h : F) :
    VarRowF x1 y1 x2 y2 x3 y3 h ↔ h = x1 * y2 ∧ (x3, y3) = addF (x1, y1) (x2, y2) := by
  obtain ⟨hA, hB⟩ := add_complete h1 h2
  unfold VarRowF
  rw [eq_comm (a := x1 * y2)]
  refine and_congr_right fun e => ?_
  subst e
  -- with `h = x1·y2` the two denominators are those of the addition law
  have eA : dF * (x1 * y2) * (y1 * x2) = dF * x1 * x2 * y1 * y2 := by ring
  simp only [addF, Prod.mk.injEq, eq_div_iff hA, eq_div_iff hB, eA]

/-- `varComps` on on-curve inputs: unique helper wire, unique output (field form) -/
theorem varComps_zero_iff_on_curve (a an b bn c d dn : Nat)
    (h1 : onCurve (a, b) = true) (h2 : onCurve (c, d) = true) :
    allZero (varComps a an b bn c d dn) = true ↔
      toF dn = toF a * toF d ∧ (toF an, toF bn) = addF (toF a, toF b) (toF c, toF d) := by
  rw [varComps_zero_iff_VarRowF]
  rw [onCurve_iff] at h1 h2
  exact varRowF_iff_of_on_curve h1 h2 _ _ _

/-- `varComps` on on-curve inputs and reduced next-row wires: the next-row values are exactly the
    ones the host computes (`fmul x1 y2`, `edAddOrId`). -/
theorem varComps_zero_iff_model (a an b bn c d dn : Nat)
    (h1 : onCurve (a, b) = true) (h2 : onCurve (c, d) = true)
    (han : an < R) (hbn : bn < R) (hdn : dn < R) :
    allZero (varComps a an b bn c d dn) = true ↔
      dn = fmul a d ∧ (an, bn) = edAddOrId (a, b) (c, d) := by
  rw [varComps_zero_iff_on_curve _ _ _ _ _ _ _ h1 h2]
  have hs := toFP_edAddOrId (a, b) (c, d) h1 h2
  have hlt := edAddOrId_lt (a, b) (c, d)
  have e1 : toF dn = toF a * toF d ↔ dn = fmul a d := by
    rw [← toF_fmul, toF_inj_of_lt hdn (fmul_lt _ _)]
  have e2 : (toF an, toF bn) = addF (toF a, toF b) (toF c, toF d) ↔
      (an, bn) = edAddOrId (a, b) (c, d) := by
    rw [show addF (toF a, toF b) (toF c, toF d) = toFP (edAddOrId (a, b) (c, d)) from hs.symm]
    unfold toFP
    rw [Prod.mk.injEq, toF_inj_of_lt han hlt.1, toF_inj_of_lt hbn hlt.2, Prod.ext_iff]
  rw [e1, e2]

/-- the host's own assignment satisfies the row (completeness direction, on curve points) -/
theorem varComps_honest (a b c d : Nat) (h1 : onCurve (a, b) = true) (h2 : onCurve (c, d) = true) :
    allZero (varComps a (edAddOrId (a, b) (c, d)).1 b (edAddOrId (a, b) (c, d)).2 c d
      (fmul a d)) = true := by
  have hlt := edAddOrId_lt (a, b) (c, d)
  rw [varComps_zero_iff_model _ _ _ _ _ _ _ h1 h2 hlt.1 hlt.2 (fmul_lt _ _)]
  exact ⟨rfl, rfl⟩

/-! ### Doubling (`P = Q`), as used three times by the torsion-free gadget -/

/-- the doubling of a field point -/
def dblF (p : PtF) : PtF := addF p p

theorem dbl_on_curve {p : PtF} (hp : OnCurveP p) : OnCurveP (dblF p) := add_on_curveP hp hp

/-- rows for `(Q, Q)` with `Q` on the curve force `(x3, y3) = 2Q` (and `h = x·y`) -/
theorem varRowF_double_iff {x y : F} (hq : OnCurveF x y) (x3 y3 h : F) :
    VarRowF x y x y x3 y3 h ↔ h = x * y ∧ (x3, y3) = dblF (x, y) :=
  varRowF_iff_of_on_curve hq hq x3 y3 h

/-- … and then the output is again on the curve -/
theorem varRowF_double_on_curve {x y : F} (hq : OnCurveF x y) {x3 y3 h : F}
    (hr : VarRowF x y x y x3 y3 h) : OnCurveF x3 y3 := by
  have := ((varRowF_double_iff hq x3 y3 h).mp hr).2
  have hc : OnCurveP (dblF (x, y)) := dbl_on_curve (p := (x, y)) hq
  rw [← this] at hc
  exact hc

theorem varComps_double_iff (a an b bn dn : Nat) (hq : onCurve (a, b) = true) :
    allZero (varComps a an b bn a b dn) = true ↔
      toF dn = toF a * toF b ∧ (toF an, toF bn) = dblF (toF a, toF b) :=
  varComps_zero_iff_on_curve a an b bn a b dn hq hq

theorem varComps_double_on_curve (a an b bn dn : Nat) (hq : onCurve (a, b) = true)
    (hr : allZero (varComps a an b bn a b dn) = true) : onCurve (an, bn) = true := by
  rw [onCurve_iff]
  rw [onCurve_iff] at hq
  rw [varComps_zero_iff_VarRowF] at hr
  exact varRowF_double_on_curve hq hr

/-- general closure through a row: on-curve inputs and a satisfied row give an on-curve output -/
theorem varComps_on_curve (a an b bn c d dn : Nat)
    (h1 : onCurve (a, b) = true) (h2 : onCurve (c, d) = true)
    (hr : allZero (varComps a an b bn c d dn) = true) : onCurve (an, bn) = true := by
  rw [varComps_zero_iff_on_curve _ _ _ _ _ _ _ h1 h2] at hr
  rw [onCurve_iff] at h1 h2 ⊢
  have hc : OnCurveP (addF (toF a, toF b) (toF c, toF d)) :=
    add_on_curveP (p := (toF a, toF b)) (q := (toF c, toF d)) h1 h2
  rw [← hr.2] at hc
  exact hc

/-! ### Row level: a pure curve-addition gate (`Constraint.groupAddVariableBase`) -/

/-- A gate with `q_variable_group_add = 1` and no other selector family active (`qarith = 0`,
    no public input): the row check is exactly the three curve-addition components. -/
theorem rowHolds_var (g : Gate) (hv : g.qvar = 1) (ha : g.qarith = 0) (hr : g.qrange = 0)
    (hl : g.qlogic = 0) (hf : g.qfixed = 0) (a b c d an bn dn : Nat) :
    rowHolds g a b c d an bn dn 0 = true ↔
      VarRowF (toF a) (toF b) (toF c) (toF d) (toF an) (toF bn) (toF dn) := by
  unfold rowHolds
  have h0 : arithVal g a b c d 0 = 0 := by
    rw [arithVal_eq_zero]; unfold arithF; simp [ha]
  simp [hv, hr, hl, hf, h0, varComps_zero_iff_VarRowF]

/-- the gate produced by `Constraint.groupAddVariableBase` satisfies the selector hypotheses -/
theorem groupAddVariableBase_selectors (s : Constraint) :
    let g := (Constraint.groupAddVariableBase s).toGate
    g.qvar = 1 ∧ g.qarith = 0 ∧ g.qrange = 0 ∧ g.qlogic = 0 ∧ g.qfixed = 0 := by
  simp [Constraint.groupAddVariableBase, Constraint.fromExternal, Constraint.toGate]

end Plonk
