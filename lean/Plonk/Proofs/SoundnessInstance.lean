/-
  C02 (soundness) — a concrete instance for the non-vacuity example of `soundness_algebraic`:
  two rows `a + b + c = 0` with `(a, b, c, d) = (1, 2, −3, 0)`, eight distinct witnesses (so `σ` is
  the identity), domain `{1, −1}`, constant wire polynomials, accumulator `Z = 1`.  The numerator
  polynomial is identically zero, the quotient is `T = 0`; good challenges exist because the bad
  sets are smaller than the field.
-/
import Plonk.Proofs.SoundnessCount
import Plonk.Proofs.SoundnessExamples
import Plonk.Proofs.SoundnessWitness
import Plonk.Proofs.SoundnessVerifier

namespace Plonk.Sound
open Polynomial Plonk Plonk.Quot Plonk.Perm

/-- the layout: two addition rows, eight distinct witnesses -/
def exLay2 : Composer :=
  { gates := #[{ ql := 1, qr := 1, qo := 1, qarith := 1, a := 0, b := 1, c := 2, d := 3 },
               { ql := 1, qr := 1, qo := 1, qarith := 1, a := 4, b := 5, c := 6, d := 7 }],
    wit := #[1, 2, R - 3, 0, 1, 2, R - 3, 0] }

/-- the polynomials: constant selectors and wires, `σ_col = K_col·X`, `Z = 1` -/
noncomputable def exP2 : ProverPolys F :=
  { Q := ⟨0, C 1, C 1, C 1, 0, 0, C 1, 0, 0, 0, 0⟩
    a := C 1, b := C 2, c := C (-3), d := 0, pi := 0
    s1 := X, s2 := C (Generated.K1 : F) * X, s3 := C (Generated.K2 : F) * X,
    s4 := C (Generated.K3 : F) * X, z := C 1 }

theorem exLay2_sigma (p : Pos) : sigmaFn exLay2 p = p := by
  by_cases ha : Active exLay2 p
  · obtain ⟨⟨h1, h2⟩, -⟩ := ha
    obtain ⟨c, i⟩ := p
    have hi : i < 2 := h2
    have hc : c < 4 := h1
    interval_cases i <;> interval_cases c <;> decide +kernel
  · exact sigmaFn_of_not_active ha

theorem exLay2_gateAt (i : Nat) (hi : i < 2) :
    Quot.selF (exLay2.gateAt i) = ⟨0, 1, 1, 1, 0, 0, 1, 0, 0, 0, 0⟩ := by
  interval_cases i <;> simp [Quot.selF, Composer.gateAt, exLay2]

theorem exLay2_piAt (i : Nat) : exLay2.piAt i = 0 := by
  simp [Composer.piAt, exLay2]

theorem exKey : KeyInterp (-1) (2 ^ 1) exLay2 exP2 := by
  -- `σ` is the identity, column `c` carries `K_c·X`
  have hs (c : Nat) (κ : F) (hκ : toF (kOf c) = κ) (i : Nat) :
      (C κ * X : F[X]).eval ((-1) ^ i) = idLabel (-1) (sigmaFn exLay2 (c, i)) := by
    rw [exLay2_sigma, idLabel, hκ, eval_mul, eval_C, eval_X]
  refine ⟨fun i hi => ?_, fun i _ => ?_, fun i _ => ?_, fun i _ => hs 1 _ rfl i, fun i _ => hs 2 _ rfl i,
    fun i _ => hs 3 _ rfl i⟩
  · rw [exLay2_gateAt i hi]
    simp only [Sel.map, exP2, eval_zero, eval_C]
  · rw [exLay2_piAt, toF_zero]; exact eval_zero
  · rw [exLay2_sigma, idLabel, show toF (kOf 0) = 1 from toF_one, one_mul]; exact eval_X

theorem exLay2_selReduced (i : Nat) : SelReduced (exLay2.gateAt i) := by
  have h : ∀ g : Gate, g.qrange = 0 → g.qlogic = 0 → g.qfixed = 0 → g.qvar = 0 → SelReduced g :=
    fun g h1 h2 h3 h4 => ⟨by rw [h1]; exact R_pos, by rw [h2]; exact R_pos, by rw [h3]; exact R_pos,
      by rw [h4]; exact R_pos⟩
  by_cases hi : i < 2
  · interval_cases i <;> exact h _ rfl rfl rfl rfl
  · rw [gateAt_of_ge exLay2 (Nat.not_lt.mp hi)]; exact h _ rfl rfl rfl rfl

/-- the numerator polynomial of the instance is identically zero, on any domain -/
theorem ex_NumP_zero {ω : F} {n : ℕ} (β γ α : F) (s : Seps F) : NumP ω n exP2 ⟨β, γ, α⟩ s = 0 := by
  simp only [NumP, numR, gateSumR, arithR, permStepR, permNumR, permDenR, exP2, Chal.map, shiftP,
    zero_mul, mul_zero, add_zero, one_comp, zero_add, C_eq_natCast, C_neg, C_ofNat, C_1]
  ring

theorem exists_notMem_of_card_lt_card {α : Type*} [Fintype α] (B : Finset α)
    (h : B.card < Fintype.card α) : ∃ x, x ∉ B := by
  by_contra hall
  rw [Finset.eq_univ_iff_forall.mpr fun x => by_contra fun hx => hall ⟨x, hx⟩, Finset.card_univ] at h
  exact lt_irrefl _ h

theorem exists_notMem_of_card_lt (B : Finset F) (h : B.card < R) : ∃ x, x ∉ B :=
  exists_notMem_of_card_lt_card B (by rwa [ZMod.card])

theorem exists_notMem_of_card_lt4 (B : Finset (F × F × F × F)) (h : B.card < R * (R * (R * R))) :
    ∃ x, x ∉ B :=
  exists_notMem_of_card_lt_card B (by rwa [card_F4])

theorem hundred_lt_R : 100 < R := lt_trans (by decide) two_pow_254_lt_R

/-- **non-vacuity of `soundness_algebraic`**: challenges outside all five bad sets exist for the
    instance, and the quotient identity holds at `z = 5` with `T = 0` -/
theorem ex_soundness_hyps :
    ∃ β γ t α,
      β ∉ betaBad (-1) (2 ^ 1) exLay2 exP2 ∧ γ ∉ gammaBadM (-1) (2 ^ 1) exLay2 exP2 β ∧
      t ∉ sepBad (-1) (2 ^ 1) exLay2 exP2 ∧
      α ∉ alphaBadM (-1) (2 ^ 1) exLay2 exP2 β γ (sepsOf t) ∧
      (5 : F) ∉ idBad (NumP (-1) (2 ^ 1) exP2 ⟨β, γ, α⟩ (sepsOf t)) 0 (2 ^ 1) ∧
      (NumP (-1) (2 ^ 1) exP2 ⟨β, γ, α⟩ (sepsOf t)).eval 5 = (0 : F[X]).eval 5 * ((5 : F) ^ 2 ^ 1 - 1) := by
  have hR := hundred_lt_R
  obtain ⟨β, hβ⟩ := exists_notMem_of_card_lt _
    (lt_of_le_of_lt (betaBad_card_le (-1) (2 ^ 1) exLay2 exP2) (by omega))
  obtain ⟨γ, hγ⟩ := exists_notMem_of_card_lt _
    (lt_of_le_of_lt (gammaBadM_card_le (-1) (2 ^ 1) exLay2 exP2 β) (by omega))
  obtain ⟨t, ht⟩ := exists_notMem_of_card_lt4 _
    (lt_of_le_of_lt (sepBad_card_le (-1) (2 ^ 1) exLay2 exP2 (fun i _ => exLay2_selReduced i)) (by
      rw [← Nat.mul_assoc]
      exact Nat.mul_lt_mul_of_pos_right (by omega) (Nat.mul_pos R_pos (Nat.mul_pos R_pos R_pos))))
  obtain ⟨α, hα⟩ := exists_notMem_of_card_lt _
    (lt_of_le_of_lt (alphaBadM_card_le (-1) (2 ^ 1) exLay2 exP2 β γ (sepsOf t)) (by omega))
  refine ⟨β, γ, t, α, hβ, hγ, ht, hα, ?_, ?_⟩
  · rw [ex_NumP_zero, idBad, zero_mul, sub_self, roots_zero, Multiset.toFinset_zero]
    exact Finset.notMem_empty _
  · rw [ex_NumP_zero, eval_zero, zero_mul]

theorem ex_perm_identities (β γ : F) (i : Nat) :
    permAtRow (-1) (2 ^ 1) exLay2 exP2 β γ i = 0 ∧ l1AtRow (-1) exP2 i = 0 := by
  have hz (x : F) : exP2.z.eval x = 1 := eval_C
  constructor
  · unfold permAtRow
    rw [exLay2_sigma, exLay2_sigma, exLay2_sigma, exLay2_sigma, permNum_eq_factors, hz, hz]
    exact sub_self _
  · rw [l1AtRow, hz, sub_self, mul_zero]

theorem ex_good_beta_gamma : ∃ β γ, β ∉ betaBad (-1) (2 ^ 1) exLay2 exP2 ∧
    γ ∉ gammaBadM (-1) (2 ^ 1) exLay2 exP2 β := by
  obtain ⟨β, γ, _, _, hβ, hγ, _⟩ := ex_soundness_hyps
  exact ⟨β, γ, hβ, hγ⟩

theorem ex_soundness_struct : (1 ≤ 32) ∧ exLay2.gates.size ≤ 2 ^ 1 ∧
    IsPrimitiveRoot (-1 : F) (2 ^ 1) :=
  ⟨by omega, by decide, by simpa using neg_one_primitive⟩

/-- the instance layout is well formed: all wires allocated, the last row is an arithmetic row -/
theorem exLay2_wf : LayoutWF exLay2 where
  alloc := by
    intro p h1 h2
    obtain ⟨c, i⟩ := p
    have hi : i < 2 := h2
    have hc : c < 4 := h1
    interval_cases i <;> interval_cases c <;> decide +kernel
  lastPlain := by
    intro i hi
    have : i = 1 := by
      have : exLay2.gates.size = 2 := rfl
      omega
    subst this
    exact ⟨rfl, rfl, rfl, rfl⟩

theorem exLay2_padded : exLay2.paddedSize = 2 ^ 1 := by decide

/-! ### an instance for the verifier link: every commitment is interpreted as the constant `7` -/

noncomputable def exP3 : ProverPolys F :=
  { Q := ⟨C 7, C 7, C 7, C 7, C 7, C 7, C 7, C 7, C 7, C 7, C 7⟩
    a := C 1, b := C 2, c := C 3, d := C 4, pi := 0
    s1 := C 5, s2 := C 5, s3 := C 5, s4 := C 7, z := C 7 }

def exEv3 : Evals :=
  { a := 1, b := 2, c := 3, d := 4, aw := 1, bw := 2, dw := 4, qarith := 7, qc := 7, ql := 7, qr := 7,
    s1 := 5, s2 := 5, s3 := 5, z := 7 }

theorem ex_agmRep (k : VKey) (p : ProofM) : AgmRep (fun _ => C 7) k p exP3 :=
  ⟨rfl, rfl, rfl, rfl, rfl, rfl, rfl, rfl, rfl, rfl, rfl, rfl⟩

theorem ex_trueEvals : TrueEvals (-1) (toF 5) exEv3 exP3 := by
  constructor <;> simp only [exEv3, exP3, toF, eval_C, Nat.cast_ofNat, Nat.cast_one]

theorem ex_verifier_side : toF 24 = toF 5 ^ 2 - 1 ∧ toF 3 = (L1P 2).eval (toF 5) ∧
    toF 0 = exP3.pi.eval (toF 5) := by
  refine ⟨by simp [toF]; norm_num, ?_, by simp [exP3]⟩
  rw [eval_L1P]
  simp only [toF, Nat.cast_ofNat, Finset.sum_range_succ, Finset.sum_range_zero, pow_zero, pow_one,
    zero_add]
  have h2 := two_ne_zero_F
  field_simp
  norm_num

end Plonk.Sound
