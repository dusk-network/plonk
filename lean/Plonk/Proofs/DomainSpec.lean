/-
  Corollaries in the form used by the C19 property statements, and concrete instances for the
  non-vacuity examples.
-/
import Plonk.Proofs.DomainPi

namespace Plonk.PolyC19
open Polynomial

/-- `batch_inversion`, entry-wise -/
theorem batchInversion_entry (v : List Nat) (i : Nat) (h : i < v.length) :
    ∃ h' : i < (batchInversion v).length,
      toF (batchInversion v)[i] = (toF v[i])⁻¹ ∧ (batchInversion v)[i] < R ∧
      (v[i] % R = 0 → (batchInversion v)[i] = 0) ∧
      (v[i] % R ≠ 0 → toF v[i] * toF (batchInversion v)[i] = 1) := by
  refine ⟨by rw [batchInversion_length]; exact h, ?_⟩
  rw [batchInversion_getElem v i h]
  refine ⟨toF_binv _, binv_lt _, binv_zero, fun hne => ?_⟩
  rw [toF_binv]
  exact mul_inv_cancel₀ (by rwa [Ne, toF_eq_zero_iff])

theorem elements_map_toF (d : Domain) :
    d.elements.map toF = (List.range d.size).map (fun i => toF d.groupGen ^ i) := by
  rw [elements_eq, List.map_map]
  apply List.map_congr_left
  intro i _
  exact toF_val _

/-- outside the domain, with one evaluation per domain element, `compute_barycentric_eval` is the
    value at `point` of the interpolation polynomial of the evaluations -/
theorem barycentric_eq_interpolate {d : Domain} (ok : DomainOK d) (evals : List Nat) (point : Nat)
    (hlen : evals.length = d.size) (hp : toF point ^ d.size ≠ 1) :
    toF (d.barycentric evals point) =
      eval (toF point) (Lagrange.interpolate (Finset.range d.size) (fun i : ℕ => toF d.groupGen ^ i)
        (fun i => toF (evals.getD i 0))) := by
  rw [barycentric_eq ok evals point (by rw [hlen]; exact ok.size_lt.le), hlen,
    Lagrange.interpolate_apply, eval_finsetSum]
  apply Finset.sum_congr rfl
  intro i hi
  rw [eval_mul, eval_C, lagrangeF_eq_basis ok.size_pos ok.prim hp (Finset.mem_range.mp hi)]

/-- a concrete well-formed domain (size 4) for the non-vacuity examples -/
theorem exists_domainOK_four : ∃ d : Domain, Domain.new? 4 = some d ∧ d.size = 4 ∧ DomainOK d := by
  have h : (Domain.new? 4).isSome = true := by decide +kernel
  have hs : (Domain.new? 4).map (·.size) = some 4 := by decide +kernel
  obtain ⟨d, hd⟩ := Option.isSome_iff_exists.mp h
  refine ⟨d, hd, ?_, domainOK_of_new? 4 d hd⟩
  rw [hd] at hs
  simpa using hs

theorem two_pow_four_ne_one : (toF 2) ^ 4 ≠ 1 := by
  have h : (toF 2) ^ 4 = toF 16 := by unfold toF; norm_num
  rw [h, ← toF_one, Ne, toF_inj_of_lt (by decide +kernel) R_gt_one]
  decide

end Plonk.PolyC19
