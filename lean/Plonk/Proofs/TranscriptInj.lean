/-
  C03/C04 — the verifier's transcript as a function of the statement, and its injectivity.

  * `String.splitOn` on a one-character separator, in terms of `List.splitOnP` (the legacy
    `splitOnAux` is defined by well-founded recursion on byte positions and does not reduce in the
    kernel); with it `proofOps p` is computed into its explicit 38-operation list `proofOps_eq`.
  * byte lists determine the number (`natToBytesLE_inj`, `scalarBytes_inj`, `u64le_inj`, from the round trips of
    `BytesLemmas`); `G1.toCompressed` is injective on decodable points (`G1.toCompressed_inj`: a decoded point is
    valid, and a valid point is decoded from its encoding, `CodecG1`).
  * `statementOps_bytes_inj`: the operation list determines the byte-level statement (point level: `Props/C03.lean`).
  * a decodable point is a valid one (`G1.Decodable.valid`, `.of_valid`), so decoded proofs and keys are decodable by
    what the readers return (`CodecRead`).
-/
import Batteries.Data.String.Lemmas
import Mathlib.Tactic.Ring
import Plonk.Proofs.FieldBridge
import Plonk.Proofs.CodecRead
import Plonk.Model.Verifier

namespace Plonk.SplitAux

open String

theorem splitOnAux_char (c : Char) (l m r : List Char) (acc : List String) :
    splitOnAux (ofList (l ++ m ++ r)) (String.singleton c) ⟨utf8Len l⟩ ⟨utf8Len l + utf8Len m⟩ 0 acc
      = acc.reverse ++ (List.splitOnPPrepend (· == c) r m.reverse).map ofList := by
  rw [splitOnAux]
  have hat := atEnd_of_valid (l ++ m) r
  rw [utf8Len_append] at hat
  cases r with
  | nil =>
    rw [if_pos (hat.mpr rfl)]
    simpa using extract_of_valid l m []
  | cons x r =>
    rw [if_neg (by rw [hat]; simp)]
    have hget := get_of_valid (l ++ m) (x :: r)
    have hnext := next_of_valid (l ++ m) x r
    have hext := extract_of_valid l m (x :: r)
    rw [utf8Len_append] at hget hnext
    simp only [List.headD_cons] at hget
    rw [hget]
    have hsep : (0 : Pos.Raw).get (String.singleton c) = c := by
      simpa using get_of_valid [] [c]
    have hsepn : (0 : Pos.Raw).next (String.singleton c) = ⟨c.utf8Size⟩ := by
      simpa using next_of_valid [] c []
    have hsepe : (⟨c.utf8Size⟩ : Pos.Raw).atEnd (String.singleton c) = true := by
      simpa using (atEnd_of_valid [c] []).mpr rfl
    rw [hsep]
    by_cases h : (x == c) = true
    · rw [if_pos h]
      have hxc : x = c := by simpa using h
      subst hxc
      simp only [hnext, hsepn, hsepe, if_true]
      have : (⟨utf8Len l + utf8Len m + x.utf8Size⟩ : Pos.Raw).unoffsetBy ⟨x.utf8Size⟩
          = ⟨utf8Len l + utf8Len m⟩ := by
        simp [Pos.Raw.unoffsetBy]
      rw [this, hext]
      have ih := splitOnAux_char x (l ++ m ++ [x]) [] r (ofList m :: acc)
      simp only [utf8Len_append, utf8Len_cons, utf8Len_nil, List.append_nil, Nat.zero_add,
        Nat.add_zero, List.append_assoc, List.cons_append, List.nil_append, List.reverse_nil,
        Nat.add_assoc] at ih ⊢
      rw [ih]
      simp [List.splitOnPPrepend_cons_eq_if]
    · rw [if_neg h]
      have : ((⟨utf8Len l + utf8Len m⟩ : Pos.Raw).unoffsetBy 0) = ⟨utf8Len l + utf8Len m⟩ := by
        simp [Pos.Raw.unoffsetBy]
      rw [this, hnext]
      have ih := splitOnAux_char c l (m ++ [x]) r acc
      simp only [utf8Len_append, utf8Len_cons, utf8Len_nil, Nat.zero_add,
        List.append_assoc, List.cons_append, List.nil_append, Nat.add_assoc] at ih ⊢
      rw [ih]
      simp [List.splitOnPPrepend_cons_eq_if, h]
termination_by r.length

theorem splitOn_char (s : String) (c : Char) :
    s.splitOn (String.singleton c) = (List.splitOnP (· == c) s.toList).map ofList := by
  unfold String.splitOn
  have hne : ¬ ((String.singleton c == "") = true) := by
    intro h
    have h2 := congrArg String.toList (eq_of_beq h)
    simp at h2
  rw [if_neg hne]
  have := splitOnAux_char c [] [] s.toList []
  simp only [List.nil_append, utf8Len_nil, Nat.add_zero, List.reverse_nil, String.ofList_toList] at this
  exact this.trans rfl

end Plonk.SplitAux

namespace Plonk
open Plonk.SplitAux

/-! ### `proofOps` as an explicit list -/

/-- `splitOn` on a string given by its characters. A string literal unifies with `String.ofList` of its characters, so
    applying this to a literal needs no evaluation of `String.toList`. -/
theorem splitOn_colon_ofList (l : List Char) :
    (String.ofList l).splitOn ":" = (List.splitOnP (· == ':') l).map String.ofList := by
  rw [show ":" = String.singleton ':' from rfl, splitOn_char, String.toList_ofList]

theorem verifierTranscript_splitOn : Generated.VERIFIER_TRANSCRIPT.map (·.splitOn ":") =
    [["c", "a_comm"], ["c", "b_comm"], ["c", "c_comm"], ["c", "d_comm"], ["ch", "beta"], ["s", "beta"],
     ["ch", "gamma"], ["c", "z_comm"], ["ch", "alpha"], ["ch", "range separation challenge"],
     ["ch", "logic separation challenge"], ["ch", "fixed base separation challenge"],
     ["ch", "variable base separation challenge"], ["c", "t_low_comm"], ["c", "t_mid_comm"], ["c", "t_high_comm"],
     ["c", "t_fourth_comm"], ["ch", "z_challenge"], ["s", "a_eval"], ["s", "b_eval"], ["s", "c_eval"],
     ["s", "d_eval"], ["s", "s_sigma_1_eval"], ["s", "s_sigma_2_eval"], ["s", "s_sigma_3_eval"], ["s", "z_eval"],
     ["s", "a_w_eval"], ["s", "b_w_eval"], ["s", "d_w_eval"], ["s", "q_arith_eval"], ["s", "q_c_eval"],
     ["s", "q_l_eval"], ["s", "q_r_eval"], ["ch", "v_challenge"], ["ch", "v_w_challenge"],
     ["c", "w_z_chall_comm"], ["c", "w_z_chall_w_comm"], ["ch", "u_challenge"]] := by
  unfold Generated.VERIFIER_TRANSCRIPT
  simp only [List.map_cons, List.map_nil]
  -- item by item: the literal is unified with `String.ofList` of its characters, `List.splitOnP` is evaluated on those
  repeat refine congrArg₂ List.cons (splitOn_colon_ofList _) ?_
  rfl

/-- `Proof::verify`'s transcript run, computed from `Generated.VERIFIER_TRANSCRIPT` -/
theorem proofOps_eq (p : ProofM) : proofOps p =
    [.msg "a_comm" p.aC.toCompressed,
     .msg "b_comm" p.bC.toCompressed,
     .msg "c_comm" p.cC.toCompressed,
     .msg "d_comm" p.dC.toCompressed,
     .chal "beta",
     .echo "beta" "beta",
     .chal "gamma",
     .msg "z_comm" p.zC.toCompressed,
     .chal "alpha",
     .chal "range separation challenge",
     .chal "logic separation challenge",
     .chal "fixed base separation challenge",
     .chal "variable base separation challenge",
     .msg "t_low_comm" p.tLow.toCompressed,
     .msg "t_mid_comm" p.tMid.toCompressed,
     .msg "t_high_comm" p.tHigh.toCompressed,
     .msg "t_fourth_comm" p.tFourth.toCompressed,
     .chal "z_challenge",
     .msg "a_eval" (Transcript.scalarBytes p.ev.a),
     .msg "b_eval" (Transcript.scalarBytes p.ev.b),
     .msg "c_eval" (Transcript.scalarBytes p.ev.c),
     .msg "d_eval" (Transcript.scalarBytes p.ev.d),
     .msg "s_sigma_1_eval" (Transcript.scalarBytes p.ev.s1),
     .msg "s_sigma_2_eval" (Transcript.scalarBytes p.ev.s2),
     .msg "s_sigma_3_eval" (Transcript.scalarBytes p.ev.s3),
     .msg "z_eval" (Transcript.scalarBytes p.ev.z),
     .msg "a_w_eval" (Transcript.scalarBytes p.ev.aw),
     .msg "b_w_eval" (Transcript.scalarBytes p.ev.bw),
     .msg "d_w_eval" (Transcript.scalarBytes p.ev.dw),
     .msg "q_arith_eval" (Transcript.scalarBytes p.ev.qarith),
     .msg "q_c_eval" (Transcript.scalarBytes p.ev.qc),
     .msg "q_l_eval" (Transcript.scalarBytes p.ev.ql),
     .msg "q_r_eval" (Transcript.scalarBytes p.ev.qr),
     .chal "v_challenge",
     .chal "v_w_challenge",
     .msg "w_z_chall_comm" p.wz.toCompressed,
     .msg "w_z_chall_w_comm" p.wzw.toCompressed,
     .chal "u_challenge"] := by
  have split := verifierTranscript_splitOn
  unfold Generated.VERIFIER_TRANSCRIPT at split
  simp only [List.map_cons, List.map_nil, List.cons.injEq, and_true] at split
  unfold proofOps Generated.VERIFIER_TRANSCRIPT
  -- `iota` off: the matches on the split items are left to `rfl`, which decides the string tests by evaluation
  simp -iota only [List.filterMap_cons, List.filterMap_nil, split]
  rfl

/-! ### byte lists determine the number -/

theorem natToBytesLE_inj (n : Nat) {v w : Nat} (h : natToBytesLE v n = natToBytesLE w n) :
    v % 256 ^ n = w % 256 ^ n := by
  rw [← bytesToNatLE_natToBytesLE_mod, ← bytesToNatLE_natToBytesLE_mod, h]

/-- `BlsScalar::to_bytes` is injective on reduced values -/
theorem scalarBytes_inj {x y : Nat} (h : Transcript.scalarBytes x = Transcript.scalarBytes y) :
    x % R = y % R := by
  have h1 : (x % R) % 256 ^ 32 = (y % R) % 256 ^ 32 := natToBytesLE_inj 32 h
  have hx : x % R < 256 ^ 32 := lt_trans (Nat.mod_lt _ R_pos) R_lt_256_pow_32
  have hy : y % R < 256 ^ 32 := lt_trans (Nat.mod_lt _ R_pos) R_lt_256_pow_32
  rwa [Nat.mod_eq_of_lt hx, Nat.mod_eq_of_lt hy] at h1

theorem scalarBytes_eq_iff {x y : Nat} :
    Transcript.scalarBytes x = Transcript.scalarBytes y ↔ x % R = y % R := by
  constructor
  · exact scalarBytes_inj
  · intro h; unfold Transcript.scalarBytes; rw [h]

/-- `append_u64` binds its argument as a 64-bit number -/
theorem u64le_inj {x y : Nat} (h : u64le x = u64le y) : x % 2 ^ 64 = y % 2 ^ 64 := by
  have h1 : x % 256 ^ 8 = y % 256 ^ 8 := natToBytesLE_inj 8 h
  have e : (256 : Nat) ^ 8 = 2 ^ 64 := by norm_num
  rwa [e] at h1

/-! ### `G1.toCompressed` is injective on decodable points -/

/-- a point some 48-byte string decodes to (`from_compressed_unchecked`; every point of a decoded
    proof or verifier key is of this kind) -/
def G1.Decodable (p : G1) : Prop := ∃ bs, G1.fromCompressedUnchecked? bs = some p

theorem G1.Decodable.of_fromCompressed {bs : List Nat} {p : G1} (h : G1.fromCompressed? bs = some p) :
    G1.Decodable p :=
  ⟨bs, (G1.fromCompressed?_some h).1⟩

theorem G1.Decodable.valid {p : G1} (h : G1.Decodable p) : p.Valid :=
  let ⟨_, h⟩ := h; (G1.fromCompressedUnchecked_spec h).2

theorem G1.toCompressed_inj {p q : G1} (hp : G1.Decodable p) (hq : G1.Decodable q)
    (h : p.toCompressed = q.toCompressed) : p = q := by
  have h1 := G1.fromCompressedUnchecked_toCompressed hp.valid
  rw [h, G1.fromCompressedUnchecked_toCompressed hq.valid] at h1
  exact (Option.some.inj h1).symm

/-! ### the statement transcript -/

/-- `Transcript::base` / `base_v3` as an explicit 20-operation list -/
theorem baseOps_eq (label : List Nat) (k : VKey) (c : Nat) (v3 : Bool) :
    baseOps label k c v3 =
      [.msg "dom-sep" label, .msg "dom-sep" (Strobe.strBytes "circuit_size"), .u64 "n" c,
       .msg "q_m" k.qm.toCompressed, .msg "q_l" k.ql.toCompressed, .msg "q_r" k.qr.toCompressed,
       .msg "q_o" k.qo.toCompressed, .msg "q_c" k.qc.toCompressed, .msg "q_f" k.qf.toCompressed,
       .msg "q_arith" k.qarith.toCompressed, .msg "q_range" k.qrange.toCompressed,
       .msg "q_logic" k.qlogic.toCompressed, .msg "q_variable_group_add" k.qvar.toCompressed,
       .msg "q_fixed_group_add" k.qfixed.toCompressed, .msg "s_sigma_1" k.s1.toCompressed,
       .msg "s_sigma_2" k.s2.toCompressed, .msg "s_sigma_3" k.s3.toCompressed,
       .msg "s_sigma_4" (if v3 then k.s4 else k.s1).toCompressed,
       .msg "dom-sep" (Strobe.strBytes "circuit_size"), .u64 "n" k.n] := rfl

theorem baseOps_length (label : List Nat) (k : VKey) (c : Nat) (v3 : Bool) :
    (baseOps label k c v3).length = 20 := by rw [baseOps_eq]; rfl

/-- a `"pi"` message -/
def TOp.isPi : TOp → Prop
  | .msg l _ => l = "pi"
  | _ => False

theorem append_sep_inj {α : Type} (Q : α → Prop) :
    ∀ {A A' : List α} {b b' : α} {B B' : List α}, (∀ a ∈ A, Q a) → (∀ a ∈ A', Q a) → ¬ Q b → ¬ Q b' →
      A ++ b :: B = A' ++ b' :: B' → A = A' ∧ b :: B = b' :: B'
  | [], [], _, _, _, _, _, _, _, _, h => ⟨rfl, h⟩
  | [], a' :: A', b, b', B, B', _, hA', hb, _, h => by
    simp only [List.nil_append, List.cons_append, List.cons.injEq] at h
    exact absurd (h.1 ▸ hA' a' (List.mem_cons_self ..)) hb
  | a :: A, [], b, b', B, B', hA, _, _, hb', h => by
    simp only [List.nil_append, List.cons_append, List.cons.injEq] at h
    exact absurd (h.1 ▸ hA a (List.mem_cons_self ..)) hb'
  | a :: A, a' :: A', b, b', B, B', hA, hA', hb, hb', h => by
    simp only [List.cons_append, List.cons.injEq] at h
    obtain ⟨h1, h2⟩ := append_sep_inj Q (fun x hx => hA x (List.mem_cons_of_mem _ hx))
      (fun x hx => hA' x (List.mem_cons_of_mem _ hx)) hb hb' h.2
    exact ⟨by rw [h.1, h1], h2⟩

/-- the byte-level content of one statement: everything the transcript absorbs -/
structure StatementBytes where
  label : List Nat
  constraints : Nat
  vkN : Nat
  vkComms : List (List Nat)
  pis : List Nat
  proofComms : List (List Nat)
  evals : List Nat
  deriving DecidableEq

/-- the transcript-bound verifier-key commitments, in the seeding order: all fifteen for
    `v3 = true`; for `v3 = false` (V1/V2) `s_sigma_4` is **not** bound (`s_sigma_1` is absorbed a
    second time under the label `"s_sigma_4"`) -/
def VKey.boundComms (k : VKey) (v3 : Bool) : List G1 :=
  [k.qm, k.ql, k.qr, k.qo, k.qc, k.qf, k.qarith, k.qrange, k.qlogic, k.qvar, k.qfixed, k.s1, k.s2, k.s3] ++
    (if v3 then [k.s4] else [])

def ProofM.comms (p : ProofM) : List G1 :=
  [p.aC, p.bC, p.cC, p.dC, p.zC, p.tLow, p.tMid, p.tHigh, p.tFourth, p.wz, p.wzw]

def Evals.toList (e : Evals) : List Nat :=
  [e.a, e.b, e.c, e.d, e.s1, e.s2, e.s3, e.z, e.aw, e.bw, e.dw, e.qarith, e.qc, e.ql, e.qr]

/-- what `statementOps` absorbs, reduced to canonical bytes / residues -/
def statementBytes (label : List Nat) (k : VKey) (c : Nat) (v3 : Bool) (pis : List Nat) (p : ProofM) :
    StatementBytes :=
  { label := label, constraints := c, vkN := k.n,
    vkComms := (k.boundComms v3).map G1.toCompressed,
    pis := pis.map (· % R),
    proofComms := p.comms.map G1.toCompressed,
    evals := p.ev.toList.map (· % R) }

theorem statementBytes_eq_iff {label label' : List Nat} {k k' : VKey} {c c' : Nat} {v3 : Bool}
    {pis pis' : List Nat} {p p' : ProofM} :
    statementBytes label k c v3 pis p = statementBytes label' k' c' v3 pis' p' ↔
      label = label' ∧ c = c' ∧ k.n = k'.n ∧
        (k.boundComms v3).map G1.toCompressed = (k'.boundComms v3).map G1.toCompressed ∧
        pis.map (· % R) = pis'.map (· % R) ∧ p.comms.map G1.toCompressed = p'.comms.map G1.toCompressed ∧
        p.ev.toList.map (· % R) = p'.ev.toList.map (· % R) := by
  unfold statementBytes
  simp only [StatementBytes.mk.injEq]

theorem map_eq_map_iff_of {α β γ : Type} {f : α → β} {g : α → γ} (h : ∀ a b, f a = f b ↔ g a = g b) :
    ∀ {l l' : List α}, l.map f = l'.map f ↔ l.map g = l'.map g
  | [], [] => by simp
  | [], _ :: _ => by simp
  | _ :: _, [] => by simp
  | a :: l, b :: l' => by
    simp only [List.map_cons, List.cons.injEq, h a b, map_eq_map_iff_of h (l := l) (l' := l')]

theorem pisOps_eq_iff {pis pis' : List Nat} :
    pis.map (fun pi => TOp.msg "pi" (Transcript.scalarBytes pi)) =
      pis'.map (fun pi => TOp.msg "pi" (Transcript.scalarBytes pi)) ↔ pis.map (· % R) = pis'.map (· % R) :=
  map_eq_map_iff_of fun a b => by simp only [TOp.msg.injEq, true_and, scalarBytes_eq_iff]

theorem proofOps_eq_iff {p p' : ProofM} : proofOps p = proofOps p' ↔
    p.comms.map G1.toCompressed = p'.comms.map G1.toCompressed ∧
      p.ev.toList.map (· % R) = p'.ev.toList.map (· % R) := by
  rw [proofOps_eq, proofOps_eq]
  simp only [List.cons.injEq, TOp.msg.injEq, true_and, and_true, scalarBytes_eq_iff, ProofM.comms, Evals.toList,
    List.map_cons, List.map_nil]
  -- both sides are conjunctions of the same 26 equations, in two orders
  constructor <;> intro h <;> simp only [h, and_self]

theorem baseOps_eq_iff {label label' : List Nat} {k k' : VKey} {c c' : Nat} {v3 : Bool} :
    baseOps label k c v3 = baseOps label' k' c' v3 ↔ label = label' ∧ c = c' ∧ k.n = k'.n ∧
      (k.boundComms v3).map G1.toCompressed = (k'.boundComms v3).map G1.toCompressed := by
  rw [baseOps_eq, baseOps_eq]
  cases v3 <;>
    simp only [List.cons.injEq, TOp.msg.injEq, TOp.u64.injEq, true_and, and_true, VKey.boundComms, List.map_cons,
      List.map_nil, List.cons_append, List.nil_append, List.append_nil, if_true, Bool.false_eq_true, if_false] <;>
    constructor <;> intro h <;> simp only [h, and_self]

/-- the two transcript variants differ exactly in what is absorbed under `"s_sigma_4"` -/
theorem baseOps_true_eq_false_iff (label : List Nat) (k : VKey) (c : Nat) :
    baseOps label k c true = baseOps label k c false ↔ k.s4.toCompressed = k.s1.toCompressed := by
  rw [baseOps_eq, baseOps_eq]
  simp only [List.cons.injEq, TOp.msg.injEq, true_and, and_true, if_true, Bool.false_eq_true, if_false]

/-- the three parts of the statement transcript can be read off the whole: the base part has a fixed length, and the
    `"pi"` messages end at the first operation of the proof part -/
theorem statementOps_eq_iff_parts {label label' : List Nat} {k k' : VKey} {c c' : Nat} {v3 : Bool}
    {pis pis' : List Nat} {p p' : ProofM} :
    statementOps label k c v3 pis p = statementOps label' k' c' v3 pis' p' ↔
      baseOps label k c v3 = baseOps label' k' c' v3 ∧
      pis.map (fun pi => TOp.msg "pi" (Transcript.scalarBytes pi)) =
        pis'.map (fun pi => TOp.msg "pi" (Transcript.scalarBytes pi)) ∧
      proofOps p = proofOps p' := by
  unfold statementOps
  rw [List.append_assoc, List.append_assoc]
  constructor
  · intro h
    obtain ⟨hb, hr⟩ := List.append_inj h (by rw [baseOps_length, baseOps_length])
    obtain ⟨B, hB⟩ : ∃ B, proofOps p = TOp.msg "a_comm" p.aC.toCompressed :: B := ⟨_, proofOps_eq p⟩
    obtain ⟨B', hB'⟩ : ∃ B, proofOps p' = TOp.msg "a_comm" p'.aC.toCompressed :: B := ⟨_, proofOps_eq p'⟩
    rw [hB, hB'] at hr ⊢
    exact ⟨hb, append_sep_inj TOp.isPi
      (by intro a ha; obtain ⟨x, _, rfl⟩ := List.mem_map.mp ha; exact rfl)
      (by intro a ha; obtain ⟨x, _, rfl⟩ := List.mem_map.mp ha; exact rfl)
      (by simp [TOp.isPi]) (by simp [TOp.isPi]) hr⟩
  · rintro ⟨h1, h2, h3⟩
    rw [h1, h2, h3]

theorem statementOps_eq_iff {label label' : List Nat} {k k' : VKey} {c c' : Nat} {v3 : Bool}
    {pis pis' : List Nat} {p p' : ProofM} :
    statementOps label k c v3 pis p = statementOps label' k' c' v3 pis' p' ↔
      statementBytes label k c v3 pis p = statementBytes label' k' c' v3 pis' p' := by
  rw [statementOps_eq_iff_parts, baseOps_eq_iff, pisOps_eq_iff, proofOps_eq_iff, statementBytes_eq_iff]
  simp only [and_assoc]

/-- **The statement transcript is injective (byte level, no hypotheses).** Two statements with
    the same operation list have the same label, the same `constraints`, the same `vk.n`, the same
    compressed bytes of every transcript-bound verifier-key commitment, the same public inputs
    (same length, same order, same residues mod `r`), the same compressed bytes of all eleven proof
    commitments and the same residues of all fifteen evaluations. -/
theorem statementOps_bytes_inj {label label' : List Nat} {k k' : VKey} {c c' : Nat} {v3 : Bool}
    {pis pis' : List Nat} {p p' : ProofM}
    (h : statementOps label k c v3 pis p = statementOps label' k' c' v3 pis' p') :
    statementBytes label k c v3 pis p = statementBytes label' k' c' v3 pis' p' :=
  statementOps_eq_iff.mp h

/-- a function injective on `Q` is injective on lists of `Q`-elements -/
theorem map_injOn {α β : Type} {f : α → β} {Q : α → Prop} (hf : ∀ a b, Q a → Q b → f a = f b → a = b) :
    ∀ {l l' : List α}, (∀ a ∈ l, Q a) → (∀ a ∈ l', Q a) → l.map f = l'.map f → l = l'
  | [], [], _, _, _ => rfl
  | [], _ :: _, _, _, h => nomatch h
  | _ :: _, [], _, _, h => nomatch h
  | a :: l, b :: l', hl, hl', h => by
    simp only [List.map_cons, List.cons.injEq] at h
    rw [hf a b (hl a (List.mem_cons_self ..)) (hl' b (List.mem_cons_self ..)) h.1,
      map_injOn hf (fun x hx => hl x (List.mem_cons_of_mem _ hx)) (fun x hx => hl' x (List.mem_cons_of_mem _ hx)) h.2]

theorem map_toCompressed_inj {l l' : List G1} (hl : ∀ q ∈ l, G1.Decodable q) (hl' : ∀ q ∈ l', G1.Decodable q)
    (h : l.map G1.toCompressed = l'.map G1.toCompressed) : l = l' :=
  map_injOn (fun _ _ => G1.toCompressed_inj) hl hl' h

/-- all fifteen commitments of a verifier key are decoded points -/
def VKey.Decodable (k : VKey) : Prop := ∀ q ∈ k.boundComms true, G1.Decodable q

/-- all eleven commitments of a proof are decoded points -/
def ProofM.Decodable (p : ProofM) : Prop := ∀ q ∈ p.comms, G1.Decodable q

/-- all fifteen evaluations are canonical (`< r`) -/
def Evals.Reduced (e : Evals) : Prop := ∀ x ∈ e.toList, x < R

theorem boundComms_false_subset (k : VKey) : ∀ q ∈ k.boundComms false, q ∈ k.boundComms true := by
  intro q hq
  simp only [VKey.boundComms, Bool.false_eq_true, if_false, List.append_nil, if_true] at hq ⊢
  exact List.mem_append_left _ hq

theorem VKey.boundComms_inj {k k' : VKey} (hk : k.Decodable) (hk' : k'.Decodable) {v3 : Bool}
    (h : (k.boundComms v3).map G1.toCompressed = (k'.boundComms v3).map G1.toCompressed) :
    k.boundComms v3 = k'.boundComms v3 := by
  cases v3
  · exact map_toCompressed_inj (fun q hq => hk q (boundComms_false_subset k q hq))
      (fun q hq => hk' q (boundComms_false_subset k' q hq)) h
  · exact map_toCompressed_inj hk hk' h

theorem Evals.eq_of_toList {e e' : Evals} (h : e.toList = e'.toList) : e = e' := by
  cases e; cases e'
  simp only [Evals.toList, List.cons.injEq, and_true] at h
  simp only [Evals.mk.injEq]
  tauto

theorem ProofM.eq_of_comms {p p' : ProofM} (h : p.comms = p'.comms) (he : p.ev = p'.ev) : p = p' :=
  Option.some.inj ((ProofM.ofLists_eq_some.mpr ⟨rfl, rfl⟩).symm.trans (ProofM.ofLists_eq_some.mpr ⟨h, by rw [he]⟩))

theorem map_mod_eq_of_reduced {l l' : List Nat} (hl : ∀ x ∈ l, x < R) (hl' : ∀ x ∈ l', x < R)
    (h : l.map (· % R) = l'.map (· % R)) : l = l' :=
  map_injOn (Q := (· < R)) (fun a b ha hb h => by rwa [Nat.mod_eq_of_lt ha, Nat.mod_eq_of_lt hb] at h) hl hl' h

theorem challenges_congr {label label' : List Nat} {k k' : VKey} {c c' : Nat} {v3 v3' : Bool}
    {pis pis' : List Nat} {p p' : ProofM}
    (h : statementOps label k c v3 pis p = statementOps label' k' c' v3' pis' p') :
    verifierChallenges label k c v3 pis p = verifierChallenges label' k' c' v3' pis' p' := by
  unfold verifierChallenges; rw [h]

/-! ### decoded proofs and keys are decodable -/

theorem G1.decodable_inf : G1.Decodable .inf := ⟨192 :: List.replicate 47 0, by decide +kernel⟩
theorem G1.decodable_gen : G1.Decodable G1.gen := ⟨G1.gen.toCompressed, by decide +kernel⟩

theorem G1.Decodable.of_valid {p : G1} (h : p.Valid) : G1.Decodable p :=
  ⟨_, G1.fromCompressedUnchecked_toCompressed h⟩

theorem ProofM.fromBytes_valid {bs : List Nat} {p : ProofM} (h : ProofM.fromBytes? bs = some p) :
    p.Decodable ∧ p.ev.Reduced := by
  obtain ⟨-, r, r2, hG, hS⟩ := ProofM.fromBytes?_eq_some.mp h
  refine ⟨fun q hq => .of_valid ((readG1s_decode hG).2.2.2.1 q hq).1,
    fun x hx => (readScalars_decode hS).2.2.2.1 x ?_⟩
  -- `Evals.toList` has the sigma block before the shifted evaluations, the byte encoding after them
  exact ((List.perm_append_comm (l₁ := [p.ev.s1, p.ev.s2, p.ev.s3, p.ev.z])).append_left
    [p.ev.a, p.ev.b, p.ev.c, p.ev.d]).mem_iff.mp hx

theorem VKey.fromBytes_valid {bs : List Nat} {k : VKey} (h : VKey.fromBytes? bs = some k) : k.Decodable := by
  obtain ⟨-, -, r, hG⟩ := VKey.fromBytes?_eq_some.mp h
  have hd : ∀ q ∈ k.points, G1.Decodable q := fun q hq => .of_valid ((readG1s_decode hG).2.2.2.1 q hq).1
  -- both sides are the conjunction over the same fifteen commitments, in two orders
  simp only [VKey.points, VKey.Decodable, VKey.boundComms, if_true, List.cons_append, List.nil_append,
    List.forall_mem_cons] at hd ⊢
  simp only [hd, and_self, List.not_mem_nil, false_imp_iff, implies_true]

end Plonk
