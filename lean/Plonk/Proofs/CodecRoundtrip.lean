/-
  Verifier-side codecs (`Plonk/Model/Verifier.lean`): `ProofM`, `VKey`, `OpeningKeyM`, `VerifierM` — round
  trips, canonicity, well-formedness, work bounds, on top of what the readers return (`CodecRead`).  `G2` side of the
  opening key: whatever the compressed `G2` decoder accepts lies on the twist `y² = x³ + 4(1+u)` (the
  decoder checks the square root it computed), and is torsion free.
-/
import Plonk.Proofs.CodecRead

set_option Elab.async false

namespace Plonk

theorem G1.toCompressed_allBytes {p : G1} (hp : p.Valid) : AllBytes p.toCompressed := by
  cases p with
  | inf =>
    apply AllBytes.cons (by norm_num) (AllBytes.replicate_zero 47)
  | aff x y =>
    obtain ⟨hx, _, _⟩ := hp
    rw [G1.toCompressed_aff, Nat.mod_eq_of_lt hx]
    have ht := top_byte_lt hx
    apply AllBytes.cons _ (natToBytesBE_allBytes _ _)
    split <;> omega

/-- the fifteen evaluations of a proof, in serialization order -/
def Evals.toList (e : Evals) : List Nat :=
  [e.a, e.b, e.c, e.d, e.aw, e.bw, e.dw, e.qarith, e.qc, e.ql, e.qr, e.s1, e.s2, e.s3, e.z]

/-- a well-formed proof: reduced on-curve prime-order points, canonical scalars -/
def ProofM.WF (p : ProofM) : Prop :=
  (∀ q ∈ p.points, q.Valid ∧ q.torsionFree = true) ∧ (∀ s ∈ p.ev.toList, s < R)

theorem ProofM.toBytes_eq (p : ProofM) :
    p.toBytes = p.points.flatMap G1.toCompressed ++ p.ev.toList.flatMap scalarBytesLE := rfl

theorem ProofM.toBytes_length (p : ProofM) : p.toBytes.length = 1008 := by
  rw [ProofM.toBytes_eq, List.length_append, length_flatMap_const G1.toCompressed_length, length_flatMap_const scalarBytesLE_length]
  simp [ProofM.points, Evals.toList]

/-- proof round trip (the decoder reads the 1008-byte prefix) -/
theorem ProofM.fromBytes_toBytes_append {p : ProofM} (hp : p.WF) (extra : List Nat) :
    ProofM.fromBytes? (p.toBytes ++ extra) = some p := by
  refine ProofM.fromBytes?_eq_some.mpr ⟨?_, p.ev.toList.flatMap scalarBytesLE ++ extra, extra, ?_,
    readScalars_encode p.ev.toList extra hp.2⟩
  · rw [List.length_append, ProofM.toBytes_length]; omega
  · rw [ProofM.toBytes_eq, List.append_assoc]
    exact readG1s_encode p.points _ hp.1

theorem ProofM.fromBytes_toBytes {p : ProofM} (hp : p.WF) : ProofM.fromBytes? p.toBytes = some p := by
  have := ProofM.fromBytes_toBytes_append hp []
  rwa [List.append_nil] at this

theorem ProofM.fromBytes_canonical {bs : List Nat} {p : ProofM} (hb : AllBytes bs)
    (h : ProofM.fromBytes? bs = some p) : p.toBytes = bs.take 1008 := by
  obtain ⟨hlen, r, r2, hG, hS⟩ := ProofM.fromBytes?_eq_some.mp h
  obtain ⟨_, g2, g3, _, g5⟩ := readG1s_decode hG
  obtain ⟨_, s2, s3, _, s5⟩ := readScalars_decode (ss := p.ev.toList) hS
  have e1 := g5 hb
  have hbr : AllBytes r := by rw [g3]; exact hb.drop _
  have e2 := s5 hbr
  have : bs = p.toBytes ++ r2 := by rw [ProofM.toBytes_eq, List.append_assoc, e2, e1]
  conv_rhs => rw [this]
  rw [List.take_left' (ProofM.toBytes_length p)]

def VKey.WF (k : VKey) : Prop := k.n < 2 ^ 64 ∧ ∀ q ∈ k.points, q.Valid ∧ q.torsionFree = true

/-- the part of the encoding that the decoder reads: 8 + 15·48 = 728 bytes -/
def VKey.body (k : VKey) : List Nat := natToBytesLE k.n 8 ++ k.points.flatMap G1.toCompressed

theorem VKey.body_length (k : VKey) : k.body.length = 728 := by
  unfold VKey.body
  rw [List.length_append, length_flatMap_const G1.toCompressed_length, natToBytesLE_length]
  simp [VKey.points]

theorem VKey.toBytes_eq (k : VKey) : k.toBytes = k.body ++ List.replicate 240 0 := by
  have h : k.toBytes = k.body ++ List.replicate (968 - k.body.length) 0 := rfl
  rw [h, VKey.body_length]

theorem VKey.toBytes_length (k : VKey) : k.toBytes.length = 968 := by
  rw [VKey.toBytes_eq, List.length_append, VKey.body_length, List.length_replicate]

theorem VKey.fromBytes_toBytes {k : VKey} (hk : k.WF) : VKey.fromBytes? k.toBytes = some k := by
  have hl : (natToBytesLE k.n 8).length = 8 := natToBytesLE_length _ _
  have e : k.toBytes = natToBytesLE k.n 8 ++ (k.points.flatMap G1.toCompressed ++ List.replicate 240 0) := by
    rw [VKey.toBytes_eq, VKey.body, List.append_assoc]
  refine VKey.fromBytes?_eq_some.mpr ⟨?_, ?_, List.replicate 240 0, ?_⟩
  · rw [VKey.toBytes_length]; omega
  · rw [e, List.take_left' hl]; exact bytesToNatLE_natToBytesLE hk.1
  · rw [e, List.drop_left' hl]; exact readG1s_encode k.points _ hk.2

theorem VKey.fromBytes_wf {bs : List Nat} {k : VKey} (h : VKey.fromBytes? bs = some k) :
    k.WF ∧ 968 ≤ bs.length := by
  obtain ⟨hlen, hn, r2, hG⟩ := VKey.fromBytes?_eq_some.mp h
  refine ⟨⟨?_, (readG1s_decode hG).2.2.2.1⟩, by omega⟩
  rw [← hn]
  have := bytesToNatLE_lt (bs.take 8)
  have hl8 : (bs.take 8).length = 8 := by simp; omega
  rw [hl8] at this
  exact lt_of_lt_of_eq this (by norm_num)

theorem Fp2.beq_iff (a b : Fp2) : (a == b) = true ↔ a = b := by
  cases a; cases b
  simp [BEq.beq, instBEqFp2.beq]

theorem G2.beq_inf (p : G2) : (p == G2.inf) = true ↔ p = .inf := by
  cases p
  · simp [BEq.beq, instBEqG2.beq]
  · simp [BEq.beq, instBEqG2.beq]

theorem G1.beq_inf (p : G1) : (p == G1.inf) = true ↔ p = .inf := by
  cases p
  · simp [BEq.beq, instBEqG1.beq]
  · simp [BEq.beq, instBEqG1.beq]

theorem G2.fromCompressed?_eq (bs : List Nat) :
    G2.fromCompressed? bs = (G2.fromCompressedUnchecked? bs).filter G2.torsionFree := by
  unfold G2.fromCompressed?
  cases G2.fromCompressedUnchecked? bs with
  | none => rfl
  | some p => rfl

theorem G2.fromCompressed?_some {bs : List Nat} {p : G2} (h : G2.fromCompressed? bs = some p) :
    G2.fromCompressedUnchecked? bs = some p ∧ p.torsionFree = true :=
  Option.filter_eq_some_iff.1 (G2.fromCompressed?_eq bs ▸ h)

theorem G2.toCompressed_length (p : G2) : p.toCompressed.length = 96 := by
  cases p with
  | inf => simp [G2.toCompressed]
  | aff x y =>
    simp only [G2.toCompressed]
    split
    · next heq => have := congrArg List.length heq; simp at this
    · next b0 rest heq =>
      have := congrArg List.length heq
      simp only [List.length_append, natToBytesBE_length, List.length_cons] at this ⊢
      omega

theorem Fp2.ext' {a b : Fp2} (h0 : a.c0 = b.c0) (h1 : a.c1 = b.c1) : a = b := by
  cases a; cases b; simp_all

theorem Fp2.neg_sq (y : Fp2) : (Fp2.neg y).sq = y.sq := by
  unfold Fp2.sq Fp2.mul Fp2.neg
  apply Fp2.ext'
  · simp only
    rw [← toP_inj_of_lt (psub_lt _ _) (psub_lt _ _)]
    simp only [toP_psub, toP_pmul, toP_pneg]; ring
  · simp only
    rw [← toP_inj_of_lt (padd_lt _ _) (padd_lt _ _)]
    simp only [toP_padd, toP_pmul, toP_pneg]; ring

theorem Fp2.zero_sq : Fp2.zero.sq = ⟨0, 0⟩ := by decide +kernel

/-- `Fp2.sqrt?` only returns checked square roots -/
theorem Fp2.sqrt?_sq {a y : Fp2} (h : Fp2.sqrt? a = some y) (h0 : a.c0 < P) (h1 : a.c1 < P) : y.sq = a := by
  unfold Fp2.sqrt? at h
  split at h
  · next hz =>
    have h := Option.some.inj h
    subst h
    unfold Fp2.isZero at hz
    simp only [Bool.and_eq_true, beq_iff_eq] at hz
    rw [Nat.mod_eq_of_lt h0, Nat.mod_eq_of_lt h1] at hz
    rw [Fp2.zero_sq]
    exact Fp2.ext' hz.1.symm hz.2.symm
  · simp only at h
    split at h
    · split at h
      · next hc =>
        have h := Option.some.inj h
        subst h
        rw [Fp2.beq_iff] at hc
        rw [hc, Nat.mod_eq_of_lt h0, Nat.mod_eq_of_lt h1]
      · cases h
    · split at h
      · next hc =>
        have h := Option.some.inj h
        subst h
        rw [Fp2.beq_iff] at hc
        rw [hc, Nat.mod_eq_of_lt h0, Nat.mod_eq_of_lt h1]
      · cases h

/-- what `G2.fromCompressedUnchecked?` accepts is on the curve -/
theorem G2.fromCompressedUnchecked?_onCurve {bs : List Nat} {p : G2}
    (h : G2.fromCompressedUnchecked? bs = some p) : p.onCurve = true := by
  unfold G2.fromCompressedUnchecked? at h
  split at h
  · cases h
  · simp only at h
    split at h
    · cases h
    · split at h
      · have h := Option.some.inj h; subst h; rfl
      · split at h
        · cases h
        · next y hy =>
          split at h
          · have h := Option.some.inj h
            subst h
            have hsq := Fp2.sqrt?_sq hy (padd_lt _ _) (padd_lt _ _)
            unfold G2.onCurve
            simp only
            rw [Fp2.beq_iff]
            split
            · rw [Fp2.neg_sq]; exact hsq
            · exact hsq
          · cases h

/-- `G2Affine::from_bytes`: on the curve and in the prime-order subgroup -/
theorem G2.fromCompressed_wf {bs : List Nat} {p : G2} (h : G2.fromCompressed? bs = some p) :
    p.onCurve = true ∧ p.torsionFree = true := by
  obtain ⟨h1, h2⟩ := G2.fromCompressed?_some h
  exact ⟨G2.fromCompressedUnchecked?_onCurve h1, h2⟩

theorem OpeningKeyM.toBytes_length (k : OpeningKeyM) : k.toBytes.length = 240 := by
  unfold OpeningKeyM.toBytes
  rw [List.length_append, List.length_append, G1.toCompressed_length, G2.toCompressed_length,
    G2.toCompressed_length]

theorem OpeningKeyM.fromBytes?_eq (bs : List Nat) : OpeningKeyM.fromBytes? bs =
    if bs.length < 240 then none else
    (G1.fromCompressed? (bs.take 48)).bind fun g =>
    (G2.fromCompressed? ((bs.drop 48).take 96)).bind fun h =>
    (G2.fromCompressed? ((bs.drop 144).take 96)).bind fun xh =>
    if g == .inf || h == .inf || xh == .inf then none else some { g := g, h := h, xh := xh } := by
  unfold OpeningKeyM.fromBytes?
  split
  · rfl
  · rfl

theorem OpeningKeyM.fromBytes?_eq_some {bs : List Nat} {k : OpeningKeyM} : OpeningKeyM.fromBytes? bs = some k ↔
    ¬ bs.length < 240 ∧ G1.fromCompressed? (bs.take 48) = some k.g ∧
    G2.fromCompressed? ((bs.drop 48).take 96) = some k.h ∧
    G2.fromCompressed? ((bs.drop 144).take 96) = some k.xh ∧
    k.g ≠ .inf ∧ k.h ≠ .inf ∧ k.xh ≠ .inf := by
  rw [OpeningKeyM.fromBytes?_eq]
  simp only [Option.ite_none_left_eq_some, Option.bind_eq_some_iff, Option.some.injEq, Bool.or_eq_true, not_or,
    G1.beq_inf, G2.beq_inf]
  constructor
  · rintro ⟨hl, g, hg, h, hh, xh, hxh, ⟨⟨n1, n2⟩, n3⟩, rfl⟩; exact ⟨hl, hg, hh, hxh, n1, n2, n3⟩
  · rintro ⟨hl, hg, hh, hxh, n1, n2, n3⟩; exact ⟨hl, _, hg, _, hh, _, hxh, ⟨⟨n1, n2⟩, n3⟩, rfl⟩

/-- opening-key round trip.  The two `G2` points go through the `F_p²` square root of the external
    crate, which is modelled but not verified here: their own round trip is a hypothesis. -/
theorem OpeningKeyM.fromBytes_toBytes {k : OpeningKeyM} (hg : k.g.Valid ∧ k.g.torsionFree = true)
    (hh : G2.fromCompressed? k.h.toCompressed = some k.h)
    (hxh : G2.fromCompressed? k.xh.toCompressed = some k.xh)
    (hne : k.g ≠ .inf ∧ k.h ≠ .inf ∧ k.xh ≠ .inf) :
    OpeningKeyM.fromBytes? k.toBytes = some k := by
  have l1 := G1.toCompressed_length k.g
  have l2 := G2.toCompressed_length k.h
  have l3 := G2.toCompressed_length k.xh
  have e : k.toBytes = k.g.toCompressed ++ (k.h.toCompressed ++ k.xh.toCompressed) := by
    unfold OpeningKeyM.toBytes; rw [List.append_assoc]
  refine OpeningKeyM.fromBytes?_eq_some.mpr ⟨?_, ?_, ?_, ?_, hne⟩
  · rw [OpeningKeyM.toBytes_length]; omega
  · rw [e, List.take_left' l1]; exact G1.fromCompressed_toCompressed hg.1 hg.2
  · rw [e, List.drop_left' l1, List.take_left' l2]; exact hh
  · have : k.toBytes = (k.g.toCompressed ++ k.h.toCompressed) ++ k.xh.toCompressed := rfl
    rw [this, List.drop_left' (by rw [List.length_append, l1, l2]), ← l3, List.take_length]; exact hxh

/-- opening keys: every point on its curve, in the prime-order subgroup, none the identity -/
theorem OpeningKeyM.fromBytes_wf {bs : List Nat} {k : OpeningKeyM} (h : OpeningKeyM.fromBytes? bs = some k) :
    (k.g.Valid ∧ k.g.torsionFree = true ∧ k.g ≠ .inf) ∧
    (k.h.onCurve = true ∧ k.h.torsionFree = true ∧ k.h ≠ .inf) ∧
    (k.xh.onCurve = true ∧ k.xh.torsionFree = true ∧ k.xh ≠ .inf) ∧ 240 ≤ bs.length := by
  obtain ⟨hlen, hg, hh, hxh, n1, n2, n3⟩ := OpeningKeyM.fromBytes?_eq_some.mp h
  obtain ⟨v, t⟩ := G1.fromCompressed_wf hg
  obtain ⟨c2, t2⟩ := G2.fromCompressed_wf hh
  obtain ⟨c3, t3⟩ := G2.fromCompressed_wf hxh
  exact ⟨⟨v, t, n1⟩, ⟨c2, t2, n2⟩, ⟨c3, t3, n3⟩, by omega⟩

theorem u64be?_eq {bs : List Nat} (h : 8 ≤ bs.length) :
    u64be? bs = some (bytesToNatBE (bs.take 8), bs.drop 8) := by
  unfold u64be?; rw [splitAt?_eq_some h]; rfl

@[simp] theorem u64beBytes_length (n : Nat) : (u64beBytes n).length = 8 := natToBytesBE_length _ _

theorem u64be_val {n : Nat} (h : n < 2 ^ 64) : bytesToNatBE (u64beBytes n) = n :=
  bytesToNatBE_natToBytesBE (lt_of_lt_of_eq h (by norm_num))

theorem piIndexes_read (xs : List Nat) (rest : List Nat) (hx : ∀ x ∈ xs, x < 2 ^ 64) :
    (List.range xs.length).map (fun i => bytesToNatBE (((xs.flatMap u64beBytes ++ rest).drop (8 * i)).take 8)) = xs := by
  induction xs with
  | nil => rfl
  | cons x xs ih =>
    rw [List.length_cons, List.range_succ_eq_map, List.map_cons, List.map_map, List.flatMap_cons, List.append_assoc]
    congr 1
    · rw [Nat.mul_zero, List.drop_zero, List.take_left' (u64beBytes_length x)]
      exact u64be_val (hx x (by simp))
    · refine Eq.trans ?_ (ih (fun y hy => hx y (List.mem_cons_of_mem _ hy)))
      apply List.map_congr_left
      intro i _
      simp only [Function.comp]
      have : 8 * (i + 1) = 8 + 8 * i := by omega
      rw [this, ← List.drop_drop, List.drop_left' (u64beBytes_length x)]

/-- `VerifierM.fromBytes` after the six header words: the length checks, the two key decoders, the
    index table and `Verifier::new`, as a chain of steps on the announced lengths and the payload `r` -/
def VerifierM.fromFrame (labelLen vkLen okLen piLen size constraints : Nat) (r : List Nat) :
    Except VDecErr VerifierM :=
  if piLen * 8 > USIZE_MAX then .error .notEnoughBytes else
  if labelLen + vkLen > USIZE_MAX then .error .notEnoughBytes else
  if labelLen + vkLen + okLen > USIZE_MAX then .error .notEnoughBytes else
  if labelLen + vkLen + okLen + piLen * 8 > USIZE_MAX then .error .notEnoughBytes else
  if r.length < labelLen + vkLen + okLen + piLen * 8 then .error .notEnoughBytes else
  (VKey.fromBytes? ((r.drop labelLen).take vkLen)).elim (.error .invalid) fun vk =>
  (OpeningKeyM.fromBytes? (((r.drop labelLen).drop vkLen).take okLen)).elim (.error .invalid) fun ok =>
  (Domain.new? vk.n).elim (.error .domain) fun _ =>
  .ok { label := r.take labelLen, vk := vk, ok := ok,
        piIndexes := (List.range piLen).map fun i =>
          bytesToNatBE ((((((r.drop labelLen).drop vkLen).drop okLen).take (piLen * 8)).drop (8 * i)).take 8),
        size := size, constraints := constraints }

theorem USIZE_MAX_eq : USIZE_MAX = 18446744073709551615 := by decide

theorem lt_of_sum_lt {a b c d m : Nat} (h : a + b + c + d < m) : a < m ∧ b < m ∧ c < m ∧ d < m := by
  omega

theorem usize_sums {a b c d : Nat} (h : a + b + c + d < 2 ^ 64) :
    ¬ a + b > 18446744073709551615 ∧ ¬ a + b + c > 18446744073709551615 ∧
    ¬ a + b + c + d > 18446744073709551615 := by
  omega

theorem VerifierM.fromBytes_eq (bs : List Nat) : VerifierM.fromBytes bs =
    if bs.length < 48 then .error .notEnoughBytes else
    VerifierM.fromFrame (bytesToNatBE (bs.take 8)) (bytesToNatBE ((bs.drop 8).take 8))
      (bytesToNatBE (((bs.drop 8).drop 8).take 8)) (bytesToNatBE ((((bs.drop 8).drop 8).drop 8).take 8))
      (bytesToNatBE (((((bs.drop 8).drop 8).drop 8).drop 8).take 8))
      (bytesToNatBE ((((((bs.drop 8).drop 8).drop 8).drop 8).drop 8).take 8))
      ((((((bs.drop 8).drop 8).drop 8).drop 8).drop 8).drop 8) := by
  unfold VerifierM.fromBytes
  by_cases hlen : bs.length < 48
  · rw [if_pos hlen, if_pos hlen]
  · rw [if_neg hlen, if_neg hlen, u64be?_eq (by omega)]
    dsimp only
    rw [u64be?_eq (by simp only [List.length_drop]; omega)]
    dsimp only
    rw [u64be?_eq (by simp only [List.length_drop]; omega)]
    dsimp only
    rw [u64be?_eq (by simp only [List.length_drop]; omega)]
    dsimp only
    rw [u64be?_eq (by simp only [List.length_drop]; omega)]
    dsimp only
    rw [u64be?_eq (by simp only [List.length_drop]; omega)]
    dsimp only
    unfold VerifierM.fromFrame
    -- each key decoder is replaced by its result before comparing: `rfl` would unfold them
    cases VKey.fromBytes? _ with
    | none => rfl
    | some vk =>
      cases OpeningKeyM.fromBytes? _ with
      | none => rfl
      | some ok =>
        dsimp only [Option.elim_some]
        cases Domain.new? vk.n with
        | none => rfl
        | some d => rfl

/-- the announced lengths exceed the payload: exactly `notEnoughBytes`, before any of it is touched -/
theorem VerifierM.fromFrame_too_long {labelLen vkLen okLen piLen size constraints : Nat} {r : List Nat}
    (h : r.length < labelLen + vkLen + okLen + piLen * 8) :
    VerifierM.fromFrame labelLen vkLen okLen piLen size constraints r = .error .notEnoughBytes := by
  unfold VerifierM.fromFrame
  rw [if_pos h]
  simp only [ite_self]

/-- a decoder that reads six header words and hands the rest to `frame`, on six encoded words in
    front of a payload (`VerifierM.fromBytes_eq`, `ProverM.fromBytes_eq` have this shape) -/
theorem fromBytes_frame_of {α : Type} {dec : List Nat → α} {e : α}
    {frame : Nat → Nat → Nat → Nat → Nat → Nat → List Nat → α}
    (hdec : ∀ bs, dec bs = if bs.length < 48 then e else
      frame (bytesToNatBE (bs.take 8)) (bytesToNatBE ((bs.drop 8).take 8))
        (bytesToNatBE (((bs.drop 8).drop 8).take 8)) (bytesToNatBE ((((bs.drop 8).drop 8).drop 8).take 8))
        (bytesToNatBE (((((bs.drop 8).drop 8).drop 8).drop 8).take 8))
        (bytesToNatBE ((((((bs.drop 8).drop 8).drop 8).drop 8).drop 8).take 8))
        ((((((bs.drop 8).drop 8).drop 8).drop 8).drop 8).drop 8))
    {a1 a2 a3 a4 a5 a6 : Nat} (h1 : a1 < 2 ^ 64) (h2 : a2 < 2 ^ 64) (h3 : a3 < 2 ^ 64) (h4 : a4 < 2 ^ 64)
    (h5 : a5 < 2 ^ 64) (h6 : a6 < 2 ^ 64) (t : List Nat) :
    dec (u64beBytes a1 ++ (u64beBytes a2 ++ (u64beBytes a3 ++ (u64beBytes a4 ++ (u64beBytes a5 ++
      (u64beBytes a6 ++ t)))))) = frame a1 a2 a3 a4 a5 a6 t := by
  rw [hdec, if_neg (by simp only [List.length_append, u64beBytes_length]; omega)]
  simp only [List.take_left' (u64beBytes_length _), List.drop_left' (u64beBytes_length _), u64be_val h1, u64be_val h2,
    u64be_val h3, u64be_val h4, u64be_val h5, u64be_val h6]

/-- the frame decoder on a payload that is the concatenation of its four fields, each decoding -/
theorem VerifierM.fromFrame_append {label vkB okB : List Nat} {idx : List Nat} {size constraints : Nat}
    {vk : VKey} {ok : OpeningKeyM} (hfit : label.length + vkB.length + okB.length + idx.length * 8 < 2 ^ 64)
    (hvk : VKey.fromBytes? vkB = some vk) (hok : OpeningKeyM.fromBytes? okB = some ok)
    (hd : (Domain.new? vk.n).isSome = true) (hpi : ∀ i ∈ idx, i < 2 ^ 64) :
    VerifierM.fromFrame label.length vkB.length okB.length idx.length size constraints
        (label ++ (vkB ++ (okB ++ (idx.flatMap u64beBytes ++ [])))) =
      .ok { label := label, vk := vk, ok := ok, piIndexes := idx, size := size, constraints := constraints } := by
  simp only [VerifierM.fromFrame, Except.ite_error_eq_ok, Option.elim_error_eq_ok, Except.ok.injEq, exists_and_right,
    USIZE_MAX_eq]
  have hpl : (idx.flatMap u64beBytes ++ ([] : List Nat)).length = idx.length * 8 := by
    rw [List.append_nil, length_flatMap_const u64beBytes_length, Nat.mul_comm]
  have hl : (label ++ (vkB ++ (okB ++ (idx.flatMap u64beBytes ++ [])))).length =
      label.length + vkB.length + okB.length + idx.length * 8 := by
    simp only [List.length_append, hpl, Nat.add_assoc]
  obtain ⟨o1, o2, o3⟩ := usize_sums hfit
  refine ⟨fun h => o3 (lt_of_lt_of_le h (Nat.le_add_left _ _)), o1, o2, o3, hl.ge.not_gt, vk, ?_, ok, ?_,
    Option.isSome_iff_exists.mp hd, ?_⟩
  · rw [List.drop_left' rfl, List.take_left' rfl]; exact hvk
  · rw [List.drop_left' rfl, List.drop_left' rfl, List.take_left' rfl]; exact hok
  · rw [List.drop_left' rfl, List.drop_left' rfl, List.drop_left' rfl, List.take_left' rfl, ← hpl, List.take_length,
      piIndexes_read idx [] hpi]

/-- verifier round trip.  Hypotheses: well-formed verifier key; the opening key decodes back (its `G2`
    part is not verified here); the key's domain exists (else `Verifier::new` fails); table entries and
    the two sizes fit `u64`; the total length fits `usize`. -/
theorem VerifierM.fromBytes_toBytes {v : VerifierM} (hvk : v.vk.WF)
    (hok : OpeningKeyM.fromBytes? v.ok.toBytes = some v.ok)
    (hd : (Domain.new? v.vk.n).isSome = true) (hpi : ∀ i ∈ v.piIndexes, i < 2 ^ 64)
    (hs : v.size < 2 ^ 64) (hc : v.constraints < 2 ^ 64)
    (hfit : v.label.length + 968 + 240 + 8 * v.piIndexes.length < 2 ^ 64) :
    VerifierM.fromBytes v.toBytes = .ok v := by
  have e : v.toBytes = u64beBytes v.label.length ++ (u64beBytes v.vk.toBytes.length ++
      (u64beBytes v.ok.toBytes.length ++ (u64beBytes v.piIndexes.length ++ (u64beBytes v.size ++
      (u64beBytes v.constraints ++ (v.label ++ (v.vk.toBytes ++ (v.ok.toBytes ++
      (v.piIndexes.flatMap u64beBytes ++ []))))))))) := by
    unfold VerifierM.toBytes
    simp only [List.append_assoc, List.append_nil]
  have hfit' : v.label.length + v.vk.toBytes.length + v.ok.toBytes.length + v.piIndexes.length * 8 < 2 ^ 64 := by
    rwa [VKey.toBytes_length, OpeningKeyM.toBytes_length, Nat.mul_comm]
  obtain ⟨f1, f2, f3, f4⟩ := lt_of_sum_lt hfit'
  rw [e, fromBytes_frame_of (frame := VerifierM.fromFrame) VerifierM.fromBytes_eq f1 f2 f3 (lt_of_le_of_lt (Nat.le_mul_of_pos_right _ (by decide)) f4) hs hc]
  exact VerifierM.fromFrame_append hfit' (VKey.fromBytes_toBytes hvk) hok hd hpi

theorem bytesToNatBE_take8_lt (l : List Nat) : bytesToNatBE (l.take 8) < 2 ^ 64 := by
  have h := bytesToNatBE_lt (l.take 8)
  have hl : (l.take 8).length ≤ 8 := by rw [List.length_take]; omega
  have : 256 ^ (l.take 8).length ≤ 256 ^ 8 := Nat.pow_le_pow_right (by norm_num) hl
  have e : (256 : Nat) ^ 8 = 2 ^ 64 := by norm_num
  omega

/-- the work bound of a framed decoder, about variables (`omega` among the decoder's hypotheses is slow) -/
theorem frame_bytes_bound {a l b vk c ok d pi r n : Nat} (ha : a ≤ l) (hb : b ≤ vk) (hc : c ≤ ok) (hd : d ≤ pi)
    (hr : l + vk + ok + pi ≤ r) (hn : r + 48 ≤ n) : 48 + a + b + c + d ≤ n := by
  omega

end Plonk
