/-
  C02 (soundness), algebraic core, on the model's data: a compiled layout `lay` (gate rows
  `lay.gateAt`, dense public inputs `lay.piAt`, permutation `sigmaFn lay`), the row check
  `Plonk.rowHolds`, the numerator polynomial `NumP` of `QuotientNum` (whose coset values are the
  entries of the model's `quotientEvals`, `quotient_entry_coset`).

  The explicit bad sets of the five challenge groups:

  * `betaBad`  (`≤ (4n)²`) and `gammaBadM` (`≤ 8n`)       — fixed by the wire polynomials;
  * `sepBad`   (`≤ 9n·|F|³` of the `|F|⁴` tuples `(ρ,λ,φ,ν)`) — fixed by the wire polynomials;
  * `alphaBadM` (`≤ 2n`)                                  — fixed by wires, `β γ`, `Z`, `(ρ,λ,φ,ν)`;
  * `idBad`    (`≤ max (deg Num) (deg T + n)`)            — fixed by everything and the quotient `T`.
-/
import Plonk.Proofs.SoundnessCore
import Plonk.Proofs.QuotientExact
import Plonk.Proofs.PermutationModel

namespace Plonk.Sound
open Polynomial Plonk Plonk.Quot Plonk.Perm

/-- the wire polynomial of a column -/
def wireP (P : ProverPolys F) (col : Nat) : F[X] :=
  match col with
  | 0 => P.a
  | 1 => P.b
  | 2 => P.c
  | _ => P.d

/-- the value of wire `(col, i)` read off the wire polynomials on the domain -/
noncomputable def wireVal (ω : F) (P : ProverPolys F) (p : Pos) : F := (wireP P p.1).eval (ω ^ p.2)

/-- its canonical representative, the `Nat` handed to the model's `rowHolds` -/
noncomputable def wireNat (ω : F) (P : ProverPolys F) (col i : Nat) : Nat := (wireVal ω P (col, i)).val

theorem toF_wireNat (ω : F) (P : ProverPolys F) (col i : Nat) :
    toF (wireNat ω P col i) = wireVal ω P (col, i) := toF_val _

theorem wireNat_lt (ω : F) (P : ProverPolys F) (col i : Nat) : wireNat ω P col i < R :=
  ZMod.val_lt _

/-- the model's row check of row `i` on the values read off the wire polynomials, next row
    `(i+1) mod n` (`Quot.rowOK` is the same check on a table given as lists, and `Quot.rowNum` the
    counterpart of `gateAtRow + α·permAtRow + α²·l1AtRow` below) -/
noncomputable def rowOKP (ω : F) (n : Nat) (lay : Composer) (P : ProverPolys F) (i : Nat) : Prop :=
  rowHolds (lay.gateAt i) (wireNat ω P 0 i) (wireNat ω P 1 i) (wireNat ω P 2 i) (wireNat ω P 3 i)
    (wireNat ω P 0 ((i + 1) % n)) (wireNat ω P 1 ((i + 1) % n)) (wireNat ω P 3 ((i + 1) % n))
    (lay.piAt i) = true

/-- the preprocessed polynomials (selectors, sigmas) and the public-input polynomial interpolate
    the compiled layout -/
structure KeyInterp (ω : F) (n : Nat) (lay : Composer) (P : ProverPolys F) : Prop where
  sel : ∀ i < n, P.Q.map (eval (ω ^ i)) = Quot.selF (lay.gateAt i)
  pi : ∀ i < n, P.pi.eval (ω ^ i) = toF (lay.piAt i)
  s1 : ∀ i < n, P.s1.eval (ω ^ i) = idLabel ω (sigmaFn lay (0, i))
  s2 : ∀ i < n, P.s2.eval (ω ^ i) = idLabel ω (sigmaFn lay (1, i))
  s3 : ∀ i < n, P.s3.eval (ω ^ i) = idLabel ω (sigmaFn lay (2, i))
  s4 : ∀ i < n, P.s4.eval (ω ^ i) = idLabel ω (sigmaFn lay (3, i))

/-- the wire values a row reads -/
noncomputable def wiresAt (ω : F) (n : Nat) (P : ProverPolys F) (i : Nat) : Wires F :=
  ⟨wireVal ω P (0, i), wireVal ω P (1, i), wireVal ω P (2, i), wireVal ω P (3, i),
   wireVal ω P (0, (i + 1) % n), wireVal ω P (1, (i + 1) % n), wireVal ω P (3, (i + 1) % n)⟩

theorem wiresAt_eq_wiresF (ω : F) (n : Nat) (P : ProverPolys F) (i : Nat) :
    wiresAt ω n P i = wiresF (wireNat ω P 0 i) (wireNat ω P 1 i) (wireNat ω P 2 i) (wireNat ω P 3 i)
      (wireNat ω P 0 ((i + 1) % n)) (wireNat ω P 1 ((i + 1) % n)) (wireNat ω P 3 ((i + 1) % n)) := by
  simp only [wiresAt, wiresF, toF_wireNat]

/-- the gate expression of row `i` -/
noncomputable def gateAtRow (ω : F) (n : Nat) (lay : Composer) (P : ProverPolys F) (i : Nat)
    (s : Seps F) : F :=
  gateSumR (Quot.selF (lay.gateAt i)) (wiresAt ω n P i) (toF (lay.piAt i)) s

/-- the permutation step of row `i` (σ values of the layout) -/
noncomputable def permAtRow (ω : F) (n : Nat) (lay : Composer) (P : ProverPolys F) (β γ : F)
    (i : Nat) : F :=
  permNumR β γ (wireVal ω P (0, i)) (wireVal ω P (1, i)) (wireVal ω P (2, i)) (wireVal ω P (3, i))
      (ω ^ i) * P.z.eval (ω ^ i) -
    permDenR β γ (wireVal ω P (0, i)) (wireVal ω P (1, i)) (wireVal ω P (2, i)) (wireVal ω P (3, i))
      (idLabel ω (sigmaFn lay (0, i))) (idLabel ω (sigmaFn lay (1, i)))
      (idLabel ω (sigmaFn lay (2, i))) (idLabel ω (sigmaFn lay (3, i))) * P.z.eval (ω ^ ((i + 1) % n))

/-- the `L₁` term of row `i` -/
noncomputable def l1AtRow (ω : F) (P : ProverPolys F) (i : Nat) : F :=
  (if i = 0 then 1 else 0) * (P.z.eval (ω ^ i) - 1)

/-- **the numerator on the domain**: gate + α·perm + α²·L₁-term -/
theorem NumP_eval_domain {ω : F} {n : ℕ} (hn : 0 < n) (hω : IsPrimitiveRoot ω n) {lay : Composer}
    {P : ProverPolys F} (I : KeyInterp ω n lay P) (β γ α : F) (s : Seps F) {i : ℕ} (hi : i < n) :
    (NumP ω n P ⟨β, γ, α⟩ s).eval (ω ^ i) =
      gateAtRow ω n lay P i s + α * permAtRow ω n lay P β γ i + α ^ 2 * l1AtRow ω P i := by
  rw [numerator_at_root_poly hω (FftMath.natCast_ne_zero_of_primitive hn hω) P _ s hi, I.sel i hi, I.pi i hi,
    I.s1 i hi, I.s2 i hi, I.s3 i hi, I.s4 i hi]
  simp only [numR, permStepR, gateAtRow, permAtRow, l1AtRow, wiresAt, wireVal, wireP]
  ring

/-- bad `β`: at most `(4n)²` values, fixed by the wire polynomials -/
noncomputable def betaBad (ω : F) (n : Nat) (lay : Composer) (P : ProverPolys F) : Finset F :=
  badBeta (posSet n) (wireVal ω P) (idLabel ω) (sigmaFn lay)

theorem betaBad_card_le (ω : F) (n : Nat) (lay : Composer) (P : ProverPolys F) :
    (betaBad ω n lay P).card ≤ (4 * n) * (4 * n) := by
  have := badBeta_card_le (posSet n) (wireVal ω P) (idLabel ω) (sigmaFn lay)
  rwa [posSet_card] at this

/-- bad `γ` for a given `β`: at most `8n` values, fixed by the wire polynomials -/
noncomputable def gammaBadM (ω : F) (n : Nat) (lay : Composer) (P : ProverPolys F) (β : F) : Finset F :=
  gammaBad (posSet n) (wireVal ω P) (idLabel ω) (sigmaFn lay) β

theorem gammaBadM_card_le (ω : F) (n : Nat) (lay : Composer) (P : ProverPolys F) (β : F) :
    (gammaBadM ω n lay P β).card ≤ 8 * n := by
  have := gammaBad_card_le (posSet n) (wireVal ω P) (idLabel ω) (sigmaFn lay) β
  rw [posSet_card] at this
  unfold gammaBadM; omega

/-- bad `α`: at most `2n` values -/
noncomputable def alphaBadM (ω : F) (n : Nat) (lay : Composer) (P : ProverPolys F) (β γ : F)
    (s : Seps F) : Finset F :=
  alphaBadRows n (fun i => gateAtRow ω n lay P i s) (fun i => permAtRow ω n lay P β γ i)
    (fun i => l1AtRow ω P i)

theorem alphaBadM_card_le (ω : F) (n : Nat) (lay : Composer) (P : ProverPolys F) (β γ : F)
    (s : Seps F) : (alphaBadM ω n lay P β γ s).card ≤ 2 * n :=
  alphaBadRows_card_le _ _ _ _

/-- the tuple of separation challenges as a structure -/
def sepsOf (t : F × F × F × F) : Seps F := ⟨t.1, t.2.1, t.2.2.1, t.2.2.2⟩

/-- bad separation challenges: the tuples for which the gate expression of a FAILING row vanishes -/
noncomputable def sepBad (ω : F) (n : Nat) (lay : Composer) (P : ProverPolys F) :
    Finset (F × F × F × F) :=
  @Finset.filter _ (fun t => ∃ i < n, ¬ rowOKP ω n lay P i ∧ gateAtRow ω n lay P i (sepsOf t) = 0)
    (fun _ => Classical.propDecidable _) Finset.univ

theorem mem_sepBad (ω : F) (n : Nat) (lay : Composer) (P : ProverPolys F) (t : F × F × F × F) :
    t ∈ sepBad ω n lay P ↔
      ∃ i < n, ¬ rowOKP ω n lay P i ∧ gateAtRow ω n lay P i (sepsOf t) = 0 := by
  unfold sepBad
  rw [@Finset.mem_filter _ _ (fun _ => Classical.propDecidable _)]
  simp only [Finset.mem_univ, true_and]

-- (`whnf` of a membership in a filter of `Finset.univ : Finset (F × F × F × F)` would enumerate `F`)
attribute [irreducible] sepBad

/-- the row numerator of `permAtRow` is the product of the identity-side factors -/
theorem permNum_eq_factors (ω : F) (P : ProverPolys F) (β γ : F) (i : Nat) :
    permNumR β γ (wireVal ω P (0, i)) (wireVal ω P (1, i)) (wireVal ω P (2, i)) (wireVal ω P (3, i))
        (ω ^ i) =
      (wireVal ω P (0, i) + β * idLabel ω (0, i) + γ) * (wireVal ω P (1, i) + β * idLabel ω (1, i) + γ) *
      (wireVal ω P (2, i) + β * idLabel ω (2, i) + γ) * (wireVal ω P (3, i) + β * idLabel ω (3, i) + γ) := by
  have e0 : toF (kOf 0) = 1 := by show toF 1 = 1; exact toF_one
  have e1 : toF (kOf 1) = (Generated.K1 : F) := rfl
  have e2 : toF (kOf 2) = (Generated.K2 : F) := rfl
  have e3 : toF (kOf 3) = (Generated.K3 : F) := rfl
  simp only [permNumR, idLabel, e0, e1, e2, e3, one_mul, mul_assoc]

/-- **Permutation identities ⇒ copy constraints.**  If both permutation identities vanish on the
    domain (`permAtRow = 0`, `l1AtRow = 0` for all rows) and `β`, `γ` are outside the explicit bad
    sets, the values read off the wire polynomials respect `σ`. -/
theorem perm_identities_sound (lay : Composer) {k : Nat} (hk : k ≤ 32)
    (hn : lay.gates.size ≤ 2 ^ k) {ω : F} (hω : IsPrimitiveRoot ω (2 ^ k)) (P : ProverPolys F)
    (β γ : F) (hβ : β ∉ betaBad ω (2 ^ k) lay P) (hγ : γ ∉ gammaBadM ω (2 ^ k) lay P β)
    (hperm : ∀ i < 2 ^ k, permAtRow ω (2 ^ k) lay P β γ i = 0)
    (hl1 : ∀ i < 2 ^ k, l1AtRow ω P i = 0) :
    ∀ p, wireVal ω P (sigmaFn lay p) = wireVal ω P p := by
  have hn0 : 0 < 2 ^ k := Nat.two_pow_pos k
  have hfac := (notMem_denBad_iff (posSet (2 ^ k)) (wireVal ω P) (idLabel ω) (sigmaFn lay) β γ).mp
    (notMem_denBad_of_notMem_gammaBad hγ)
  -- the two products over the rows agree
  have hprod := accumulator_telescopes_cyclic (n := 2 ^ k) (fun i => P.z.eval (ω ^ i))
    (fun i => permNumR β γ (wireVal ω P (0, i)) (wireVal ω P (1, i)) (wireVal ω P (2, i))
      (wireVal ω P (3, i)) (ω ^ i))
    (fun i => permDenR β γ (wireVal ω P (0, i)) (wireVal ω P (1, i)) (wireVal ω P (2, i))
      (wireVal ω P (3, i)) (idLabel ω (sigmaFn lay (0, i))) (idLabel ω (sigmaFn lay (1, i)))
      (idLabel ω (sigmaFn lay (2, i))) (idLabel ω (sigmaFn lay (3, i))))
    (by
      intro i hi
      have m (col : Nat) (hc : col < 4) := hfac (col, i) ((mem_posSet _ _).mpr ⟨hc, hi⟩)
      exact (permDenR_ne_zero_iff ..).mpr ⟨m 0 (by omega), m 1 (by omega), m 2 (by omega), m 3 (by omega)⟩)
    (by
      have := hl1 0 hn0
      rw [l1AtRow, if_pos rfl, one_mul] at this
      exact sub_eq_zero.mp this)
    (fun i hi => hperm i hi)
  have hsound := perm_product_sound_at (posSet (2 ^ k)) (wireVal ω P) (idLabel ω) (sigmaFn lay)
    (fun p hp => (sigmaFn_bijOn lay _ hn).mapsTo hp) (idLabel_injOn_posSet hk hω) β γ hβ hγ
    (by
      rw [prod_posSet_rows, prod_posSet_rows]
      simp only [permNum_eq_factors, permDenR] at hprod
      exact hprod)
  intro p
  by_cases hp : p ∈ posSet (2 ^ k)
  · exact hsound p hp
  · have : ¬ Active lay p := fun ha =>
      hp ((mem_posSet _ p).mpr ⟨ha.1.1, Nat.lt_of_lt_of_le ha.1.2 hn⟩)
    rw [sigmaFn_of_not_active this]

end Plonk.Sound
