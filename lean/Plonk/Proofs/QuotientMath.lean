/-
  C05 (prover exactness), algebraic half, math level — no model code in this file.

  `X^n − 1` divides `N` iff `N` vanishes on the subgroup `⟨ω⟩`.  The challenge-weighted sum of the
  widget components is `wsum cs s = s·(c₀ + c₁ s² + c₂ s⁴ + …)`: `a₀ + wsum cs X` is a polynomial of
  degree `≤ 2|cs| − 1`, so vanishing for `2·|cs|` challenges forces `a₀` and every component to
  vanish; for a constant plus four selector-weighted sums in independent challenges this is applied
  axis by axis (vanishing on a grid; the explicit exceptional challenges of a sum that is not
  identically zero).
-/
import Mathlib.Algebra.Polynomial.Roots
import Mathlib.Data.List.GetD
import Mathlib.Tactic.Ring
import Mathlib.Tactic.LinearCombination
import Mathlib.Tactic.FieldSimp
import Plonk.Proofs.FftMath

namespace Plonk.Quot
open Polynomial

section dvd
variable {K : Type*} [Field K]

theorem pow_pow_eq_one {x : K} {n : ℕ} (h : x ^ n = 1) (i : ℕ) : (x ^ i) ^ n = 1 := by
  rw [pow_right_comm, h, one_pow]

theorem natDegree_X_pow_sub_one (n : ℕ) : (X ^ n - 1 : K[X]).natDegree = n := by
  have := natDegree_X_pow_sub_C (R := K) (n := n) (r := 1)
  rwa [C_1] at this

/-- `X^n − 1` divides `N` iff `N` vanishes at every `ω^i`, `i < n` -/
theorem divisible_iff_vanishes {ω : K} {n : ℕ} (hn : 0 < n) (hω : IsPrimitiveRoot ω n)
    (N : K[X]) : (X ^ n - 1 : K[X]) ∣ N ↔ ∀ i < n, N.eval (ω ^ i) = 0 := by
  constructor
  · rintro ⟨q, rfl⟩ i _
    rw [eval_mul, eval_sub, eval_pow, eval_X, eval_one, pow_pow_eq_one hω.pow_eq_one, sub_self,
      zero_mul]
  · intro h
    classical
    have hm : (X ^ n - 1 : K[X]).Monic := by
      have := monic_X_pow_sub_C (1 : K) hn.ne'
      rwa [C_1] at this
    rw [← modByMonic_eq_zero_iff_dvd hm]
    by_contra hr
    have hdeg : (N %ₘ (X ^ n - 1)).natDegree < n := by
      have h1 := natDegree_lt_natDegree hr (degree_modByMonic_lt N hm)
      rwa [natDegree_X_pow_sub_one] at h1
    apply hr
    apply eq_zero_of_natDegree_lt_card_of_eval_eq_zero' _ ((Finset.range n).image (ω ^ ·))
    · intro x hx
      obtain ⟨i, hi, rfl⟩ := Finset.mem_image.mp hx
      rw [FftMath.eval_modByMonic_X_pow_sub_one (pow_pow_eq_one hω.pow_eq_one i)]
      exact h i (Finset.mem_range.mp hi)
    · rw [Finset.card_image_of_injOn, Finset.card_range]
      · exact hdeg
      · intro i hi j hj hij
        exact hω.pow_inj (Finset.mem_range.mp hi) (Finset.mem_range.mp hj) hij

end dvd

section wsum
variable {A : Type*} [CommRing A]

/-- `c₀ + c₁ s² + c₂ s⁴ + …` -/
def hornerSq : List A → A → A
  | [], _ => 0
  | c :: cs, s => c + s ^ 2 * hornerSq cs s

/-- the weighted sum of the code: `sep · (c₀ + c₁ κ + c₂ κ² + …)`, `κ = sep²` -/
def wsum (cs : List A) (s : A) : A := s * hornerSq cs s

@[simp] theorem hornerSq_nil (s : A) : hornerSq ([] : List A) s = 0 := rfl
@[simp] theorem hornerSq_cons (c : A) (cs : List A) (s : A) :
    hornerSq (c :: cs) s = c + s ^ 2 * hornerSq cs s := rfl

theorem hornerSq_map_mul (q : A) (cs : List A) (s : A) :
    hornerSq (cs.map (q * ·)) s = q * hornerSq cs s := by
  induction cs with
  | nil => simp
  | cons c cs ih => simp [ih]; ring

theorem wsum_map_mul (q : A) (cs : List A) (s : A) : wsum (cs.map (q * ·)) s = q * wsum cs s := by
  unfold wsum; rw [hornerSq_map_mul]; ring

theorem hornerSq_of_all_zero (cs : List A) (h : ∀ c ∈ cs, c = 0) (s : A) : hornerSq cs s = 0 := by
  induction cs with
  | nil => rfl
  | cons c cs ih =>
    rw [hornerSq_cons, h c (by simp), ih (fun x hx => h x (by simp [hx]))]; ring

/-- if every component vanishes the weighted sum vanishes for every challenge -/
theorem wsum_of_all_zero (cs : List A) (h : ∀ c ∈ cs, c = 0) (s : A) : wsum cs s = 0 := by
  unfold wsum; rw [hornerSq_of_all_zero cs h]; ring

theorem mul_wsum_eq_zero (q : A) (cs : List A) (h : ∀ c ∈ cs, q * c = 0) (s : A) :
    q * wsum cs s = 0 := by
  rw [← wsum_map_mul]
  exact wsum_of_all_zero _ (List.forall_mem_map.mpr h) s

theorem map_hornerSq {B : Type*} [CommRing B] (f : A →+* B) (cs : List A) (s : A) :
    f (hornerSq cs s) = hornerSq (cs.map f) (f s) := by
  induction cs with
  | nil => exact f.map_zero
  | cons c cs ih => rw [hornerSq_cons, List.map_cons, hornerSq_cons, f.map_add, f.map_mul, map_pow, ih]

theorem map_wsum {B : Type*} [CommRing B] (f : A →+* B) (cs : List A) (s : A) :
    f (wsum cs s) = wsum (cs.map f) (f s) := by
  unfold wsum; rw [map_mul, map_hornerSq]

/-- the polynomial `c₀ + c₁ X² + c₂ X⁴ + …` -/
noncomputable def hornerSqP : List A → A[X]
  | [] => 0
  | c :: cs => C c + X ^ 2 * hornerSqP cs

/-- `A₀ + X·(c₀ + c₁ X² + …)` -/
noncomputable def wpoly (a0 : A) (cs : List A) : A[X] := C a0 + X * hornerSqP cs

theorem eval_hornerSqP (cs : List A) (s : A) : (hornerSqP cs).eval s = hornerSq cs s := by
  induction cs with
  | nil => simp [hornerSqP]
  | cons c cs ih => simp [hornerSqP, ih]

theorem eval_wpoly (a0 : A) (cs : List A) (s : A) : (wpoly a0 cs).eval s = a0 + wsum cs s := by
  simp [wpoly, wsum, eval_hornerSqP]

theorem coeff_hornerSqP (cs : List A) (m : ℕ) :
    (hornerSqP cs).coeff m = if m % 2 = 0 then cs.getD (m / 2) 0 else 0 := by
  induction cs generalizing m with
  | nil => rw [hornerSqP, coeff_zero]; split <;> rfl
  | cons c cs ih =>
    simp only [hornerSqP, coeff_add, coeff_C]
    match m with
    | 0 => rw [coeff_X_pow_mul', if_neg (by decide : ¬ 2 ≤ 0), if_pos rfl, add_zero]; rfl
    | 1 => rw [coeff_X_pow_mul', if_neg (by decide : ¬ 2 ≤ 1), if_neg (by decide : ¬ 1 = 0), add_zero]; rfl
    | m + 2 =>
      rw [coeff_X_pow_mul, ih, if_neg (Nat.succ_ne_zero _), zero_add, Nat.add_mod_right,
        Nat.add_div_right _ (by decide), List.getD_cons_succ]

theorem coeff_wpoly_succ (a0 : A) (cs : List A) (m : ℕ) :
    (wpoly a0 cs).coeff (m + 1) = if m % 2 = 0 then cs.getD (m / 2) 0 else 0 := by
  simp [wpoly, coeff_hornerSqP, coeff_C_succ]

theorem coeff_wpoly_zero (a0 : A) (cs : List A) : (wpoly a0 cs).coeff 0 = a0 := by
  simp [wpoly]

theorem natDegree_wpoly_le (a0 : A) (cs : List A) : (wpoly a0 cs).natDegree ≤ 2 * cs.length - 1 := by
  rw [natDegree_le_iff_coeff_eq_zero]
  intro N hN
  obtain ⟨m, rfl⟩ : ∃ m, N = m + 1 := ⟨N - 1, by omega⟩
  rw [coeff_wpoly_succ]
  split
  · apply List.getD_eq_default; omega
  · rfl

end wsum

section roots
variable {K : Type*} [Field K]

/-- A constant plus a weighted sum that vanishes for at least `max 1 (2·|cs|)` distinct challenges
    has zero constant and zero components (the polynomial `a₀ + s·Σ cⱼ s^(2j)` has degree
    `≤ 2|cs| − 1`). -/
theorem const_add_wsum_zero (a0 : K) (cs : List K) (S : Finset K) (h1 : 0 < S.card)
    (hS : 2 * cs.length ≤ S.card) (h : ∀ s ∈ S, a0 + wsum cs s = 0) :
    a0 = 0 ∧ ∀ c ∈ cs, c = 0 := by
  have hp : wpoly a0 cs = 0 := by
    apply eq_zero_of_natDegree_lt_card_of_eval_eq_zero' (wpoly a0 cs) S
    · intro s hs; rw [eval_wpoly]; exact h s hs
    · have := natDegree_wpoly_le a0 cs; omega
  refine ⟨by rw [← coeff_wpoly_zero a0 cs, hp, coeff_zero], ?_⟩
  intro c hc
  obtain ⟨j, hj, rfl⟩ := List.getElem_of_mem hc
  have := coeff_wpoly_succ a0 cs (2 * j)
  rw [hp, coeff_zero, if_pos (by omega), show 2 * j / 2 = j by omega] at this
  rw [this, List.getD_eq_getElem _ _ hj]

/-- **Bridge from the weighted sum to the components.** If `sep·(c₀ + c₁ sep² + … + c_k sep^{2k})`
    vanishes for more than `2k+1` (i.e. at least `2(k+1)`) distinct values of `sep`, every `cⱼ`
    is zero; conversely (`wsum_of_all_zero`) if all components vanish the sum vanishes always. -/
theorem components_of_weighted_sum (cs : List K) (S : Finset K) (hS : 2 * cs.length ≤ S.card)
    (h : ∀ s ∈ S, wsum cs s = 0) : ∀ c ∈ cs, c = 0 := by
  rcases Nat.eq_zero_or_pos S.card with h0 | h1
  · have : cs.length = 0 := by omega
    intro c hc; rw [List.length_eq_zero_iff.mp this] at hc; simp at hc
  · exact (const_add_wsum_zero 0 cs S h1 hS (fun s hs => by rw [zero_add]; exact h s hs)).2

theorem weighted_sum_zero_iff (cs : List K) (S : Finset K) (hS : 2 * cs.length ≤ S.card) :
    (∀ s ∈ S, wsum cs s = 0) ↔ ∀ c ∈ cs, c = 0 :=
  ⟨components_of_weighted_sum cs S hS, fun h s _ => wsum_of_all_zero cs h s⟩

theorem const_add_mul_wsum_zero (a0 q : K) (cs : List K) (S : Finset K) (h1 : 0 < S.card)
    (hS : 2 * cs.length ≤ S.card) (h : ∀ s ∈ S, a0 + q * wsum cs s = 0) :
    a0 = 0 ∧ ∀ c ∈ cs, q * c = 0 := by
  have := const_add_wsum_zero a0 (cs.map (q * ·)) S h1 (by rwa [List.length_map])
    (fun s hs => by rw [wsum_map_mul]; exact h s hs)
  exact ⟨this.1, List.forall_mem_map.mp this.2⟩

theorem card_le_of_const_add_mul_wsum_zero (a0 q : K) (cs : List K) (hne : ¬ ∀ c ∈ cs, q * c = 0)
    (S : Finset K) (h : ∀ s ∈ S, a0 + q * wsum cs s = 0) : S.card ≤ 2 * cs.length - 1 := by
  by_contra hc
  exact hne (const_add_mul_wsum_zero a0 q cs S (by omega) (by omega) h).2

/-- Four independent separation challenges: a sum `a₀ + q₁·W₁(s₁) + q₂·W₂(s₂) + q₃·W₃(s₃) + q₄·W₄(s₄)`
    that vanishes on a grid `S₁×S₂×S₃×S₄` with `|Sᵢ| ≥ max 1 (2|csᵢ|)` has `a₀ = 0` and every
    `qᵢ·c = 0`. -/
theorem sum4_grid_zero (a0 q1 q2 q3 q4 : K) (c1 c2 c3 c4 : List K) (S1 S2 S3 S4 : Finset K)
    (n1 : 0 < S1.card) (n2 : 0 < S2.card) (n3 : 0 < S3.card) (n4 : 0 < S4.card)
    (h1 : 2 * c1.length ≤ S1.card) (h2 : 2 * c2.length ≤ S2.card) (h3 : 2 * c3.length ≤ S3.card)
    (h4 : 2 * c4.length ≤ S4.card)
    (h : ∀ s1 ∈ S1, ∀ s2 ∈ S2, ∀ s3 ∈ S3, ∀ s4 ∈ S4,
      a0 + q1 * wsum c1 s1 + q2 * wsum c2 s2 + q3 * wsum c3 s3 + q4 * wsum c4 s4 = 0) :
    a0 = 0 ∧ (∀ c ∈ c1, q1 * c = 0) ∧ (∀ c ∈ c2, q2 * c = 0) ∧ (∀ c ∈ c3, q3 * c = 0) ∧
      (∀ c ∈ c4, q4 * c = 0) := by
  obtain ⟨t1, ht1⟩ := Finset.card_pos.mp n1
  obtain ⟨t2, ht2⟩ := Finset.card_pos.mp n2
  obtain ⟨t3, ht3⟩ := Finset.card_pos.mp n3
  -- the sum is nested to the left: peel the last axis, the constant left is a sum of the same kind
  have k4 := fun s1 hs1 s2 hs2 s3 hs3 =>
    const_add_mul_wsum_zero _ q4 c4 S4 n4 h4 (h s1 hs1 s2 hs2 s3 hs3)
  have k3 := fun s1 hs1 s2 hs2 =>
    const_add_mul_wsum_zero _ q3 c3 S3 n3 h3 fun s3 hs3 => (k4 s1 hs1 s2 hs2 s3 hs3).1
  have k2 := fun s1 hs1 =>
    const_add_mul_wsum_zero _ q2 c2 S2 n2 h2 fun s2 hs2 => (k3 s1 hs1 s2 hs2).1
  have k1 := const_add_mul_wsum_zero _ q1 c1 S1 n1 h1 fun s1 hs1 => (k2 s1 hs1).1
  exact ⟨k1.1, k1.2, (k2 t1 ht1).2, (k3 t1 ht1 t2 ht2).2, (k4 t1 ht1 t2 ht2 t3 ht3).2⟩

/-- The explicit bad set of such a sum: unless `a₀ = 0` and every `qᵢ·c = 0`, either it vanishes for
    no challenges at all, or on one axis — whatever the other three challenges — it has at most
    `2|csᵢ| − 1` zeros. -/
theorem sum4_bad_set (a0 q1 q2 q3 q4 : K) (c1 c2 c3 c4 : List K)
    (hne : ¬ (a0 = 0 ∧ (∀ c ∈ c1, q1 * c = 0) ∧ (∀ c ∈ c2, q2 * c = 0) ∧ (∀ c ∈ c3, q3 * c = 0) ∧
      (∀ c ∈ c4, q4 * c = 0))) :
    let E := fun s1 s2 s3 s4 =>
      a0 + q1 * wsum c1 s1 + q2 * wsum c2 s2 + q3 * wsum c3 s3 + q4 * wsum c4 s4
    (∀ s1 s2 s3 s4, E s1 s2 s3 s4 ≠ 0) ∨
    (∀ s2 s3 s4, ∀ S : Finset K, (∀ s1 ∈ S, E s1 s2 s3 s4 = 0) → S.card ≤ 2 * c1.length - 1) ∨
    (∀ s1 s3 s4, ∀ S : Finset K, (∀ s2 ∈ S, E s1 s2 s3 s4 = 0) → S.card ≤ 2 * c2.length - 1) ∨
    (∀ s1 s2 s4, ∀ S : Finset K, (∀ s3 ∈ S, E s1 s2 s3 s4 = 0) → S.card ≤ 2 * c3.length - 1) ∨
    (∀ s1 s2 s3, ∀ S : Finset K, (∀ s4 ∈ S, E s1 s2 s3 s4 = 0) → S.card ≤ 2 * c4.length - 1) := by
  intro E
  -- from the last axis down: a widget that vanishes identically drops out of the sum
  by_cases e4 : ∀ c ∈ c4, q4 * c = 0
  · have d4 (s1 s2 s3 s4) : E s1 s2 s3 s4 = a0 + q1 * wsum c1 s1 + q2 * wsum c2 s2 + q3 * wsum c3 s3 := by
      rw [← add_zero (_ + q3 * _), ← mul_wsum_eq_zero q4 c4 e4 s4]
    by_cases e3 : ∀ c ∈ c3, q3 * c = 0
    · have d3 (s1 s2 s3 s4) : E s1 s2 s3 s4 = a0 + q1 * wsum c1 s1 + q2 * wsum c2 s2 := by
        rw [d4, mul_wsum_eq_zero q3 c3 e3, add_zero]
      by_cases e2 : ∀ c ∈ c2, q2 * c = 0
      · have d2 (s1 s2 s3 s4) : E s1 s2 s3 s4 = a0 + q1 * wsum c1 s1 := by
          rw [d3, mul_wsum_eq_zero q2 c2 e2, add_zero]
        by_cases e1 : ∀ c ∈ c1, q1 * c = 0
        · refine Or.inl fun s1 s2 s3 s4 h0 => hne ⟨?_, e1, e2, e3, e4⟩
          rwa [d2, mul_wsum_eq_zero q1 c1 e1, add_zero] at h0
        · exact Or.inr <| Or.inl fun s2 s3 s4 S hS =>
            card_le_of_const_add_mul_wsum_zero a0 q1 c1 e1 S fun s hs => (d2 s s2 s3 s4).symm.trans (hS s hs)
      · exact Or.inr <| Or.inr <| Or.inl fun s1 s3 s4 S hS =>
          card_le_of_const_add_mul_wsum_zero _ q2 c2 e2 S fun s hs => (d3 s1 s s3 s4).symm.trans (hS s hs)
    · exact Or.inr <| Or.inr <| Or.inr <| Or.inl fun s1 s2 s4 S hS =>
        card_le_of_const_add_mul_wsum_zero _ q3 c3 e3 S fun s hs => (d4 s1 s2 s s4).symm.trans (hS s hs)
  · exact Or.inr <| Or.inr <| Or.inr <| Or.inr fun s1 s2 s3 S hS =>
      card_le_of_const_add_mul_wsum_zero _ q4 c4 e4 S hS

end roots

end Plonk.Quot
