/-
  The range component (`range.rs`).  `range_check_even` is the one program here whose rows read
  their successor, so it is read off its explicit output state `rangeEvenOut`, once, as a
  specification (`rangeCheckEven_spec`): the base-4 accumulator chain in the field bounds the last
  accumulator, which the closing `assert_equal` identifies with the checked witness.  An odd width
  is a straight-line program around an even check, and `rangeCheck_spec` is the chain of the
  specifications of its steps.  Two things a specification does not record are walked through the
  program separately: the layout does not depend on the stored values (`SameLayout`, on which the
  exactness statements rest), and no public input is added (`rangeCheck_pis`).
-/
import Mathlib.Tactic.IntervalCases
import Mathlib.Tactic.NormNum
import Mathlib.Tactic.Ring
import Mathlib.Tactic.Linarith
import Plonk.Proofs.Arith

namespace Plonk
open Plonk.Composer

/-! ### the accumulator chain in the field -/

/-- a base-4 accumulator chain starting at 0 is a natural number below `4^k` -/
theorem chain_bound (acc : ℕ → F) (k : ℕ) (h0 : acc 0 = 0)
    (hstep : ∀ i < k, deltaF (acc (i+1) - 4 * acc i) = 0) :
    ∃ n : ℕ, n < 4^k ∧ acc k = (n : F) := by
  induction k with
  | zero => exact ⟨0, by norm_num, by simpa using h0⟩
  | succ k ih =>
    obtain ⟨n, hn, hk⟩ := ih (fun i hi => hstep i (Nat.lt_succ_of_lt hi))
    obtain ⟨q, hq, hx⟩ := exists_lt_four_of_deltaF_eq_zero (hstep k (Nat.lt_succ_self k))
    refine ⟨4*n + q, ?_, ?_⟩
    · rw [pow_succ]; omega
    · rw [Nat.cast_add, Nat.cast_mul, ← hk, ← hx, Nat.cast_ofNat]; ring

theorem val_toF_natCast_lt {n m : ℕ} {x : F} (h : x = (n : F)) (hn : n < m) (hm : m ≤ R) :
    x.val < m := by
  rw [h, ZMod.val_natCast, Nat.mod_eq_of_lt (by omega)]; exact hn

/-! ### honest accumulators (naturals) -/

theorem rangeAcc_zero_lt (v k : ℕ) : Composer.rangeAcc v k 0 < 4 := by
  unfold Composer.rangeAcc; exact Nat.mod_lt _ (by norm_num)

theorem rangeAcc_succ (v k j : ℕ) (hj : j + 1 < k) :
    ∃ q, q < 4 ∧ Composer.rangeAcc v k (j+1) = 4 * Composer.rangeAcc v k j + q := by
  unfold Composer.rangeAcc
  obtain ⟨m, rfl⟩ := Nat.exists_eq_add_of_lt hj
  have e1 : j + 1 + m + 1 - 1 - (j + 1) = m := by
    rw [Nat.add_sub_cancel, Nat.add_sub_cancel_left]
  have e2 : j + 1 + m + 1 - 1 - j = m + 1 := by
    rw [Nat.add_sub_cancel, Nat.add_assoc, Nat.add_sub_cancel_left, Nat.add_comm]
  rw [e1, e2, ← four_pow_eq, ← four_pow_eq]
  refine ⟨(v / 4^m) % 4, Nat.mod_lt _ (by norm_num), ?_⟩
  have h4 : (4:ℕ) ^ (j + 1 + 1) = 4 * 4 ^ (j+1) := by rw [pow_succ]; ring
  have h5 : v / 4 ^ (m+1) = v / 4 ^ m / 4 := by rw [pow_succ, Nat.div_div_eq_div_mul]
  rw [h4, Nat.mod_mul, h5]
  ring

theorem rangeAcc_last (v k : ℕ) : Composer.rangeAcc v (k + 1) k = v % 4 ^ (k + 1) := by
  unfold Composer.rangeAcc
  rw [Nat.add_sub_cancel, Nat.sub_self, Nat.mul_zero, Nat.pow_zero, Nat.div_one]

namespace Composer

theorem piFresh_initialized : PiFresh initialized := by
  intro i _; rfl

/-- value of an old witness after appending -/
theorem val_append_lt (c : Composer) (l : Array Nat) {i : Nat} (h : i < c.wit.size) (g p) :
    ({ gates := g, wit := c.wit ++ l, pis := p } : Composer).val i = c.val i := by
  simp [val, Array.getElem?_append_left h]

theorem red_of_wit_append {c c' : Composer} (l : Array Nat) (hw : c'.wit = c.wit ++ l)
    (hl : ∀ j (hj : j < l.size), l[j] < R) (i : Nat) (hi : c.wit.size ≤ i) : c'.val i < R := by
  obtain ⟨j, rfl⟩ := Nat.exists_eq_add_of_le hi
  rw [val_of_wit_append hw j]
  by_cases hj : j < l.size
  · simp [Array.getD_eq_getD_getElem?, hj, hl j hj]
  · simp [Array.getD_eq_getD_getElem?, Array.getElem?_eq_none (Nat.le_of_not_lt hj), R_pos]

theorem wf_of_wit_append {c c' : Composer} (h : WF c) (l : Array Nat) (hw : c'.wit = c.wit ++ l)
    (hl : ∀ j (hj : j < l.size), l[j] < R) (hp : c'.pis = c.pis)
    (hs : c.gates.size ≤ c'.gates.size) : WF c' where
  val_lt i :=
    if hi : i < c.wit.size then by
      rw [show c'.val i = c.val i by
        unfold val; simp only [Array.getD_eq_getD_getElem?]
        rw [hw, Array.getElem?_append_left hi]]
      exact h.val_lt i
    else red_of_wit_append l hw hl i (Nat.le_of_not_lt hi)
  pis_zero := piFresh_of_pis h.pis_zero hp hs

theorem two_pow_le_R {n : Nat} (h : n ≤ 254) : 2 ^ n ≤ R :=
  Nat.le_of_lt (Nat.lt_of_le_of_lt (Nat.pow_le_pow_right (by decide) h) two_pow_254_lt_R)

/-! ### layout arithmetic of `range_check_even` -/

/-- `num_gates` of `range_check_even`: selected rows, each covering four quads -/
def rcGates (n : Nat) : Nat := n / 8 + (if n % 8 != 0 then 1 else 0)
/-- `num_quads`: quad slots `0 … rcQuads n` -/
def rcQuads (n : Nat) : Nat := rcGates n * 4
/-- first slot that holds an accumulator; the slots below it are the zero witness -/
def rcPad (n : Nat) : Nat := 1 + ((rcQuads n * 2 - n) / 2)
/-- number of accumulators (`n / 2` for even `n`, see `rc_layout`) -/
def rcK (n : Nat) : Nat := rcQuads n + 1 - rcPad n

theorem rcGates_eq (n : Nat) : rcGates n = (n + 7) / 8 := by
  unfold rcGates; split <;> rename_i h <;> simp at h <;> omega

/-- the quad slots cover the width, so the subtraction in `rcPad` does not truncate -/
theorem le_two_mul_rcQuads (n : Nat) : n ≤ 2 * rcQuads n := by
  unfold rcQuads; rw [rcGates_eq]; omega

theorem rcK_eq {n : Nat} (hn : n % 2 = 0) : rcK n = n / 2 := by
  obtain ⟨m, rfl⟩ : ∃ m, n = 2 * m := ⟨n / 2, (Nat.mul_div_cancel' (Nat.dvd_of_mod_eq_zero hn)).symm⟩
  have hm : m ≤ rcQuads (2 * m) := Nat.le_of_mul_le_mul_left (le_two_mul_rcQuads (2 * m)) two_pos
  unfold rcK rcPad
  rw [Nat.mul_comm _ 2, ← Nat.mul_sub, Nat.mul_div_cancel_left _ (Nat.succ_pos 1),
    Nat.add_comm 1, Nat.add_sub_add_right, Nat.sub_sub_self hm,
    Nat.mul_div_cancel_left m (Nat.succ_pos 1)]

/-- layout of a nonzero even width `n = 2(m+1)`: `p` leading zero slots, the zero witness, then
    the `m+1` accumulators -/
theorem rc_layout {n : Nat} (hn : n % 2 = 0) (hn0 : n ≠ 0) :
    ∃ p m, n = 2 * (m + 1) ∧ rcPad n = p + 1 ∧ rcQuads n = p + m + 1 ∧ rcK n = m + 1 := by
  have h2 : 2 * (n / 2) = n := Nat.mul_div_cancel' (Nat.dvd_of_mod_eq_zero hn)
  obtain ⟨m, hm⟩ := Nat.exists_eq_succ_of_ne_zero fun h : n / 2 = 0 => hn0 (by rw [← h2, h])
  have hk : rcQuads n + 1 - rcPad n = m + 1 := (rcK_eq hn).trans hm
  have hp : rcPad n = (rcQuads n * 2 - n) / 2 + 1 := Nat.add_comm _ _
  generalize (rcQuads n * 2 - n) / 2 = p at hp
  exact ⟨p, m, (hm ▸ h2).symm, hp, by clear hn hn0 h2 hm; omega, hk⟩

theorem rangeCheckEven_run_pos (x n : Nat) (hn : n ≠ 0) (c : Composer) :
    (rangeCheckEven x n).run c =
      (if rcK n > 0 then assertEqual (c.wit.size + rcK n - 1) x else pure ()).run
        ((appendCustomGates (rangeGates c.wit.size (rcPad n) (rcQuads n) (rcGates n))).run
          ((appendWitnesses ((List.range (rcK n)).map (rangeAcc (c.val x) (rcK n)))).run c).2).2 := by
  have hn' : (n == 0) = false := by simpa using hn
  unfold rangeCheckEven
  simp only [hn']
  rfl

theorem rangeCheckEven_run_zero (x : Nat) (c : Composer) :
    (rangeCheckEven x 0).run c = (appendGate { ql := 1, a := x }).run c := rfl

/-- the gate of `assert_equal(a, b)` -/
def eqGate (a b : Nat) : Gate :=
  (Constraint.arithmetic { ql := 1, qr := R - 1, a := a, b := b }).toGate

/-- explicit output state of `range_check_even` for a nonzero even width -/
def rangeEvenOut (c : Composer) (x n : Nat) : Composer :=
  { gates := c.gates ++
      ((rangeGates c.wit.size (rcPad n) (rcQuads n) (rcGates n)).map Constraint.toGate).toArray
      ++ #[eqGate (c.wit.size + rcK n - 1) x],
    wit := c.wit ++ (((List.range (rcK n)).map (rangeAcc (c.val x) (rcK n))).map (· % R)).toArray,
    pis := c.pis }

theorem rangeGates_hasPi (base pad Q G : Nat) :
    ∀ s ∈ rangeGates base pad Q G, s.hasPi = false := by
  intro s hs
  simp only [rangeGates, List.mem_append, List.mem_map, List.mem_range, List.mem_singleton] at hs
  rcases hs with ⟨g, _, rfl⟩ | rfl <;> rfl

theorem rangeCheckEven_run_even (x n : Nat) (hn : n ≠ 0) (hk : 0 < rcK n) (c : Composer) :
    (rangeCheckEven x n).run c = ((), rangeEvenOut c x n) := by
  rw [rangeCheckEven_run_pos x n hn, appendWitnesses_run,
    appendCustomGates_run _ (rangeGates_hasPi _ _ _ _)]
  simp only [gt_iff_lt, hk, if_true]
  rfl

/-! ### the emitted rows -/

/-- the `g`-th selected range row -/
def rangeGateAt (base pad Q g : Nat) : Gate :=
  (Constraint.range
      { a := rangeSlot base pad Q (4*g+3), b := rangeSlot base pad Q (4*g+2),
        c := rangeSlot base pad Q (4*g+1), d := rangeSlot base pad Q (4*g) }).toGate

/-- the zeroed closing row -/
def closeGate (d : Nat) : Gate := ({ d := d } : Constraint).toGate

theorem rangeGates_length (base pad Q G : Nat) : (rangeGates base pad Q G).length = G + 1 := by
  simp [rangeGates]

theorem rangeGates_get_lt (base pad Q G g : Nat) (hg : g < G) :
    ((rangeGates base pad Q G).map Constraint.toGate)[g]? = some (rangeGateAt base pad Q g) := by
  simp [rangeGates, List.getElem?_append_left, hg, rangeGateAt]

theorem rangeGates_get_eq (base pad Q G : Nat) :
    ((rangeGates base pad Q G).map Constraint.toGate)[G]? = some (closeGate (rangeSlot base pad Q Q)) := by
  simp [rangeGates, closeGate]

theorem rangeEvenOut_gates_size (c : Composer) (x n : Nat) :
    (rangeEvenOut c x n).gates.size = c.gates.size + (rcGates n + 2) := by
  unfold rangeEvenOut
  simp only [Array.size_append, List.size_toArray, List.length_map, rangeGates_length]
  rfl

theorem rangeEvenOut_get_lt (c : Composer) (x n g : Nat) (hg : g < rcGates n) :
    (rangeEvenOut c x n).gates[c.gates.size + g]? =
      some (rangeGateAt c.wit.size (rcPad n) (rcQuads n) g) := by
  unfold rangeEvenOut
  simp only
  rw [Array.getElem?_append_left (by simp [rangeGates_length]; omega),
    Array.getElem?_append_right (by omega)]
  simp only [Nat.add_sub_cancel_left, List.getElem?_toArray]
  exact rangeGates_get_lt _ _ _ _ _ hg

theorem rangeEvenOut_get_close (c : Composer) (x n : Nat) :
    (rangeEvenOut c x n).gates[c.gates.size + rcGates n]? =
      some (closeGate (rangeSlot c.wit.size (rcPad n) (rcQuads n) (rcQuads n))) := by
  unfold rangeEvenOut
  simp only
  rw [Array.getElem?_append_left (by simp [rangeGates_length]),
    Array.getElem?_append_right (by omega)]
  simp only [Nat.add_sub_cancel_left, List.getElem?_toArray]
  exact rangeGates_get_eq ..

theorem rangeEvenOut_get_eq (c : Composer) (x n : Nat) :
    (rangeEvenOut c x n).gates[c.gates.size + rcGates n + 1]? =
      some (eqGate (c.wit.size + rcK n - 1) x) := by
  have hs : (c.gates ++ ((rangeGates c.wit.size (rcPad n) (rcQuads n) (rcGates n)).map
      Constraint.toGate).toArray).size = c.gates.size + rcGates n + 1 := by
    simp only [Array.size_append, List.size_toArray, List.length_map, rangeGates_length]; rfl
  unfold rangeEvenOut
  show (_ ++ #[_])[_]? = _
  rw [Array.getElem?_append_right (Nat.le_of_eq hs), hs, Nat.sub_self]; rfl

theorem rangeEvenOut_pis (c : Composer) (x n : Nat) : (rangeEvenOut c x n).pis = c.pis := by
  unfold rangeEvenOut; rfl

theorem rangeEvenOut_piAt (c : Composer) (x n i : Nat) :
    (rangeEvenOut c x n).piAt i = c.piAt i := piAt_congr (rangeEvenOut_pis c x n) i

theorem eqGate_plain (a b : Nat) : Gate.plain (eqGate a b) := ⟨rfl, rfl, rfl, rfl⟩

theorem rowHoldsW_eqGate {c : Composer} {w : Nat → Nat} {i a b : Nat}
    (h : c.gates[i]? = some (eqGate a b)) (hp : c.piAt i = 0) :
    c.rowHoldsW w i = true ↔ toF (w a) = toF (w b) :=
  (rowHoldsW_arithmetic_noPi h rfl hp).trans (arithRel_assertEqual a b w)

/-- the quad constraint between consecutive slots `i`, `i+1` -/
def rangeStep (base pad Q : Nat) (w : Nat → Nat) (i : Nat) : Prop :=
  deltaF (toF (w (rangeSlot base pad Q (i+1))) - 4 * toF (w (rangeSlot base pad Q i))) = 0

theorem rangeEvenOut_next (c : Composer) (x n g : Nat) (hg : g < rcGates n) :
    ∃ g', (rangeEvenOut c x n).gates[c.gates.size + g + 1]? = some g' ∧
      g'.d = rangeSlot c.wit.size (rcPad n) (rcQuads n) (4*g+3+1) := by
  by_cases h : g + 1 < rcGates n
  · refine ⟨rangeGateAt c.wit.size (rcPad n) (rcQuads n) (g+1), ?_, ?_⟩
    · rw [Nat.add_assoc]; exact rangeEvenOut_get_lt c x n (g+1) h
    · show rangeSlot _ _ _ _ = _
      congr 1
  · have e : g + 1 = rcGates n := Nat.le_antisymm hg (Nat.le_of_not_lt h)
    refine ⟨closeGate (rangeSlot c.wit.size (rcPad n) (rcQuads n) (rcQuads n)), ?_, ?_⟩
    · rw [Nat.add_assoc, e]; exact rangeEvenOut_get_close c x n
    · show rangeSlot _ _ _ _ = _
      congr 1; unfold rcQuads; rw [← e, Nat.add_mul, Nat.mul_comm]

theorem rangeEven_row_iff (c : Composer) (x n : Nat) (w : Nat → Nat) (hpi : PiFresh c)
    (g : Nat) (hg : g < rcGates n) :
    (rangeEvenOut c x n).rowHoldsW w (c.gates.size + g) = true ↔
      rangeStep c.wit.size (rcPad n) (rcQuads n) w (4*g) ∧
      rangeStep c.wit.size (rcPad n) (rcQuads n) w (4*g+1) ∧
      rangeStep c.wit.size (rcPad n) (rcQuads n) w (4*g+2) ∧
      rangeStep c.wit.size (rcPad n) (rcQuads n) w (4*g+3) := by
  obtain ⟨g', h2, hd⟩ := rangeEvenOut_next c x n g hg
  rw [rowHoldsW_of_get (rangeEvenOut_get_lt c x n g hg) h2
      (hpi.piAt_eq_zero (rangeEvenOut_pis c x n) (Nat.le_add_right _ _)),
    rowHolds_range _ rfl rfl rfl rfl rfl, hd]
  -- the wires `a … d` of `rangeGateAt` are the slots `4g+3 … 4g`, the order of `rowHolds_range`
  exact Iff.rfl

theorem rangeEvenOut_row_close (c : Composer) (x n : Nat) (w : Nat → Nat) (hpi : PiFresh c) :
    (rangeEvenOut c x n).rowHoldsW w (c.gates.size + rcGates n) = true := by
  rw [rowHoldsW_of_get_plain (rangeEvenOut_get_close c x n) ⟨rfl, rfl, rfl, rfl⟩
    (hpi.piAt_eq_zero (rangeEvenOut_pis c x n) (Nat.le_add_right _ _)),
    rowHolds_arith _ rfl rfl rfl rfl]
  unfold arithF closeGate
  simp [Constraint.toGate]

theorem rangeEvenOut_row_eq (c : Composer) (x n : Nat) (w : Nat → Nat) (hpi : PiFresh c) :
    (rangeEvenOut c x n).rowHoldsW w (c.gates.size + rcGates n + 1) = true ↔
      toF (w (c.wit.size + rcK n - 1)) = toF (w x) :=
  rowHoldsW_eqGate (rangeEvenOut_get_eq c x n)
    (hpi.piAt_eq_zero (rangeEvenOut_pis c x n) (Nat.le_add_right_of_le (Nat.le_add_right _ _)))

theorem forall_lt_four_mul {P : Nat → Prop} {Q G : Nat} (hQ : Q = G * 4) :
    (∀ i, i < Q → P i) ↔ ∀ g, g < G → P (4*g) ∧ P (4*g+1) ∧ P (4*g+2) ∧ P (4*g+3) := by
  subst hQ
  constructor
  · intro h g hg
    have key : ∀ r, r < 4 → 4 * g + r < G * 4 := fun r hr => by omega
    exact ⟨h _ (key 0 (by decide)), h _ (key 1 (by decide)), h _ (key 2 (by decide)),
      h _ (key 3 (by decide))⟩
  · intro h i hi
    obtain ⟨h0, h1, h2, h3⟩ := h (i / 4) (Nat.div_lt_of_lt_mul (by rwa [Nat.mul_comm]))
    rw [← Nat.div_add_mod i 4]
    have hr := Nat.mod_lt i (by decide : 0 < 4)
    generalize i % 4 = r at hr
    interval_cases r <;> assumption

theorem rangeEven_rows_iff (c : Composer) (x n : Nat) (w : Nat → Nat) (hpi : PiFresh c) :
    (rangeEvenOut c x n).rowsHoldW w c.gates.size (rangeEvenOut c x n).gates.size ↔
      (∀ i, i < rcQuads n → rangeStep c.wit.size (rcPad n) (rcQuads n) w i) ∧
      toF (w (c.wit.size + rcK n - 1)) = toF (w x) := by
  rw [rangeEvenOut_gates_size, forall_lt_four_mul (P := rangeStep c.wit.size (rcPad n) (rcQuads n) w)
    (rfl : rcQuads n = rcGates n * 4)]
  constructor
  · intro h
    exact ⟨fun g hg => (rangeEven_row_iff c x n w hpi g hg).mp
        (h _ (Nat.le_add_right _ _) (by omega)),
      (rangeEvenOut_row_eq c x n w hpi).mp (h _ (by omega) (by omega))⟩
  · rintro ⟨hs, he⟩ i hlo hhi
    obtain ⟨j, rfl⟩ := Nat.exists_eq_add_of_le hlo
    rcases Nat.lt_or_ge j (rcGates n) with h1 | h1
    · exact (rangeEven_row_iff c x n w hpi j h1).mpr (hs j h1)
    · rcases (by omega : j = rcGates n ∨ j = rcGates n + 1) with rfl | rfl
      · exact rangeEvenOut_row_close c x n w hpi
      · exact (rangeEvenOut_row_eq c x n w hpi).mpr he

/-! ### even widths: soundness and completeness for an arbitrary assignment -/

theorem rangeSlot_of_le {base p Q i : Nat} (h : i ≤ p) : rangeSlot base (p + 1) Q i = 0 := by
  unfold rangeSlot; exact if_neg fun h' => Nat.not_succ_le_self _ (Nat.le_trans h'.1 h)

theorem rangeSlot_succ {base p Q j : Nat} (h : p + j + 1 ≤ Q) :
    rangeSlot base (p + 1) Q (p + j + 1) = base + j := by
  unfold rangeSlot
  rw [if_pos ⟨by omega, h⟩]
  omega

/-- the quad constraints over `p` zero slots, the zero witness and `k+1` accumulators bound the
    last accumulator -/
theorem rangeSteps_sound {base p k : Nat} {w : Nat → Nat} (h0 : toF (w 0) = 0)
    (hs : ∀ i, i < p + k + 1 → rangeStep base (p + 1) (p + k + 1) w i) :
    ∃ m : ℕ, m < 4 ^ (k + 1) ∧ toF (w (base + k)) = (m : F) := by
  have h := chain_bound (fun j => toF (w (rangeSlot base (p + 1) (p + k + 1) (p + j)))) (k + 1)
    (by show toF (w (rangeSlot base (p + 1) (p + k + 1) p)) = 0
        rw [rangeSlot_of_le (Nat.le_refl p)]; exact h0)
    (fun j hj => hs (p + j) (Nat.add_lt_add_left hj p))
  rwa [show rangeSlot base (p + 1) (p + k + 1) (p + (k + 1)) = base + k from
    rangeSlot_succ (Nat.le_refl _)] at h

theorem rangeSteps_complete {base p k v : Nat} {w : Nat → Nat} (h0 : toF (w 0) = 0)
    (hacc : ∀ j, j < k → toF (w (base + j)) = toF (rangeAcc v k j)) (i : Nat) (hi : i < p + k) :
    rangeStep base (p + 1) (p + k) w i := by
  unfold rangeStep
  rcases Nat.lt_or_ge i p with h | h
  · rw [rangeSlot_of_le h, rangeSlot_of_le (Nat.le_of_lt h), h0, mul_zero, sub_zero]
    exact deltaF_zero
  · obtain ⟨j, rfl⟩ := Nat.exists_eq_add_of_le h
    have hj : j < k := Nat.lt_of_add_lt_add_left hi
    rw [rangeSlot_succ hi, hacc j hj]
    cases j with
    | zero =>
      rw [rangeSlot_of_le (i := p + 0) (Nat.le_refl p), h0, mul_zero, sub_zero]
      exact deltaF_of_lt (rangeAcc_zero_lt v k)
    | succ j =>
      obtain ⟨q, hq, hqe⟩ := rangeAcc_succ v k j hj
      rw [← Nat.add_assoc, rangeSlot_succ (Nat.le_of_lt hi), hacc j (Nat.lt_of_succ_lt hj), hqe]
      have : toF (4 * rangeAcc v k j + q) - 4 * toF (rangeAcc v k j) = toF q := by
        unfold toF; push_cast; ring
      rw [this]; exact deltaF_of_lt hq

/-! ### `range_check_even` as a specification -/

theorem extends_rangeEvenOut (c : Composer) (x n : Nat) : Extends c (rangeEvenOut c x n) :=
  extends_of_append _ _ (by unfold rangeEvenOut; exact Array.append_assoc ..)
    (by unfold rangeEvenOut; rfl) (rangeEvenOut_pis c x n)

theorem rangeEvenOut_wit_size (c : Composer) (x n : Nat) :
    (rangeEvenOut c x n).wit.size = c.wit.size + rcK n := by
  unfold rangeEvenOut
  simp only [Array.size_append, List.size_toArray, List.length_map, List.length_range]

theorem rangeEvenOut_val_new (c : Composer) (x n : Nat) {j : Nat} (hj : j < rcK n) :
    (rangeEvenOut c x n).val (c.wit.size + j) = rangeAcc (c.val x) (rcK n) j % R := by
  unfold rangeEvenOut
  rw [val_append_ge]
  simp [hj]

theorem rangeEvenOut_appendsL (c : Composer) (x n : Nat) :
    AppendsL c (rangeEvenOut c x n) (rcGates n + 2) (rcK n) :=
  ⟨extends_rangeEvenOut c x n, rangeEvenOut_gates_size c x n, rangeEvenOut_wit_size c x n,
    fun i _ hi => by
      obtain rfl : i = c.gates.size + rcGates n + 1 := by rw [rangeEvenOut_gates_size] at hi; omega
      rw [gateAt_of_get (rangeEvenOut_get_eq c x n)]
      exact eqGate_plain _ _⟩

/-- A nonzero even width, read off the explicit output state: the quad constraints over the zero
    slots, the zero witness and the `n / 2` accumulators bound the last accumulator, which the
    closing `assert_equal` identifies with `x`; the accumulators the model stores satisfy them. -/
theorem rangeCheckEven_spec_pos (x n : Nat) (hn : n % 2 = 0) (hz : n ≠ 0) (c : Composer) :
    Spec 0 (rangeCheckEven x n) c () (rcGates n + 2) (rcK n)
      (fun w => n ≤ 254 → toF (w 0) = 0 → (toF (w x)).val < 2 ^ n) (fun _ => True)
      (fun v => x < c.wit.size ∧ v 0 = 0 ∧ v x < 2 ^ n) := by
  obtain ⟨p, m, hnm, hp, hq, hk⟩ := rc_layout hn hz
  have hA := rangeEvenOut_appendsL c x n
  refine ⟨?_, ?_, ?_, ?_, ?_, ?_, ?_, ?_, ?_⟩ <;>
    rw [rangeCheckEven_run_even x n hz (by rw [hk]; exact Nat.succ_pos m)]
  · exact hA
  · exact fun h => piFresh_of_pis h (rangeEvenOut_pis c x n) hA.ext.gates_size
  · refine red_of_wit_append _ rfl fun j hj => ?_
    rw [List.getElem_toArray, List.getElem_map]
    exact Nat.mod_lt _ R_pos
  · intro hpi c'' hext w hr h254 h0
    obtain ⟨hs, he⟩ := (rangeEven_rows_iff c x n w hpi).mp ((hA.rows_ext hext w).mp hr)
    rw [hp, hq] at hs
    rw [hk, Nat.add_succ_sub_one] at he
    obtain ⟨v, hv, hm⟩ := rangeSteps_sound h0 hs
    have hR := two_pow_le_R h254
    rw [hnm, ← four_pow_eq] at hR ⊢
    exact val_toF_natCast_lt (he.symm.trans hm) hv hR
  · exact fun _ => trivial
  · rintro hpi c'' hext ⟨hx, h0, hv⟩
    have hxv := (hA.ext.trans hext).val_eq hx
    have hacc : ∀ j, j < m + 1 →
        toF (c''.val (c.wit.size + j)) = toF (rangeAcc (c.val x) (m + 1) j) := fun j hj => by
      rw [hext.val_eq (by rw [hA.wit, hk]; exact Nat.add_lt_add_left hj _), ← hk,
        rangeEvenOut_val_new c x n (hk ▸ hj), toF_mod]
    refine (hA.rows_ext hext _).mpr ((rangeEven_rows_iff c x n _ hpi).mpr ⟨?_, ?_⟩)
    · rw [hp, hq]
      exact rangeSteps_complete (p := p) (k := m + 1) (by rw [h0]; exact toF_zero) hacc
    · rw [hxv, hnm, ← four_pow_eq] at hv
      rw [hk, Nat.add_succ_sub_one, hacc m (Nat.lt_succ_self m), rangeAcc_last, hxv,
        Nat.mod_eq_of_lt hv]
  · exact fun h => absurd h (by decide)
  · exact fun h => absurd h (by decide)

/-! ### width 0 -/

/-- the gate of `range_check_even(x, 0)`: `x = 0` -/
def zeroGate (x : Nat) : Gate := (Constraint.arithmetic { ql := 1, a := x }).toGate

def rangeEvenOut0 (c : Composer) (x : Nat) : Composer :=
  { c with gates := c.gates.push (zeroGate x) }

theorem rangeCheckEven_run_0 (x : Nat) (c : Composer) :
    (rangeCheckEven x 0).run c = ((), rangeEvenOut0 c x) := rfl

theorem arithRel_zeroGate (x : Nat) (w : Nat → Nat) :
    Constraint.arithRel { ql := 1, a := x } w ↔ toF (w x) = 0 := by
  simp only [Constraint.arithRel, Constraint.piF, toF_zero, toF_one, Bool.false_eq_true, ↓reduceIte]
  exact Eq.congr_left (by ring)

theorem rowHoldsW_zeroGate {c : Composer} {w : Nat → Nat} {i x : Nat}
    (h : c.gates[i]? = some (zeroGate x)) (hp : c.piAt i = 0) :
    c.rowHoldsW w i = true ↔ toF (w x) = 0 :=
  (rowHoldsW_arithmetic_noPi h rfl hp).trans (arithRel_zeroGate x w)

/-- width 0 is the single row `x = 0` -/
theorem rangeCheckEven_spec_zero (x : Nat) (c : Composer) :
    Spec 2 (rangeCheckEven x 0) c () 1 0 (fun w => toF (w x) = 0) (fun _ => True)
      (fun v => toF (v x) = 0) :=
  .congr (rangeCheckEven_run_zero x c) <|
    (appendGate_spec _ c).mono_iff (Nat.le_refl 2) rfl rfl rfl (arithRel_zeroGate x)
      (fun _ _ h => h) (fun v _ _ _ => (arithRel_zeroGate x v).mpr)

theorem rangeEvenOut0_rows_iff (c : Composer) (x : Nat) (w : Nat → Nat) (hpi : PiFresh c) :
    (rangeEvenOut0 c x).rowsHoldW w c.gates.size (rangeEvenOut0 c x).gates.size ↔
      toF (w x) = 0 :=
  (rangeCheckEven_spec_zero x c).rows_iff_self (by decide) hpi w

/-! ### `range_check_even`, every even width -/

/-- number of gates appended by `range_check_even` -/
def evenGateCount (n : Nat) : Nat := if n = 0 then 1 else (n + 7) / 8 + 2

/-- `range_check_even x n` for even `n`. Soundness for `n ≤ 254` (so that `2^n ≤ R`), given the
    zero witness; completeness for every even `n`. -/
theorem rangeCheckEven_spec (x n : Nat) (hn : n % 2 = 0) (c : Composer) :
    Spec 0 (rangeCheckEven x n) c () (evenGateCount n) (n / 2)
      (fun w => n ≤ 254 → toF (w 0) = 0 → (toF (w x)).val < 2 ^ n) (fun _ => True)
      (fun v => x < c.wit.size ∧ v 0 = 0 ∧ v x < 2 ^ n) := by
  by_cases hz : n = 0
  · subst hz
    exact (rangeCheckEven_spec_zero x c).mono (Nat.zero_le 2) rfl rfl rfl
      (fun w h _ _ => by rw [h]; exact Nat.zero_lt_one) (fun h => absurd h (by decide))
      (fun _ _ h => h) (fun v _ _ _ h => by rw [Nat.lt_one_iff.mp h.2.2]; exact toF_zero)
  · exact (rangeCheckEven_spec_pos x n hn hz c).mono (Nat.le_refl 0) rfl
      (by unfold evenGateCount; rw [if_neg hz, rcGates_eq]) (rcK_eq hn) (fun _ h => h)
      (fun h => absurd h (by decide)) (fun _ _ h => h) (fun _ _ _ _ h => h)

theorem rangeCheckEven_piFresh (c : Composer) (x n : Nat) (hn : n % 2 = 0) (hpi : PiFresh c) :
    PiFresh ((rangeCheckEven x n).run c).2 :=
  (rangeCheckEven_spec x n hn c).piFresh hpi

theorem rangeCheckEven_val_old (c : Composer) (x n : Nat) (hn : n % 2 = 0) {i : Nat}
    (hi : i < c.wit.size) : ((rangeCheckEven x n).run c).2.val i = c.val i :=
  (rangeCheckEven_spec x n hn c).ext.val_eq hi

theorem rangeCheckEven_pis (c : Composer) (x n : Nat) (hn : n % 2 = 0) :
    ((rangeCheckEven x n).run c).2.pis = c.pis := by
  by_cases hz : n = 0
  · subst hz; rfl
  · rw [rangeCheckEven_run_even x n hz (by rw [rcK_eq hn]; omega)]
    exact rangeEvenOut_pis c x n

/-! ### `range_check`: all widths -/

def rangeGateCount (bits : Nat) : Nat :=
  if bits % 2 = 0 then evenGateCount bits else evenGateCount (bits - 1) + 3

def rangeWitCount (bits : Nat) : Nat :=
  if bits % 2 = 0 then bits / 2 else (bits - 1) / 2 + 3

theorem rangeGateCount_pos (n : Nat) : 0 < rangeGateCount n := by
  unfold rangeGateCount evenGateCount; split <;> split <;> omega

theorem rangeCheck_even_eq (x n : Nat) (hn : n % 2 = 0) : rangeCheck x n = rangeCheckEven x n := by
  have hn' : (n % 2 == 0) = true := by simp [hn]
  unfold rangeCheck
  simp only [hn', if_true]

theorem pred_even {n : Nat} (hn : n % 2 = 1) : (n - 1) % 2 = 0 :=
  Nat.even_iff.mp (Nat.Odd.sub_odd (Nat.odd_iff.mpr hn) odd_one)

theorem val_add_bit_lt {a b : F} {k : Nat} (ha : a.val < 2 ^ k) (hb : b * b = b)
    (hk : 2 ^ (k + 1) ≤ R) : (a + 2 ^ k * b).val < 2 ^ (k + 1) := by
  have hm : a = ((a.val : ℕ) : F) := (ZMod.natCast_zmod_val a).symm
  rw [pow_succ] at hk ⊢
  rcases bool_cases hb with rfl | rfl
  · rw [mul_zero, add_zero]
    exact Nat.lt_of_lt_of_le ha (Nat.le_mul_of_pos_right _ (by decide))
  · exact val_toF_natCast_lt (n := a.val + 2 ^ k) (by push_cast; rw [← hm]; ring)
      ((Nat.add_lt_add_right ha _).trans_eq (Nat.mul_two _).symm) hk

theorem lowVal_lt (v top : Nat) : recomposeBits v 0 top % R < 2 ^ top := by
  unfold recomposeBits
  simp only [pow_zero, Nat.div_one]
  calc v % 2 ^ top % R % R ≤ v % 2 ^ top % R := Nat.mod_le _ _
    _ ≤ v % 2 ^ top := Nat.mod_le _ _
    _ < 2 ^ top := Nat.mod_lt _ (by positivity)

theorem toF_lowVal (v top : Nat) : toF (recomposeBits v 0 top % R) = toF (v % 2 ^ top) := by
  unfold recomposeBits; simp

theorem toF_split (v top : Nat) (hv : v < 2 ^ (top + 1)) :
    toF (v % 2 ^ top) + 2 ^ top * toF (bit v top) = toF v := by
  have h1 : v / 2 ^ top < 2 := Nat.div_lt_of_lt_mul (by rwa [pow_succ] at hv)
  have h2 : bit v top = v / 2 ^ top := by unfold bit; exact Nat.mod_eq_of_lt h1
  have h3 : v % 2 ^ top + 2 ^ top * (v / 2 ^ top) = v := Nat.mod_add_div _ _
  rw [h2]
  conv_rhs => rw [← h3]
  unfold toF; push_cast; ring

theorem bit_bool (v i : Nat) : toF (bit v i) * toF (bit v i) = toF (bit v i) := by
  have : bit v i < 2 := by unfold bit; exact Nat.mod_lt _ (by norm_num)
  interval_cases (bit v i) <;> simp

/-- `range_check x n`. Soundness for `n ≤ 254` (so that `2^n ≤ R`), given the zero witness;
    completeness for every `n`. An odd width `n = top + 1` allocates `lower = x mod 2^top`,
    range-checks it to `top` bits, allocates the top bit, constrains it boolean and asserts
    `lower + 2^top · bit = x`. -/
theorem rangeCheck_spec (x n : Nat) (c : Composer) :
    Spec 0 (rangeCheck x n) c () (rangeGateCount n) (rangeWitCount n)
      (fun w => n ≤ 254 → toF (w 0) = 0 → (toF (w x)).val < 2 ^ n) (fun _ => True)
      (fun v => x < c.wit.size ∧ v 0 = 0 ∧ v x < 2 ^ n) := by
  rcases Nat.mod_two_eq_zero_or_one n with hn | hn
  · rw [rangeCheck_even_eq x n hn]
    exact (rangeCheckEven_spec x n hn c).mono (Nat.le_refl 0) rfl
      (by unfold rangeGateCount; rw [if_pos hn]) (by unfold rangeWitCount; rw [if_pos hn])
      (fun _ h => h) (fun h => absurd h (by decide)) (fun _ _ h => h) (fun _ _ _ _ h => h)
  · have hn' : (n % 2 == 0) = false := by simp [hn]
    obtain ⟨top, rfl⟩ : ∃ top, n = top + 1 :=
      ⟨n - 1, (Nat.sub_add_cancel (Nat.odd_iff.mpr hn).pos).symm⟩
    have hte : top % 2 = 0 := by omega
    unfold rangeCheck
    simp only [hn', Bool.false_eq_true, if_false, Nat.add_sub_cancel]
    apply Spec.bind_read (getVal_run x c)
    apply Spec.mono
    · apply (appendWitness_spec _ _).bind
      apply (rangeCheckEven_spec _ _ hte _).bind
      apply (appendWitness_spec _ _).bind
      apply (componentBoolean_spec _ _).bind
      apply (gateLin_spec _ _ _ _ _).bind
      exact assertEqual_spec _ _ _
    · exact Nat.zero_le _
    · rfl
    · unfold rangeGateCount; rw [if_neg (Nat.mod_two_ne_zero.mpr hn), Nat.add_sub_cancel]; omega
    · unfold rangeWitCount; rw [if_neg (Nat.mod_two_ne_zero.mpr hn), Nat.add_sub_cancel]; omega
    · rintro w ⟨-, hlow, -, hb, hsum, heq⟩ h254 h0
      rw [← heq, hsum, toF_one, one_mul, toF_pow2]
      exact val_add_bit_lt (hlow (Nat.le_of_succ_le h254) h0) hb (two_pow_le_R h254)
    · exact fun h => absurd h (by decide)
    · intros; trivial
    · rintro v hag - ⟨hl, -, ht, -⟩ ⟨hx, h0, hv⟩
      rw [hag x hx] at hv
      simp only [(componentBoolean_spec _ _).wit, (appendWitness_spec _ _).wit,
        (rangeCheckEven_spec _ _ hte _).wit, Nat.add_zero] at ht ⊢
      refine ⟨trivial, fun _ => ⟨⟨Nat.lt_succ_self _, h0, by rw [hl]; exact lowVal_lt _ _⟩,
        fun _ => ⟨trivial, fun _ => ⟨by rw [ht, toF_mod]; exact bit_bool _ _, fun _ =>
          ⟨⟨by omega, by omega⟩, fun hsum => ?_⟩⟩⟩⟩⟩
      -- the sum the model stores is what the row of `gate_add` says of it
      rw [hsum, toF_one, one_mul, toF_pow2, hl, ht, toF_lowVal, toF_mod, toF_split _ _ hv, hag x hx]

theorem rangeCheck_extends (c : Composer) (x n : Nat) : Extends c ((rangeCheck x n).run c).2 :=
  (rangeCheck_spec x n c).ext

theorem rangeCheck_gates_size (c : Composer) (x n : Nat) :
    ((rangeCheck x n).run c).2.gates.size = c.gates.size + rangeGateCount n :=
  (rangeCheck_spec x n c).gates

theorem rangeCheck_wit_size (c : Composer) (x n : Nat) :
    ((rangeCheck x n).run c).2.wit.size = c.wit.size + rangeWitCount n :=
  (rangeCheck_spec x n c).wit

theorem rangeCheck_wf (c : Composer) (x n : Nat) (h : WF c) : WF ((rangeCheck x n).run c).2 :=
  (rangeCheck_spec x n c).wf h

theorem rangeCheck_last_plain (c : Composer) (x n : Nat) :
    ∀ i, i + 1 = ((rangeCheck x n).run c).2.gates.size →
      Gate.plain (((rangeCheck x n).run c).2.gateAt i) := fun i hi =>
  (rangeCheck_spec x n c).appendsL.last_plain i
    (by have := rangeGateCount_pos n; rw [rangeCheck_gates_size] at hi; omega) hi

/-- soundness read in any later state `c''` -/
theorem rangeCheck_sound_ext (c : Composer) (x n : Nat) (h254 : n ≤ 254) (hpi : PiFresh c)
    (c'' : Composer) (hext : Extends ((rangeCheck x n).run c).2 c'')
    (w : Nat → Nat) (h0 : toF (w 0) = 0)
    (h : c''.rowsHoldW w c.gates.size ((rangeCheck x n).run c).2.gates.size) :
    (toF (w x)).val < 2 ^ n :=
  (rangeCheck_spec x n c).sound hpi hext w h h254 h0

/-- completeness read in any later state `c''`: the model's own witness table satisfies the
    appended rows whenever the value is below `2^n` — no bound on `n` is needed. -/
theorem rangeCheck_complete_ext (c : Composer) (x n : Nat) (hpi : PiFresh c)
    (hx : x < c.wit.size) (hz : c.val 0 = 0) (hv : c.val x < 2 ^ n) (c'' : Composer)
    (hext : Extends ((rangeCheck x n).run c).2 c'') :
    c''.rowsHoldW c''.val c.gates.size ((rangeCheck x n).run c).2.gates.size := by
  have S := rangeCheck_spec x n c
  have e := S.ext.trans hext
  exact S.complete hpi hext
    ⟨hx, by rw [e.val_eq (Nat.zero_lt_of_lt hx)]; exact hz, by rw [e.val_eq hx]; exact hv⟩

/-! ### the layout does not depend on witness values -/

/-- two composer states with the same circuit layout (possibly different witness values).  Unlike
    `SameShape` (Shape.lean: rows of the public inputs only) the public-input values agree too:
    `rowsHoldW` reads them. -/
structure SameLayout (c1 c2 : Composer) : Prop where
  gates : c1.gates = c2.gates
  wsize : c1.wit.size = c2.wit.size
  pis : c1.pis = c2.pis

theorem SameLayout.rowsHoldW_iff {c1 c2 : Composer} (h : SameLayout c1 c2) (w : Nat → Nat)
    (lo hi : Nat) : c1.rowsHoldW w lo hi ↔ c2.rowsHoldW w lo hi :=
  rowsHoldW_congr fun i _ _ => by
    unfold rowHoldsW rowValsW gateAt piAt
    rw [h.gates, h.pis]

/-- Two runs whose first steps agree on the layout and on the result (the programs may differ in
    the values they store). -/
private theorem SameLayout.bind {α β : Type} {m₁ m₂ : CM α} {f₁ f₂ : α → CM β}
    {c₁ c₂ : Composer} {a : α} (h₁ : (m₁.run c₁).1 = a) (h₂ : (m₂.run c₂).1 = a)
    (hm : SameLayout (m₁.run c₁).2 (m₂.run c₂).2)
    (hf : ∀ d₁ d₂, SameLayout d₁ d₂ → SameLayout ((f₁ a).run d₁).2 ((f₂ a).run d₂).2) :
    SameLayout ((m₁ >>= f₁).run c₁).2 ((m₂ >>= f₂).run c₂).2 := by
  rw [run_bind_of_fst h₁, run_bind_of_fst h₂]; exact hf _ _ hm

private theorem appendWitness_layout {c1 c2 : Composer} (h : SameLayout c1 c2) (v1 v2 : Nat) :
    SameLayout ((appendWitness v1).run c1).2 ((appendWitness v2).run c2).2 :=
  ⟨h.gates, by simp [h.wsize], h.pis⟩

private theorem appendGate_layout {c1 c2 : Composer} (h : SameLayout c1 c2) (s : Constraint) :
    SameLayout ((appendGate s).run c1).2 ((appendGate s).run c2).2 :=
  ⟨by simp [h.gates], h.wsize, by simp [h.pis, h.gates]⟩

private theorem gateAdd_layout {c1 c2 : Composer} (h : SameLayout c1 c2) (s : Constraint) :
    SameLayout ((gateAdd s).run c1).2 ((gateAdd s).run c2).2 := by
  rw [gateAdd_snd, gateAdd_snd]
  obtain ⟨cv1, -, hr1⟩ := appendEvaluatedOutput_some (gateAddC s) c1 (toF_gateAddC_qo s)
  obtain ⟨cv2, -, hr2⟩ := appendEvaluatedOutput_some (gateAddC s) c2 (toF_gateAddC_qo s)
  rw [hr1, hr2, h.wsize]
  exact appendGate_layout (appendWitness_layout h cv1 cv2) _

theorem rangeCheckEven_layout {c1 c2 : Composer} (h : SameLayout c1 c2) (x n : Nat)
    (hn : n % 2 = 0) :
    SameLayout ((rangeCheckEven x n).run c1).2 ((rangeCheckEven x n).run c2).2 := by
  by_cases hz : n = 0
  · subst hz
    rw [rangeCheckEven_run_zero, rangeCheckEven_run_zero]
    exact appendGate_layout h _
  · have hk : 0 < rcK n := by rw [rcK_eq hn]; omega
    rw [rangeCheckEven_run_even x n hz hk, rangeCheckEven_run_even x n hz hk]
    exact ⟨by unfold rangeEvenOut; simp only [h.gates, h.wsize],
      by rw [rangeEvenOut_wit_size, rangeEvenOut_wit_size, h.wsize],
      by rw [rangeEvenOut_pis, rangeEvenOut_pis, h.pis]⟩

theorem rangeCheck_layout {c1 c2 : Composer} (h : SameLayout c1 c2) (x n : Nat) :
    SameLayout ((rangeCheck x n).run c1).2 ((rangeCheck x n).run c2).2 := by
  rcases Nat.mod_two_eq_zero_or_one n with hn | hn
  · rw [rangeCheck_even_eq x n hn]
    exact rangeCheckEven_layout h x n hn
  · have hn' : (n % 2 == 0) = false := by simp [hn]
    unfold rangeCheck
    simp only [hn', Bool.false_eq_true, if_false]
    rw [run_bind_of_fst (m := getVal x) (c := c1) (a := c1.val x) rfl,
      run_bind_of_fst (m := getVal x) (c := c2) (a := c2.val x) rfl]
    refine .bind rfl h.wsize.symm (appendWitness_layout h _ _) fun c₁ c₂ h => ?_
    refine .bind rfl rfl (rangeCheckEven_layout h _ _ (pred_even hn)) fun c₁ c₂ h => ?_
    refine .bind rfl h.wsize.symm (appendWitness_layout h _ _) fun c₁ c₂ h => ?_
    refine .bind rfl rfl (appendGate_layout h _) fun c₁ c₂ h => ?_
    refine .bind (gateAdd_fst _ _) (by rw [gateAdd_fst, h.wsize]) (gateAdd_layout h _)
      fun c₁ c₂ h => ?_
    exact appendGate_layout h _

private theorem gateAdd_pis (s : Constraint) (c : Composer) (h : s.hasPi = false) :
    ((gateAdd s).run c).2.pis = c.pis := by
  rw [gateAdd_snd]
  obtain ⟨cv, -, hr⟩ := appendEvaluatedOutput_some (gateAddC s) c (toF_gateAddC_qo s)
  rw [hr]
  have : (Constraint.arithmetic { gateAddC s with c := c.wit.size }).hasPi = false := by
    unfold gateAddC Constraint.arithmetic Constraint.fromExternal; exact h
  simp only [appendGate_run, appendCustomGate_run, appendWitness_run, this]
  rfl

private theorem pis_bind {α β : Type} {m : CM α} {f : α → CM β} {c : Composer}
    (h₁ : (m.run c).2.pis = c.pis) (h₂ : ∀ a d, ((f a).run d).2.pis = d.pis) :
    ((m >>= f).run c).2.pis = c.pis := (h₂ _ _).trans h₁

/-- no public input is added (none of the constraints carries one) -/
theorem rangeCheck_pis (c : Composer) (x n : Nat) : ((rangeCheck x n).run c).2.pis = c.pis := by
  rcases Nat.mod_two_eq_zero_or_one n with hn | hn
  · rw [rangeCheck_even_eq x n hn]; exact rangeCheckEven_pis c x n hn
  · have hn' : (n % 2 == 0) = false := by simp [hn]
    unfold rangeCheck
    simp only [hn', Bool.false_eq_true, if_false]
    refine pis_bind rfl fun _ c => ?_
    refine pis_bind rfl fun _ c => ?_
    refine pis_bind (rangeCheckEven_pis _ _ _ (pred_even hn)) fun _ c => ?_
    refine pis_bind rfl fun _ c => ?_
    refine pis_bind rfl fun _ c => ?_
    exact pis_bind (gateAdd_pis _ _ rfl) fun _ _ => rfl

/-- `c` with the value of witness `x` replaced by `v` (and the zero witness set to 0) -/
def withValue (c : Composer) (x v : Nat) : Composer :=
  { c with wit := (c.wit.setIfInBounds 0 0).setIfInBounds x v }

theorem withValue_layout (c : Composer) (x v : Nat) : SameLayout c (withValue c x v) := by
  unfold withValue
  exact ⟨rfl, by rw [Array.size_setIfInBounds, Array.size_setIfInBounds], rfl⟩

theorem withValue_val_self (c : Composer) (x v : Nat) (hx : x < c.wit.size) :
    (withValue c x v).val x = v := by
  simp [withValue, val, hx]

theorem withValue_val_zero (c : Composer) (x v : Nat) (hx0 : x = 0 → v = 0) :
    (withValue c x v).val 0 = 0 := by
  by_cases h : x = 0
  · subst h
    by_cases h2 : 0 < c.wit.size
    · rw [withValue_val_self c 0 v h2, hx0 rfl]
    · simp [withValue, val, h2]
  · simp only [withValue, val, Array.getD_eq_getD_getElem?, Array.getElem?_setIfInBounds]
    rw [if_neg h]
    rw [if_pos trivial]
    split <;> rfl

/-- existence of a satisfying assignment for any value below `2^n` (any width `n`): the table the
    model computes from a state in which `x` holds `v`; the layout is that of the run from `c` -/
theorem range_exists_core (c : Composer) (x n v : Nat) (hpi : PiFresh c)
    (hx : x < c.wit.size) (hx0 : x = 0 → v = 0) (hv : v < 2 ^ n) :
    ∃ w : Nat → Nat, w x = v ∧ w 0 = 0 ∧
      ((rangeCheck x n).run c).2.rowsHoldW w c.gates.size
        ((rangeCheck x n).run c).2.gates.size := by
  have hl := withValue_layout c x v
  have hl' := rangeCheck_layout hl x n
  have S := rangeCheck_spec x n (withValue c x v)
  have hxs : x < (withValue c x v).wit.size := hl.wsize ▸ hx
  have hvx := (S.ext.val_eq hxs).trans (withValue_val_self c x v hx)
  have hv0 := (S.ext.val_eq (Nat.zero_lt_of_lt hxs)).trans (withValue_val_zero c x v hx0)
  refine ⟨_, hvx, hv0, ?_⟩
  rw [hl'.rowsHoldW_iff, hl'.gates]
  exact S.complete_self (c'' := ((rangeCheck x n).run (withValue c x v)).2) hpi (Extends.refl _)
    ⟨hxs, hv0, by rw [hvx]; exact hv⟩

/-- exact characterisation, for a fixed layout and an arbitrary input value -/
theorem range_exact_core (c : Composer) (x n v : Nat) (h254 : n ≤ 254) (hpi : PiFresh c)
    (hx : x < c.wit.size) (hx0 : x = 0 → v = 0) (hvR : v < R) :
    (∃ w : Nat → Nat, w x = v ∧ w 0 = 0 ∧
        ((rangeCheck x n).run c).2.rowsHoldW w c.gates.size ((rangeCheck x n).run c).2.gates.size)
      ↔ v < 2 ^ n := by
  constructor
  · rintro ⟨w, hwx, hw0, hrows⟩
    have := (rangeCheck_spec x n c).sound hpi (Extends.refl _) w hrows h254
      (by rw [hw0]; exact toF_zero)
    rwa [hwx, val_toF_of_lt hvR] at this
  · exact range_exists_core c x n v hpi hx hx0

/-! ### the two entry points -/

theorem componentRange_eq_bits (p x : Nat) (hp : p ≤ 128) :
    componentRange p x = componentRangeBits (2 * p) x := by
  unfold componentRange componentRangeBits
  rw [rangeCheck_even_eq x (2 * p) (Nat.mul_mod_right 2 p), Nat.mul_comm p 2,
    Nat.min_eq_left (by show 2 * p ≤ 256; omega)]

theorem componentRange_eq_clamp (p x : Nat) (hp : 128 < p) :
    componentRange p x = componentRangeBits 256 x := by
  unfold componentRange componentRangeBits
  rw [rangeCheck_even_eq x 256 (by decide), Nat.min_eq_right (by show 256 ≤ p * 2; omega)]
  rfl

end Composer
end Plonk
