/-
  C05 (permutation half), part 3: `σ` (`sigmaFn`, the function tabulated by the model's
  `sigmaMaps`) is a permutation of the wire positions whose cycles are exactly the classes
  "positions wired to the same allocated witness".
-/
import Mathlib.Logic.Function.Iterate
import Plonk.Proofs.PermutationSigma

namespace Plonk
namespace Perm

/-! ### the successor in a duplicate-free cyclic list -/

theorem succ_mod_inj {a b n : Nat} (ha : a < n) (hb : b < n) (h : (a + 1) % n = (b + 1) % n) : a = b := by
  rcases Nat.lt_or_ge (a + 1) n with h1 | h1 <;> rcases Nat.lt_or_ge (b + 1) n with h2 | h2
  · rw [Nat.mod_eq_of_lt h1, Nat.mod_eq_of_lt h2] at h; omega
  · have e : b + 1 = n := by omega
    rw [e, Nat.mod_self, Nat.mod_eq_of_lt h1] at h; omega
  · have e : a + 1 = n := by omega
    rw [e, Nat.mod_self, Nat.mod_eq_of_lt h2] at h; omega
  · omega

theorem nextIn_getElem? {l : List Pos} (hnd : l.Nodup) {j : Nat} {p : Pos} (h : l[j]? = some p) :
    l[(j + 1) % l.length]? = some (nextIn l p) := by
  obtain ⟨hj, rfl⟩ := List.getElem?_eq_some_iff.mp h
  have hlt : (j + 1) % l.length < l.length := Nat.mod_lt _ (by omega)
  unfold nextIn
  rw [hnd.idxOf_getElem j hj, List.getD_eq_getElem?_getD, List.getElem?_eq_getElem hlt]
  rfl

theorem nextIn_iterate {l : List Pos} (hnd : l.Nodup) {j : Nat} {p : Pos} (h : l[j]? = some p) (t : Nat) :
    l[(j + t) % l.length]? = some ((nextIn l)^[t] p) := by
  induction t with
  | zero =>
    obtain ⟨hj, _⟩ := List.getElem?_eq_some_iff.mp h
    simpa [Nat.mod_eq_of_lt hj] using h
  | succ t ih =>
    have := nextIn_getElem? hnd ih
    rw [Nat.mod_add_mod] at this
    rw [Function.iterate_succ_apply', ← this, Nat.add_assoc]

/-! ### active positions -/

/-- a position of the gate table wired to an allocated witness -/
def Active (c : Composer) (p : Pos) : Prop := (p.1 < 4 ∧ p.2 < c.gates.size) ∧ wireAt c p < c.wit.size

instance (c : Composer) (p : Pos) : Decidable (Active c p) := by unfold Active; infer_instance

theorem sigmaFn_of_active {c : Composer} {p : Pos} (h : Active c p) :
    sigmaFn c p = nextIn (classOf c (wireAt c p)) p := by
  unfold sigmaFn; exact if_pos h

theorem sigmaFn_of_not_active {c : Composer} {p : Pos} (h : ¬ Active c p) : sigmaFn c p = p := by
  unfold sigmaFn; exact if_neg h

theorem Active.mem_class {c : Composer} {p : Pos} (h : Active c p) : p ∈ classOf c (wireAt c p) :=
  (mem_classOf c _ p).mpr ⟨h.1, rfl⟩

theorem active_of_mem_class {c : Composer} {p q : Pos} (h : Active c p) (hq : q ∈ classOf c (wireAt c p)) :
    Active c q ∧ wireAt c q = wireAt c p := by
  rw [mem_classOf] at hq
  exact ⟨⟨hq.1, hq.2 ▸ h.2⟩, hq.2⟩

theorem Active.getElem?_idxOf {c : Composer} {p : Pos} (h : Active c p) :
    (classOf c (wireAt c p))[(classOf c (wireAt c p)).idxOf p]? = some p :=
  List.getElem?_idxOf h.mem_class

/-- σ of an active position lies in the same class -/
theorem sigmaFn_mem_class {c : Composer} {p : Pos} (h : Active c p) :
    sigmaFn c p ∈ classOf c (wireAt c p) := by
  rw [sigmaFn_of_active h]
  exact List.mem_of_getElem? (nextIn_getElem? (classOf_nodup c _) h.getElem?_idxOf)

theorem sigmaFn_active {c : Composer} {p : Pos} (h : Active c p) : Active c (sigmaFn c p) :=
  (active_of_mem_class h (sigmaFn_mem_class h)).1

/-- `σ p` is wired to the same witness as `p` -/
theorem wireAt_sigmaFn (c : Composer) (p : Pos) : wireAt c (sigmaFn c p) = wireAt c p := by
  by_cases h : Active c p
  · exact (active_of_mem_class h (sigmaFn_mem_class h)).2
  · rw [sigmaFn_of_not_active h]

/-- `σ` maps the position set `{0..3} × {0..n-1}` into itself (`n ≥` number of gates) -/
theorem sigmaFn_mem_pos (c : Composer) (n : Nat) (hn : c.gates.size ≤ n) (p : Pos)
    (h1 : p.1 < 4) (h2 : p.2 < n) : (sigmaFn c p).1 < 4 ∧ (sigmaFn c p).2 < n := by
  by_cases h : Active c p
  · have := (sigmaFn_active h).1
    exact ⟨this.1, Nat.lt_of_lt_of_le this.2 hn⟩
  · rw [sigmaFn_of_not_active h]; exact ⟨h1, h2⟩

/-- positions of padded rows (and positions wired to unallocated witnesses) are fixed points -/
theorem sigmaFn_fixed_of_row_ge (c : Composer) (p : Pos) (h : c.gates.size ≤ p.2) : sigmaFn c p = p :=
  sigmaFn_of_not_active (fun ha => by have := ha.1.2; omega)

/-- the orbit of an active position, indexed along its class -/
theorem sigmaFn_iterate {c : Composer} {p : Pos} (h : Active c p) (t : Nat) :
    (classOf c (wireAt c p))[((classOf c (wireAt c p)).idxOf p + t) % (classOf c (wireAt c p)).length]? =
      some ((sigmaFn c)^[t] p) := by
  induction t with
  | zero =>
    have hj := List.idxOf_lt_length_iff.mpr h.mem_class
    simpa [Nat.mod_eq_of_lt hj] using h.getElem?_idxOf
  | succ t ih =>
    have hq := active_of_mem_class h (List.mem_of_getElem? ih)
    have := nextIn_getElem? (classOf_nodup c _) ih
    rw [Nat.mod_add_mod] at this
    rw [Function.iterate_succ_apply', sigmaFn_of_active hq.1, hq.2, ← this, Nat.add_assoc]

/-- iterating `σ` from `p` reaches every position of `p`'s class -/
theorem sigmaFn_reaches {c : Composer} {p q : Pos} (h : Active c p) (hq : q ∈ classOf c (wireAt c p)) :
    ∃ t, (sigmaFn c)^[t] p = q := by
  have hj := List.idxOf_lt_length_iff.mpr h.mem_class
  have hj' := List.idxOf_lt_length_iff.mpr hq
  have hget := List.getElem?_idxOf hq
  have hit := fun t => sigmaFn_iterate h t
  -- along the class `L`, `idx q + (len − idx p)` steps lead from `p` to `q`
  generalize classOf c (wireAt c p) = L at hj hj' hget hit
  have := hit (L.idxOf q + (L.length - L.idxOf p))
  have e : L.idxOf p + (L.idxOf q + (L.length - L.idxOf p)) = L.idxOf q + L.length := by omega
  rw [e, Nat.add_mod_right, Nat.mod_eq_of_lt hj', hget] at this
  exact ⟨_, (Option.some.inj this).symm⟩

/-- conversely every iterate stays in the class: the cycle of `p` is exactly its class -/
theorem sigmaFn_iterate_mem {c : Composer} {p : Pos} (h : Active c p) (t : Nat) :
    (sigmaFn c)^[t] p ∈ classOf c (wireAt c p) :=
  List.mem_of_getElem? (sigmaFn_iterate h t)

/-- `σ` is injective -/
theorem sigmaFn_injective (c : Composer) : Function.Injective (sigmaFn c) := by
  intro p q hpq
  by_cases hp : Active c p
  · by_cases hq : Active c q
    · have hw : wireAt c p = wireAt c q := by
        rw [← wireAt_sigmaFn c p, ← wireAt_sigmaFn c q, hpq]
      have h1 := sigmaFn_iterate hp 1
      have h2 := sigmaFn_iterate hq 1
      simp only [Function.iterate_one] at h1 h2
      rw [← hw, ← hpq, ← h1] at h2
      have hjp := List.idxOf_lt_length_iff.mpr hp.mem_class
      have hjq : (classOf c (wireAt c p)).idxOf q < (classOf c (wireAt c p)).length :=
        List.idxOf_lt_length_iff.mpr (hw ▸ hq.mem_class)
      have hpos : 0 < (classOf c (wireAt c p)).length := by omega
      have hidx := (List.getElem?_inj (Nat.mod_lt _ hpos) (classOf_nodup c _)).mp h2
      have hmod := succ_mod_inj hjq hjp hidx
      exact ((List.idxOf_inj hp.mem_class).mp hmod.symm)
    · rw [sigmaFn_of_not_active hq] at hpq
      exact absurd (hpq ▸ sigmaFn_active hp) hq
  · by_cases hq : Active c q
    · rw [sigmaFn_of_not_active hp] at hpq
      exact absurd (hpq ▸ sigmaFn_active hq) hp
    · rwa [sigmaFn_of_not_active hp, sigmaFn_of_not_active hq] at hpq

/-- `σ` is surjective -/
theorem sigmaFn_surjective (c : Composer) : Function.Surjective (sigmaFn c) := by
  intro q
  by_cases hq : Active c q
  · have hj := List.idxOf_lt_length_iff.mpr hq.mem_class
    have h := sigmaFn_iterate hq (classOf c (wireAt c q)).length
    rw [Nat.add_mod_right, Nat.mod_eq_of_lt hj, hq.getElem?_idxOf] at h
    have hlen : (classOf c (wireAt c q)).length =
        ((classOf c (wireAt c q)).length - 1) + 1 := by omega
    rw [hlen, Function.iterate_succ_apply'] at h
    exact ⟨_, (Option.some.inj h).symm⟩
  · exact ⟨q, sigmaFn_of_not_active hq⟩

theorem sigmaFn_bijective (c : Composer) : Function.Bijective (sigmaFn c) :=
  ⟨sigmaFn_injective c, sigmaFn_surjective c⟩

/-- the preimage of a position of the position set is in the position set -/
theorem sigmaFn_preimage_mem_pos (c : Composer) (n : Nat) (hn : c.gates.size ≤ n) (p : Pos)
    (h1 : (sigmaFn c p).1 < 4) (h2 : (sigmaFn c p).2 < n) : p.1 < 4 ∧ p.2 < n := by
  by_cases h : Active c p
  · exact ⟨h.1.1, Nat.lt_of_lt_of_le h.1.2 hn⟩
  · rw [sigmaFn_of_not_active h] at h1 h2; exact ⟨h1, h2⟩

end Perm
end Plonk
