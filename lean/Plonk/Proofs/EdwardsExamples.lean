/-
  Non-vacuity witnesses for the hypotheses used in `Edwards.lean`, `EdwardsRows.lean`,
  `FixedBaseRows.lean`: a concrete prime-order curve point (`v = 18`), and concrete satisfied /
  violated rows.  The violated rows, the satisfied fixed-base row and the pole are evaluated by
  the kernel on the model's own functions; the others instantiate the general lemmas at `exG`.
-/
import Plonk.Proofs.EdwardsRows
import Plonk.Proofs.FixedBaseRows

namespace Plonk

/-- a concrete JubJub point with `v = 18` (prime order `r_J`) -/
def exG : Pt := (0x341b2606e5f117a1413de7daf9cb0b1f257ee8e102920711b20847ff13841537, 18)

theorem exG_on_curve : onCurve exG = true := by decide +kernel

theorem exG_lt : exG.1 < R ∧ exG.2 < R := by decide +kernel

/-- the curve hypothesis of every lemma is satisfiable on a non-identity point -/
example : OnCurveP (toFP exG) := (onCurve_iff_P exG).mp exG_on_curve

/-- off-curve points exist (so `onCurve` hypotheses are not trivially true) -/
example : onCurve (1, 1) = false := by decide +kernel

/-- doubling `exG`: no identity fallback, result on the curve, and not the identity -/
example : edAdd? exG exG = some (edAddOrId exG exG) := edAdd?_on_curve _ _ exG_on_curve exG_on_curve
example : onCurve (edAddOrId exG exG) = true := edAddOrId_on_curve _ _ exG_on_curve exG_on_curve
example : edAddOrId exG exG ≠ Pt.id := by decide +kernel

/-- the variable-base row is satisfied by the host's assignment … -/
example : allZero (varComps exG.1 (edAddOrId exG exG).1 exG.2 (edAddOrId exG exG).2 exG.1 exG.2
    (fmul exG.1 exG.2)) = true :=
  varComps_honest exG.1 exG.2 exG.1 exG.2 exG_on_curve exG_on_curve

/-- … and violated by a wrong helper wire or a wrong output -/
example : allZero (varComps exG.1 (edAddOrId exG exG).1 exG.2 (edAddOrId exG exG).2 exG.1 exG.2
    (fadd (fmul exG.1 exG.2) 1)) = false := by decide +kernel
example : allZero (varComps exG.1 exG.1 exG.2 exG.2 exG.1 exG.2 (fmul exG.1 exG.2)) = false := by
  decide +kernel

/-- fixed-base row with digit `−1` from the accumulator `exG + exG`, scalar accumulator `5 ↦ 9`:
    satisfied by `acc' = acc + (−G)`, `xy_α = −x_G·y_G` -/
example :
    allZero (fixedComps exG.1 exG.2 (fmul exG.1 exG.2)
      (edAddOrId exG exG).1 (edAddOrId (edAddOrId exG exG) (edNeg exG)).1
      (edAddOrId exG exG).2 (edAddOrId (edAddOrId exG exG) (edNeg exG)).2
      (fmul (edNeg exG).1 (edNeg exG).2) 5 9) = true := by decide +kernel

/-- … digit `2` is rejected -/
example :
    allZero (fixedComps exG.1 exG.2 (fmul exG.1 exG.2)
      (edAddOrId exG exG).1 (edAddOrId (edAddOrId exG exG) (edNeg exG)).1
      (edAddOrId exG exG).2 (edAddOrId (edAddOrId exG exG) (edNeg exG)).2
      (fmul (edNeg exG).1 (edNeg exG).2) 5 12) = false := by decide +kernel

/-- a pole of the affine law exists off the curve: `edAdd?` can return `none`, so the
    completeness theorem `edAdd?_on_curve` is not vacuous.  (`(1, 1)` and `(x, y)` with
    `d·x·y = −1`.) -/
example : ∃ p q : Pt, edAdd? p q = none :=
  ⟨(1, 1), (fneg (finv EDWARDS_D), 1), by decide +kernel⟩

end Plonk
