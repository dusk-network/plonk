/-
  C11 glue, part 2: `componentDecomposition` (and its local recursion `go`).

  Layout of `component_decomposition::<n>(x)` started in a state with `W = c.wit.size` witnesses:
  bit witness `j` is `W + 2j`, accumulator `j+1` is `W + 2j + 1` (accumulator 0 is the constant
  zero witness, index 0); `2n + 1` plain arithmetic gates (`boolean`, `gate_add` per round, then
  `assert_equal(acc_n, x)`), `2n` witnesses.
-/
import Plonk.Proofs.Trunc

namespace Plonk
open Plonk.Composer

theorem DecompChain.congr {N : Nat} {b b' acc acc' : Nat → F} {x : F}
    (hb : ∀ i < N, b i = b' i) (ha : ∀ i ≤ N, acc i = acc' i) (h : DecompChain N b acc x) :
    DecompChain N b' acc' x := by
  obtain ⟨h1, h2, h3, h4⟩ := h
  refine ⟨fun i hi => by rw [← hb i hi]; exact h1 i hi, by rw [← ha 0 (Nat.zero_le _)]; exact h2,
    fun i hi => ?_, by rw [← ha N (Nat.le_refl _)]; exact h4⟩
  rw [← ha (i + 1) (by omega), ← ha i (by omega), ← hb i hi]; exact h3 i hi

/-- `DecompChain` only looks at `b i` for `i < N` and `acc i` for `i ≤ N` -/
theorem DecompChain_congr {N : Nat} {b b' acc acc' : Nat → F} {x x' : F}
    (hb : ∀ i < N, b i = b' i) (ha : ∀ i ≤ N, acc i = acc' i) (hx : x = x') :
    DecompChain N b acc x ↔ DecompChain N b' acc' x' := by
  subst hx
  exact ⟨.congr hb ha, .congr (fun i hi => (hb i hi).symm) (fun i hi => (ha i hi).symm)⟩

namespace Composer

theorem componentBoolean_plainBlock (a : Nat) (c : Composer) :
    PlainBlock c ((componentBoolean a).run c).2 1 0 (fun w => toF (w a) * toF (w a) = toF (w a))
      (fun _ => True) (fun v => toF (v a) * toF (v a) = toF (v a)) :=
  .of_appends (componentBoolean_appends a c) (componentBoolean_wf a c)
    (componentBoolean_rows_iff_sq a c)

section step
variable (v i acc : Nat) (c : Composer)

/-- after allocating the bit witness (`= c.wit.size`) -/
def dstep1 : Composer := ((appendWitness (bit v i)).run c).2
/-- after `component_boolean(bit)` -/
def dstep2 : Composer := ((componentBoolean c.wit.size).run (dstep1 v i c)).2
/-- after `acc' := 2^i·bit + acc` (`acc' = c.wit.size + 1`) -/
def dstep : Composer :=
  ((gateAdd { ql := pow2 i, qr := 1, a := c.wit.size, b := acc }).run (dstep2 v i c)).2

theorem dstep2_wit_size : (dstep2 v i c).wit.size = c.wit.size + 1 :=
  appendWitness_wit_size _ c

/-- one round: the bit is Boolean and the new accumulator (witness `c.wit.size + 1`) is
    `2^i·bit + acc`; the model stores bit `i` of `v` -/
theorem dstep_plainBlock : PlainBlock c (dstep v i acc c) 2 2
    (fun w => toF (w c.wit.size) * toF (w c.wit.size) = toF (w c.wit.size) ∧
      toF (w (c.wit.size + 1)) = (2 : F) ^ i * toF (w c.wit.size) + toF (w acc))
    (fun u => u c.wit.size = bit v i) (fun _ => acc < c.wit.size) := by
  have w2 := dstep2_wit_size v i c
  refine ((appendWitness_plainBlock (bit v i) c).trans
    ((componentBoolean_plainBlock c.wit.size (dstep1 v i c)).trans
      (gateShiftAdd_plainBlock i c.wit.size acc (dstep2 v i c)))).mono rfl rfl ?_ ?_ ?_
  · intro _ w
    rw [w2]
    exact ⟨fun h => h.2, fun h => ⟨trivial, h⟩⟩
  · rintro - u - ⟨hb, -⟩
    rw [hb]; exact Nat.mod_eq_of_lt (by have := bit_le_one v i; have := R_gt_one; omega)
  · rintro - u - - ⟨hb, -⟩ hacc
    refine ⟨trivial, fun _ => ⟨?_, fun _ => ⟨by omega, by omega⟩⟩⟩
    rw [hb, toF_mod]; exact bit_bool v i

theorem dstep_wit_size : (dstep v i acc c).wit.size = c.wit.size + 2 :=
  (dstep_plainBlock v i acc c).wit
theorem dstep_gates_size : (dstep v i acc c).gates.size = c.gates.size + 2 :=
  (dstep_plainBlock v i acc c).gates

theorem dstep_layout {c1 c2 : Composer} (h : SameLayout c1 c2) (v1 v2 : Nat) :
    SameLayout (dstep v1 i acc c1) (dstep v2 i acc c2) := by
  have l1 : SameLayout (dstep1 v1 i c1) (dstep1 v2 i c2) := appendWitness_layout h _ _
  have l2 : SameLayout (dstep2 v1 i c1) (dstep2 v2 i c2) := by
    unfold dstep2 componentBoolean; rw [h.wsize]; exact appendGate_layout l1 _
  unfold dstep; rw [h.wsize]; exact gateAdd_layout l2 _

end step

theorem go_zero (v i acc : Nat) (bits : List Nat) (c : Composer) :
    (componentDecomposition.go v 0 i acc bits).run c = ((acc, bits.reverse), c) := rfl

theorem go_succ (v k i acc : Nat) (bits : List Nat) (c : Composer) :
    (componentDecomposition.go v (k + 1) i acc bits).run c =
      (componentDecomposition.go v k (i + 1) (c.wit.size + 1) (c.wit.size :: bits)).run
        (dstep v i acc c) := by
  have h1 : ((gateAdd { ql := pow2 i, qr := 1, a := c.wit.size, b := acc }).run
      (dstep2 v i c)).1 = c.wit.size + 1 := by
    rw [gateAdd_fst, dstep2_wit_size]
  rw [← h1]
  rfl

/-- final state of `k` rounds starting at bit position `i` with accumulator witness `acc` -/
def dfold (v : Nat) : Nat → Nat → Nat → Composer → Composer
  | 0, _, _, c => c
  | k + 1, i, acc, c => dfold v k (i + 1) (c.wit.size + 1) (dstep v i acc c)

/-- witness index of the accumulator after `j` rounds (`acc` before the first round) -/
def accIdx (acc W : Nat) : Nat → Nat
  | 0 => acc
  | j + 1 => W + 2 * j + 1

/-- the bit witnesses allocated by `k` rounds -/
def dbits (W : Nat) : Nat → List Nat
  | 0 => []
  | k + 1 => W :: dbits (W + 2) k

theorem dbits_eq_map (W k : Nat) : dbits W k = (List.range k).map (fun j => W + 2 * j) := by
  induction k generalizing W with
  | zero => rfl
  | succ k ih =>
    rw [dbits, ih, List.range_succ_eq_map, List.map_cons, List.map_map]
    refine congrArg₂ List.cons (by omega) ?_
    apply List.map_congr_left
    intro j _
    simp only [Function.comp]
    omega

@[simp] theorem accIdx_zero (acc W : Nat) : accIdx acc W 0 = acc := rfl
@[simp] theorem accIdx_succ (acc W j : Nat) : accIdx acc W (j + 1) = W + 2 * j + 1 := rfl

theorem accIdx_shift (acc W k : Nat) : accIdx (W + 1) (W + 2) k = accIdx acc W (k + 1) := by
  cases k with
  | zero => rfl
  | succ k => rw [accIdx_succ, accIdx_succ]; omega

theorem go_run (v k i acc : Nat) (bits : List Nat) (c : Composer) :
    (componentDecomposition.go v k i acc bits).run c =
      ((accIdx acc c.wit.size k, bits.reverse ++ dbits c.wit.size k), dfold v k i acc c) := by
  induction k generalizing i acc bits c with
  | zero => rw [go_zero]; simp [accIdx, dbits, dfold]
  | succ k ih =>
    rw [go_succ, ih, dstep_wit_size, accIdx_shift acc]
    simp [dbits, dfold]

/-- field value of bit witness `j` -/
def dBitF (w : Nat → Nat) (W j : Nat) : F := toF (w (W + 2 * j))
/-- field value of accumulator `j` -/
def dAccF (w : Nat → Nat) (acc W j : Nat) : F := toF (w (accIdx acc W j))

/-- `k` rounds: every bit is Boolean and every accumulator is the previous one plus the
    weighted bit; the model stores the bits of `v` -/
theorem dfold_plainBlock (v k i acc : Nat) (c : Composer) :
    PlainBlock c (dfold v k i acc c) (2 * k) (2 * k)
      (fun w => ∀ j < k, (dBitF w c.wit.size j * dBitF w c.wit.size j = dBitF w c.wit.size j ∧
        dAccF w acc c.wit.size (j + 1) =
          (2 : F) ^ (i + j) * dBitF w c.wit.size j + dAccF w acc c.wit.size j))
      (fun u => ∀ j < k, u (c.wit.size + 2 * j) = bit v (i + j)) (fun _ => acc < c.wit.size) := by
  induction k generalizing i acc c with
  | zero =>
    exact (PlainBlock.refl c).mono rfl rfl
      (fun _ _ => ⟨fun _ j hj => absurd hj (Nat.not_lt_zero j), fun _ => trivial⟩)
      (fun _ _ _ _ j hj => absurd hj (Nat.not_lt_zero j)) (fun _ _ _ _ _ _ => trivial)
  | succ k ih =>
    refine ((dstep_plainBlock v i acc c).trans
      (ih (i + 1) (c.wit.size + 1) (dstep v i acc c))).mono (by omega) (by omega) ?_ ?_ ?_
    · intro _ w
      rw [dstep_wit_size, Nat.forall_lt_succ_left]
      refine and_congr ?_ (forall_congr' fun j => imp_congr_right fun _ => ?_)
      · simp [dBitF, dAccF]
      · have e1 : c.wit.size + 2 + 2 * j = c.wit.size + 2 * (j + 1) := by omega
        have e4 : i + 1 + j = i + (j + 1) := by omega
        simp only [dBitF, dAccF, e1, e4, accIdx_shift acc c.wit.size]
    · rintro - u - ⟨h0, hs⟩ j hj
      cases j with
      | zero => exact h0
      | succ j =>
        have := hs j (by omega)
        rw [dstep_wit_size] at this
        rw [show c.wit.size + 2 * (j + 1) = c.wit.size + 2 + 2 * j by omega,
          show i + (j + 1) = i + 1 + j by omega]
        exact this
    · rintro - u - - - hacc
      exact ⟨hacc, fun _ => by rw [dstep_wit_size]; omega⟩

/-- the rows of the fold from the zero accumulator, plus the closing equality, are exactly the
    math-level `DecompChain` -/
theorem chain_iff (w : Nat → Nat) (n W : Nat) (x : F) (h0 : toF (w 0) = 0) :
    ((∀ j < n, (dBitF w W j * dBitF w W j = dBitF w W j ∧
        dAccF w 0 W (j + 1) = (2 : F) ^ (0 + j) * dBitF w W j + dAccF w 0 W j)) ∧
      toF (w (accIdx 0 W n)) = x) ↔
      DecompChain n (dBitF w W) (dAccF w 0 W) x := by
  unfold DecompChain
  constructor
  · rintro ⟨h, hx⟩
    refine ⟨fun i hi => (h i hi).1, h0, fun i hi => ?_, hx⟩
    have := (h i hi).2
    rwa [Nat.zero_add] at this
  · rintro ⟨hb, -, hs, hx⟩
    refine ⟨fun j hj => ⟨hb j hj, ?_⟩, hx⟩
    rw [Nat.zero_add]; exact hs j hj

theorem dfold_layout {c1 c2 : Composer} (h : SameLayout c1 c2) (v1 v2 k i acc : Nat) :
    SameLayout (dfold v1 k i acc c1) (dfold v2 k i acc c2) := by
  induction k generalizing i acc c1 c2 with
  | zero => exact h
  | succ k ih =>
    show SameLayout (dfold v1 k (i + 1) (c1.wit.size + 1) (dstep v1 i acc c1))
      (dfold v2 k (i + 1) (c2.wit.size + 1) (dstep v2 i acc c2))
    rw [h.wsize]
    exact ih (dstep_layout i acc h v1 v2) (i + 1) (c2.wit.size + 1)

section decomp
variable (n x : Nat) (c : Composer)

/-- final state of `component_decomposition::<n>(x)` -/
def dcomp : Composer :=
  ((assertEqual (accIdx 0 c.wit.size n) x).run (dfold (c.val x) n 0 0 c)).2

theorem componentDecomposition_run :
    (componentDecomposition n x).run c = (dbits c.wit.size n, dcomp n x c) := by
  unfold componentDecomposition dcomp
  simp only [run_bind', getVal_run, go_run, List.reverse_nil, List.nil_append]
  rfl

theorem componentDecomposition_fst :
    ((componentDecomposition n x).run c).1 = (List.range n).map (fun j => c.wit.size + 2 * j) := by
  rw [componentDecomposition_run, dbits_eq_map]

theorem componentDecomposition_getD (j : Nat) (hj : j < n) :
    ((componentDecomposition n x).run c).1.getD j 0 = c.wit.size + 2 * j := by
  rw [componentDecomposition_fst]
  simp [List.getD_eq_getElem?_getD, hj]

theorem componentDecomposition_snd : ((componentDecomposition n x).run c).2 = dcomp n x c := by
  rw [componentDecomposition_run]

/-- `component_decomposition::<n>`: its rows are those of the fold from the zero accumulator plus
    the closing equality; the model stores the bits of the value of `x`, and its table
    satisfies the rows when that value is below `2^n` -/
theorem dcomp_plainBlock : PlainBlock c (dcomp n x c) (2 * n + 1) (2 * n)
    (fun w => (∀ j < n, (dBitF w c.wit.size j * dBitF w c.wit.size j = dBitF w c.wit.size j ∧
        dAccF w 0 c.wit.size (j + 1) =
          (2 : F) ^ (0 + j) * dBitF w c.wit.size j + dAccF w 0 c.wit.size j)) ∧
      toF (w (accIdx 0 c.wit.size n)) = toF (w x))
    (fun u => ∀ j < n, u (c.wit.size + 2 * j) = bit (c.val x) j)
    (fun u => x < c.wit.size ∧ u 0 = 0 ∧ u x < 2 ^ n) := by
  refine ((dfold_plainBlock (c.val x) n 0 0 c).trans
    (assertEqual_plainBlock (accIdx 0 c.wit.size n) x _)).mono rfl (by omega)
    (fun _ _ => Iff.rfl) ?_ ?_
  · rintro - u - ⟨hb, -⟩ j hj
    have := hb j hj
    rwa [Nat.zero_add] at this
  · rintro - u hag - ⟨hb, -⟩ ⟨hx, hz, hv⟩
    refine ⟨Nat.zero_lt_of_lt hx, fun hrel => ?_⟩
    -- the rows of the fold make the last accumulator the binary sum of the stored bits
    have hch := (chain_iff u n c.wit.size _ (by rw [hz]; exact toF_zero)).mp ⟨hrel, rfl⟩
    have hacc := decomp_acc n _ _ _ hch n (Nat.le_refl _)
    have hsum : ∑ k ∈ Finset.range n, (dBitF u c.wit.size k).val * 2 ^ k
        = ∑ k ∈ Finset.range n, bit (c.val x) k * 2 ^ k :=
      Finset.sum_congr rfl fun k hk => by
        have := hb k (Finset.mem_range.mp hk)
        rw [Nat.zero_add] at this
        unfold dBitF
        rw [this, val_toF_of_lt (by have := bit_le_one (c.val x) k; have := R_gt_one; omega)]
    rw [hsum, sum_bits_eq_mod, ← hag x hx, Nat.mod_eq_of_lt hv] at hacc
    exact hacc

end decomp

/-- `component_decomposition::<n>` appends `2n + 1` plain gates and `2n` witnesses -/
theorem componentDecomposition_appends (n x : Nat) (c : Composer) :
    Appends c ((componentDecomposition n x).run c).2 (2 * n + 1) (2 * n) := by
  rw [componentDecomposition_snd]; exact (dcomp_plainBlock n x c).appends

theorem componentDecomposition_wf (n x : Nat) (c : Composer) (h : WF c) :
    WF ((componentDecomposition n x).run c).2 := by
  rw [componentDecomposition_snd]; exact (dcomp_plainBlock n x c).wf h

theorem componentDecomposition_rows_iff (n x : Nat) (c : Composer) (h : WF c) (c'' : Composer)
    (hext : Extends ((componentDecomposition n x).run c).2 c'') (w : Nat → Nat)
    (h0 : toF (w 0) = 0) :
    c''.rowsHoldW w c.gates.size ((componentDecomposition n x).run c).2.gates.size ↔
      DecompChain n (dBitF w c.wit.size) (dAccF w 0 c.wit.size) (toF (w x)) := by
  rw [componentDecomposition_snd] at hext ⊢
  exact ((dcomp_plainBlock n x c).rows_iff h hext w).trans (chain_iff w n c.wit.size _ h0)

/-- Soundness of `component_decomposition::<n>`, `n ≤ 254`: for every assignment `w` with the
    zero witness at 0, if the appended rows hold (read in any later state) then the canonical
    value of `x` is below `2^n`, bit witness `j` carries bit `j` of that value, and accumulator
    `j + 1` carries the value modulo `2^(j+1)`. -/
theorem componentDecomposition_sound (n x : Nat) (c : Composer) (hn : n ≤ 254) (h : WF c)
    (c'' : Composer) (hext : Extends ((componentDecomposition n x).run c).2 c'') (w : Nat → Nat)
    (h0 : toF (w 0) = 0)
    (hrows : c''.rowsHoldW w c.gates.size ((componentDecomposition n x).run c).2.gates.size) :
    (toF (w x)).val < 2 ^ n ∧
    (∀ j < n, (toF (w (c.wit.size + 2 * j))).val = bit (toF (w x)).val j) ∧
    (∀ j < n, toF (w (c.wit.size + 2 * j + 1)) = toF ((toF (w x)).val % 2 ^ (j + 1))) := by
  have hch := (componentDecomposition_rows_iff n x c h c'' hext w h0).mp hrows
  obtain ⟨_, hlt, hbits⟩ := decomp_sound n (two_pow_le_R hn) _ _ _ hch
  refine ⟨hlt, hbits, fun j hj => ?_⟩
  have hacc := decomp_acc n _ _ _ hch (j + 1) (by omega)
  have hsum : ∑ k ∈ Finset.range (j + 1), (dBitF w c.wit.size k).val * 2 ^ k
      = ∑ k ∈ Finset.range (j + 1), bit (toF (w x)).val k * 2 ^ k :=
    Finset.sum_congr rfl fun k hk => by rw [hbits k (by have := Finset.mem_range.mp hk; omega)]
  rw [hsum, sum_bits_eq_mod] at hacc
  exact hacc

theorem componentDecomposition_sound_bits (n x : Nat) (c : Composer) (hn : n ≤ 254) (h : WF c)
    (c'' : Composer) (hext : Extends ((componentDecomposition n x).run c).2 c'') (w : Nat → Nat)
    (h0 : toF (w 0) = 0)
    (hrows : c''.rowsHoldW w c.gates.size ((componentDecomposition n x).run c).2.gates.size) :
    ∀ j < n, toF (w (c.wit.size + 2 * j)) = toF (bit (toF (w x)).val j) := by
  intro j hj
  have := (componentDecomposition_sound n x c hn h c'' hext w h0 hrows).2.1 j hj
  rw [← this, Plonk.toF_val]

/-- Completeness of `component_decomposition::<n>` (every `n`): if the model's value of the
    allocated input is below `2^n` (zero witness 0), the model's own table satisfies the appended
    rows (read in any later state), and bit witness `j` holds bit `j` of the value. -/
theorem componentDecomposition_complete (n x : Nat) (c : Composer) (h : WF c)
    (hx : x < c.wit.size) (hz : c.val 0 = 0) (hv : c.val x < 2 ^ n) (c'' : Composer)
    (hext : Extends ((componentDecomposition n x).run c).2 c'') :
    c''.rowsHoldW c''.val c.gates.size ((componentDecomposition n x).run c).2.gates.size ∧
    ∀ j < n, ((componentDecomposition n x).run c).2.val (c.wit.size + 2 * j) = bit (c.val x) j := by
  rw [componentDecomposition_snd] at hext ⊢
  have B := (dcomp_plainBlock n x c).toBlock
  have e := B.ext.trans hext
  refine ⟨B.complete h hext ⟨hx, ?_, ?_⟩, B.vals h (Extends.refl _)⟩
  · rw [e.val_eq (Nat.zero_lt_of_lt hx)]; exact hz
  · rw [e.val_eq hx]; exact hv

theorem componentDecomposition_layout {c1 c2 : Composer} (h : SameLayout c1 c2) (n x : Nat) :
    SameLayout ((componentDecomposition n x).run c1).2 ((componentDecomposition n x).run c2).2 := by
  rw [componentDecomposition_snd, componentDecomposition_snd]
  unfold dcomp assertEqual
  rw [h.wsize]
  exact appendGate_layout (dfold_layout h _ _ n 0 0) _

/-- Exact characterisation of `component_decomposition::<n>` (`n ≤ 254`) for a fixed layout:
    for a canonical value `v` of the input and canonical values `β j` of the bit witnesses, a
    satisfying assignment with these values exists iff `v < 2^n` and `β` is the bit vector of `v`
    (so no other bit vector satisfies the component). -/
theorem decomposition_exact_core (n x : Nat) (c : Composer) (hn : n ≤ 254) (h : WF c)
    (hx : x < c.wit.size) (v : Nat) (β : Nat → Nat) (hv : v < R) (hβ : ∀ j < n, β j < R)
    (hx0 : x = 0 → v = 0) :
    (∃ w : Nat → Nat, w x = v ∧ w 0 = 0 ∧ (∀ j < n, w (c.wit.size + 2 * j) = β j) ∧
        ((componentDecomposition n x).run c).2.rowsHoldW w c.gates.size
          ((componentDecomposition n x).run c).2.gates.size) ↔
      (v < 2 ^ n ∧ ∀ j < n, β j = bit v j) := by
  constructor
  · rintro ⟨w, hwx, hw0, hwb, hrows⟩
    obtain ⟨h1, h2, -⟩ := componentDecomposition_sound n x c hn h _ (Extends.refl _) w
      (by rw [hw0]; simp) hrows
    rw [hwx, val_toF_of_lt hv] at h1 h2
    refine ⟨h1, fun j hj => ?_⟩
    have := h2 j hj
    rwa [hwb j hj, val_toF_of_lt (hβ j hj)] at this
  · rintro ⟨hlt, hbits⟩
    obtain ⟨c₂, hl2, hwf2, hvx, hz2, -⟩ := exists_sameLayout_val c x v h hv hx hx0
    have hx2 : x < c₂.wit.size := hl2.wsize ▸ hx
    obtain ⟨hrows, hb⟩ := componentDecomposition_complete n x c₂ hwf2 hx2 hz2
      (by rw [hvx]; exact hlt) _ (Extends.refl _)
    have hext := (componentDecomposition_appends n x c₂).ext
    have hL := componentDecomposition_layout hl2 n x
    refine ⟨((componentDecomposition n x).run c₂).2.val, ?_, ?_, ?_, ?_⟩
    · rw [hext.val_eq hx2, hvx]
    · rw [hext.val_eq (by omega), hz2]
    · intro j hj
      rw [hl2.wsize, hb j hj, hvx, hbits j hj]
    · rw [hL.rowsHoldW_iff, hL.gates, hl2.gates]; exact hrows

/-- the state on which the alias is exhibited: `Composer::initialized()` plus one witness
    (index 6) holding 0 -/
def aliasBase : Composer := ((appendWitness 0).run initialized).2

theorem aliasBase_extends : Extends initialized aliasBase := extends_appendWitness 0 initialized
theorem aliasBase_wf : WF aliasBase := appendWitness_wf 0 _ initialized_wf
theorem aliasBase_wit_size : aliasBase.wit.size = 7 := by
  have : aliasBase.wit.size = _ := (appendWitness_appends 0 initialized).wit
  rw [initialized_wit_size] at this; exact this
theorem aliasBase_gates_size : aliasBase.gates.size = 4 := initialized_gates_size
theorem aliasBase_val_six : aliasBase.val 6 = 0 := by
  have : aliasBase.val initialized.wit.size = 0 % R := appendWitness_val 0 initialized
  rw [initialized_wit_size] at this; simpa using this
theorem aliasBase_val_zero : aliasBase.val 0 = 0 := by
  rw [aliasBase_extends.val_eq (by rw [initialized_wit_size]; omega)]; exact initialized_val_zero

/-- the aliasing assignment: old witnesses as in the model's table; bit witness `j` (index
    `7 + 2j`) carries bit `j` of `R`, accumulator `j + 1` (index `7 + 2j + 1`) carries
    `R mod 2^(j+1)` (reduced) -/
def aliasW (i : Nat) : Nat :=
  if i < 7 then aliasBase.val i
  else if (i - 7) % 2 = 0 then bit R ((i - 7) / 2) else (R % 2 ^ ((i - 7) / 2 + 1)) % R

theorem aliasW_old (i : Nat) (hi : i < 7) : aliasW i = aliasBase.val i := by
  unfold aliasW; rw [if_pos hi]

theorem aliasW_bit (j : Nat) : aliasW (7 + 2 * j) = bit R j := by
  unfold aliasW
  rw [if_neg (by omega), if_pos (by omega)]
  have : (7 + 2 * j - 7) / 2 = j := by omega
  rw [this]

theorem aliasW_acc (j : Nat) : aliasW (7 + 2 * j + 1) = R % 2 ^ (j + 1) % R := by
  unfold aliasW
  rw [if_neg (by omega), if_neg (by omega)]
  have : (7 + 2 * j + 1 - 7) / 2 = j := by omega
  rw [this]

theorem initialized_wires_lt : ∀ i < 4,
    (initialized.gateAt i).a < 6 ∧ (initialized.gateAt i).b < 6 ∧
    (initialized.gateAt i).c < 6 ∧ (initialized.gateAt i).d < 6 := by decide +kernel

/-- an assignment that agrees with the model's table on the six initial witnesses satisfies the
    four rows of `Composer::initialized()` -/
theorem initialized_rows_of_agree (w : Nat → Nat) (hw : ∀ i < 6, w i = initialized.val i) :
    initialized.rowsHoldW w 0 4 := by
  intro i _ hi
  obtain ⟨ha, hb, hc, hd⟩ := initialized_wires_lt i hi
  rw [rowHoldsW_congr_plain initialized w initialized.val i (initialized_plain i)
    ⟨hw _ ha, hw _ hb, hw _ hc, hw _ hd⟩ (by rw [initialized_gates_size]; exact hi)]
  exact initialized_honest i (Nat.zero_le _) hi

/-- Uniqueness fails for `n ≥ 255` (in particular for the two allowed widths 255 and 256):
    on `initialized` + one witness `x = 6` holding 0, `component_decomposition::<n>(x)` has two
    assignments that agree with the model's table on all pre-existing witnesses (`x ↦ 0`,
    zero witness `↦ 0`), satisfy *every* row of the circuit (the four rows of `initialized` and
    the `2n + 1` rows of the component), and whose first bit witnesses (index 7) differ: the
    honest all-zero bits, and the bits of `R`. -/
theorem decomposition_alias (n : Nat) (hn : 255 ≤ n) :
    ∃ w1 w2 : Nat → Nat,
      (∀ i < 7, w1 i = aliasBase.val i) ∧ (∀ i < 7, w2 i = aliasBase.val i) ∧
      w1 6 = 0 ∧ w2 6 = 0 ∧ w1 0 = 0 ∧ w2 0 = 0 ∧
      ((componentDecomposition n 6).run aliasBase).2.rowsHoldW w1 0
        ((componentDecomposition n 6).run aliasBase).2.gates.size ∧
      ((componentDecomposition n 6).run aliasBase).2.rowsHoldW w2 0
        ((componentDecomposition n 6).run aliasBase).2.gates.size ∧
      ((componentDecomposition n 6).run aliasBase).1.head? = some 7 ∧
      toF (w1 7) = 0 ∧ toF (w2 7) = 1 := by
  have hwf := aliasBase_wf
  have hW := aliasBase_wit_size
  have hG := aliasBase_gates_size
  have hA := componentDecomposition_appends n 6 aliasBase
  obtain ⟨hrows1, hbits1⟩ := componentDecomposition_complete n 6 aliasBase hwf (by omega)
    aliasBase_val_zero (by rw [aliasBase_val_six]; positivity) _ (Extends.refl _)
  have h0 : toF (aliasW 0) = 0 := by rw [aliasW_old 0 (by omega), aliasBase_val_zero]; simp
  have hchain : DecompChain n (dBitF aliasW aliasBase.wit.size) (dAccF aliasW 0 aliasBase.wit.size)
      (toF (aliasW 6)) := by
    rw [hW]
    refine (DecompChain_congr (fun i _ => ?_) (fun i _ => ?_) ?_).mpr (decomp_alias_ge_255 n hn).2.1
    · show toF (aliasW (7 + 2 * i)) = _
      rw [aliasW_bit]
    · cases i with
      | zero =>
        show toF (aliasW 0) = _
        rw [h0]; simp [Nat.mod_one]
      | succ j =>
        show toF (aliasW (7 + 2 * j + 1)) = _
        rw [aliasW_acc, toF_mod]
    · rw [aliasW_old 6 (by omega), aliasBase_val_six]; simp
  have hrows2 := (componentDecomposition_rows_iff n 6 aliasBase hwf _ (Extends.refl _) aliasW h0).mpr
    hchain
  have hfst : ((componentDecomposition n 6).run aliasBase).1.head? = some 7 := by
    rw [componentDecomposition_fst, hW]
    obtain ⟨m, rfl⟩ : ∃ m, n = m + 1 := ⟨n - 1, by omega⟩
    simp [List.range_succ_eq_map]
  have hb0 := hbits1 0 (by omega)
  rw [hW, aliasBase_val_six] at hb0
  generalize ((componentDecomposition n 6).run aliasBase).2 = c' at hA hrows1 hrows2 hb0 ⊢
  -- the four rows of `initialized` read old witnesses only
  have hall : ∀ w : Nat → Nat, (∀ i < 7, w i = aliasBase.val i) →
      c'.rowsHoldW w aliasBase.gates.size c'.gates.size → c'.rowsHoldW w 0 c'.gates.size := by
    intro w hw hr
    rw [hG] at hr
    refine (rowsHoldW_split _ w (Nat.zero_le _) (by rw [hA.gates, hG]; omega)).mpr ⟨?_, hr⟩
    rw [(aliasBase_extends.trans hA.ext).rowsHoldW_of_plain w (by rw [initialized_gates_size])
      (fun i _ _ => initialized_plain i)]
    exact initialized_rows_of_agree w fun i hi => by
      rw [hw i (by omega), aliasBase_extends.val_eq (by rw [initialized_wit_size]; exact hi)]
  have hold1 : ∀ i < 7, c'.val i = aliasBase.val i := fun i hi => hA.ext.val_eq (by omega)
  refine ⟨c'.val, aliasW, hold1, aliasW_old, ?_, ?_, ?_, ?_, hall _ hold1 hrows1,
    hall _ aliasW_old hrows2, hfst, ?_, ?_⟩
  · rw [hold1 6 (by omega), aliasBase_val_six]
  · rw [aliasW_old 6 (by omega), aliasBase_val_six]
  · rw [hold1 0 (by omega), aliasBase_val_zero]
  · rw [aliasW_old 0 (by omega), aliasBase_val_zero]
  · rw [show (7 : Nat) = 7 + 2 * 0 from rfl, hb0]; simp [bit]
  · rw [show (7 : Nat) = 7 + 2 * 0 from rfl, aliasW_bit, bit_R_zero]; simp

end Composer
end Plonk
