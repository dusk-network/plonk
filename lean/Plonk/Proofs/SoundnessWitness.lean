/-
  C02 (soundness): from the conclusion of `soundness_algebraic` (every row of the padded table holds on
  the values read off the wire polynomials, and these values are constant on the wiring classes)
  to the model's own notions of a satisfying witness:

  * `extractW`            a witness assignment `Nat → Nat` read off the wire polynomials;
  * `rowsHoldW_extract`   `lay.rowsHoldW (extractW …) 0 lay.gates.size`;
  * `extractC`            the composer `lay` with the extracted witness values;
  * `sysSat_extract`      `(extractC …).sysSat = true` and `copyViolation lay (extractC …) = none`.

  Forced hypotheses (`LayoutWF`): every wire of the layout is an allocated witness (the Rust code
  asserts this), and the LAST gate row reads no next-row wire (`Gate.plain`): in the polynomial
  world the row after the last gate is a padding row (or row `0`, cyclically) whose wire values are
  fixed points of `σ`, i.e. unconstrained, whereas `rowsHoldW` / `sysSat` read zeros there.
-/
import Plonk.Proofs.SoundnessModel
import Plonk.Proofs.Frame

namespace Plonk.Sound
open Polynomial Plonk Plonk.Quot Plonk.Perm Plonk.Composer

/-- well-formedness of a compiled layout -/
structure LayoutWF (lay : Composer) : Prop where
  alloc : ∀ p : Pos, p.1 < 4 → p.2 < lay.gates.size → wireAt lay p < lay.wit.size
  lastPlain : ∀ i, i + 1 = lay.gates.size → Gate.plain (lay.gateAt i)

open Classical in
/-- the witness assignment read off the wire polynomials: the value at any position wired to `x` -/
noncomputable def extractW (ω : F) (P : ProverPolys F) (lay : Composer) (x : Nat) : Nat :=
  if h : ∃ p : Pos, (p.1 < 4 ∧ p.2 < lay.gates.size) ∧ wireAt lay p = x then
    wireNat ω P (Classical.choose h).1 (Classical.choose h).2
  else 0

theorem extractW_lt (ω : F) (P : ProverPolys F) (lay : Composer) (x : Nat) :
    extractW ω P lay x < R := by
  unfold extractW
  split
  · exact wireNat_lt _ _ _ _
  · exact R_pos

theorem extractW_wire {ω : F} {P : ProverPolys F} {lay : Composer} (hwf : LayoutWF lay)
    (hconst : ∀ p q, SameClass lay p q → wireVal ω P p = wireVal ω P q) (p : Pos) (hp1 : p.1 < 4)
    (hp2 : p.2 < lay.gates.size) : extractW ω P lay (wireAt lay p) = wireNat ω P p.1 p.2 := by
  have hex : ∃ q : Pos, (q.1 < 4 ∧ q.2 < lay.gates.size) ∧ wireAt lay q = wireAt lay p :=
    ⟨p, ⟨hp1, hp2⟩, rfl⟩
  unfold extractW
  rw [dif_pos hex]
  obtain ⟨hq, hw⟩ := Classical.choose_spec hex
  have hs : SameClass lay (Classical.choose hex) p :=
    ⟨hq, ⟨hp1, hp2⟩, hw, hwf.alloc _ hq.1 hq.2⟩
  have := hconst _ _ hs
  unfold wireNat
  exact congrArg ZMod.val this

theorem gateAt_of_lt (lay : Composer) {i : Nat} (hi : i < lay.gates.size) :
    lay.gateAt i = lay.gates[i] := by
  simp [gateAt, Array.getD_eq_getD_getElem?, hi]

theorem gateAt_of_ge (lay : Composer) {i : Nat} (hi : lay.gates.size ≤ i) : lay.gateAt i = {} := by
  simp only [gateAt, Array.getD_eq_getD_getElem?]
  rw [Array.getElem?_eq_none hi]
  rfl

theorem rowValsW_extract {ω : F} {P : ProverPolys F} {lay : Composer} (hwf : LayoutWF lay)
    (hconst : ∀ p q, SameClass lay p q → wireVal ω P p = wireVal ω P q) {i : Nat}
    (hi : i < lay.gates.size) :
    lay.rowValsW (extractW ω P lay) i =
      ⟨wireNat ω P 0 i, wireNat ω P 1 i, wireNat ω P 2 i, wireNat ω P 3 i⟩ := by
  have e (col : Nat) (hc : col < 4) := extractW_wire hwf hconst (col, i) hc hi
  have e0 := e 0 (by omega)
  have e1 := e 1 (by omega)
  have e2 := e 2 (by omega)
  have e3 := e 3 (by omega)
  simp only [wireAt, gateAt_of_lt lay hi] at e0 e1 e2 e3
  unfold rowValsW
  rw [Array.getElem?_eq_getElem hi]
  simp only [e0, e1, e2, e3]

/-- the row check of the default (padding) gate does not look at the wires -/
theorem rowHolds_default (a b c d an bn dn a' b' c' d' an' bn' dn' pi : Nat) :
    rowHolds {} a b c d an bn dn pi = rowHolds {} a' b' c' d' an' bn' dn' pi := by
  rw [Bool.eq_iff_iff, rowHolds_arith {} rfl rfl rfl rfl, rowHolds_arith {} rfl rfl rfl rfl]
  simp [arithF]

/-- **The extracted assignment satisfies every gate row of the layout** (`rowsHoldW`: next row
    `i + 1` of the gate table, zeros past the end). -/
theorem rowsHoldW_extract {ω : F} {P : ProverPolys F} {lay : Composer} {n : Nat}
    (hn : lay.gates.size ≤ n) (hwf : LayoutWF lay)
    (hrows : ∀ i < n, rowOKP ω n lay P i)
    (hconst : ∀ p q, SameClass lay p q → wireVal ω P p = wireVal ω P q) :
    lay.rowsHoldW (extractW ω P lay) 0 lay.gates.size := by
  intro i _ hi
  have h := hrows i (by omega)
  unfold rowOKP at h
  unfold rowHoldsW
  rw [rowValsW_extract hwf hconst hi]
  by_cases hi1 : i + 1 < lay.gates.size
  · rw [rowValsW_extract hwf hconst hi1]
    rw [Nat.mod_eq_of_lt (by omega : i + 1 < n)] at h
    exact h
  · have hp := hwf.lastPlain i (by omega)
    rw [rowHolds_plain_next hp _ _ _ _ _ _ _ (wireNat ω P 0 ((i + 1) % n))
      (wireNat ω P 1 ((i + 1) % n)) (wireNat ω P 3 ((i + 1) % n))]
    exact h

/-- the layout with the extracted witness values -/
noncomputable def extractC (ω : F) (P : ProverPolys F) (lay : Composer) : Composer :=
  { lay with wit := (Array.range lay.wit.size).map (extractW ω P lay) }

theorem extractC_val (ω : F) (P : ProverPolys F) (lay : Composer) {x : Nat} (hx : x < lay.wit.size) :
    (extractC ω P lay).val x = extractW ω P lay x := by
  simp [extractC, val, Array.getD_eq_getD_getElem?, hx]

theorem extractC_gateAt (ω : F) (P : ProverPolys F) (lay : Composer) (i : Nat) :
    (extractC ω P lay).gateAt i = lay.gateAt i := rfl

theorem extractC_piAt (ω : F) (P : ProverPolys F) (lay : Composer) (i : Nat) :
    (extractC ω P lay).piAt i = lay.piAt i := rfl

theorem extractC_paddedSize (ω : F) (P : ProverPolys F) (lay : Composer) :
    (extractC ω P lay).paddedSize = lay.paddedSize := rfl

theorem extractC_rowVals {ω : F} {P : ProverPolys F} {lay : Composer} (hwf : LayoutWF lay)
    (hconst : ∀ p q, SameClass lay p q → wireVal ω P p = wireVal ω P q) {i : Nat}
    (hi : i < lay.gates.size) :
    (extractC ω P lay).rowVals i =
      ⟨wireNat ω P 0 i, wireNat ω P 1 i, wireNat ω P 2 i, wireNat ω P 3 i⟩ := by
  have a (col : Nat) (hc : col < 4) := hwf.alloc (col, i) hc hi
  have a0 := a 0 (by omega)
  have a1 := a 1 (by omega)
  have a2 := a 2 (by omega)
  have a3 := a 3 (by omega)
  simp only [wireAt, gateAt_of_lt lay hi] at a0 a1 a2 a3
  have h := rowValsW_extract hwf hconst hi
  unfold rowValsW at h
  rw [Array.getElem?_eq_getElem hi] at h
  unfold rowVals
  have hg : (extractC ω P lay).gates[i]? = some lay.gates[i] := Array.getElem?_eq_getElem hi
  rw [hg]
  simp only [extractC_val ω P lay a0, extractC_val ω P lay a1, extractC_val ω P lay a2,
    extractC_val ω P lay a3]
  exact h

/-- **The extracted composer satisfies the whole padded system and has no copy violation.** -/
theorem sysSat_extract {ω : F} {P : ProverPolys F} {lay : Composer} (hwf : LayoutWF lay)
    (hrows : ∀ i < lay.paddedSize, rowOKP ω lay.paddedSize lay P i)
    (hsz : lay.gates.size ≤ lay.paddedSize)
    (hconst : ∀ p q, SameClass lay p q → wireVal ω P p = wireVal ω P q) :
    (extractC ω P lay).sysSat = true ∧ copyViolation lay (extractC ω P lay) = none := by
  constructor
  · unfold sysSat
    rw [List.all_eq_true]
    intro i hi
    rw [List.mem_range, extractC_paddedSize] at hi
    have h := hrows i hi
    unfold rowOKP at h
    unfold rowHoldsAt
    dsimp only
    rw [extractC_gateAt, extractC_piAt, extractC_paddedSize]
    by_cases his : i < lay.gates.size
    · rw [extractC_rowVals hwf hconst his]
      by_cases hi1 : i + 1 < lay.gates.size
      · rw [Nat.mod_eq_of_lt (by omega : i + 1 < lay.paddedSize)] at h ⊢
        rw [extractC_rowVals hwf hconst hi1]
        exact h
      · have hp := hwf.lastPlain i (by omega)
        rw [rowHolds_plain_next hp _ _ _ _ _ _ _ (wireNat ω P 0 ((i + 1) % lay.paddedSize))
          (wireNat ω P 1 ((i + 1) % lay.paddedSize)) (wireNat ω P 3 ((i + 1) % lay.paddedSize))]
        exact h
    · rw [gateAt_of_ge lay (by omega : lay.gates.size ≤ i)] at h ⊢
      rw [rowHolds_default _ _ _ _ _ _ _ (wireNat ω P 0 i) (wireNat ω P 1 i) (wireNat ω P 2 i)
        (wireNat ω P 3 i) (wireNat ω P 0 ((i + 1) % lay.paddedSize))
        (wireNat ω P 1 ((i + 1) % lay.paddedSize)) (wireNat ω P 3 ((i + 1) % lay.paddedSize))]
      exact h
  · rw [copyViolation_eq_none_iff]
    intro p q hpq
    have hv (r : Pos) (h1 : r.1 < 4) (h2 : r.2 < lay.gates.size) :
        valAt (extractC ω P lay) r = wireNat ω P r.1 r.2 := by
      unfold valAt
      rw [extractC_rowVals hwf hconst h2]
      obtain ⟨c, i⟩ := r
      have hc : c < 4 := h1
      interval_cases c <;> rfl
    rw [hv p hpq.1.1 hpq.1.2, hv q hpq.2.1.1 hpq.2.1.2]
    unfold wireNat
    exact congrArg ZMod.val (hconst p q hpq)

end Plonk.Sound
