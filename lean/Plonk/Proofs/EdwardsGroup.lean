/-
  Group-level consequences of the twisted Edwards addition law on JubJub: the curve points form
  an `AddCommGroup` (`CurvePt`) whose `nsmul`/`zsmul` are `smulF`/`zsmulF`, and the MSB-first
  double-and-add ladder computes the scalar multiple.  The lemmas on `PtF` with `OnCurveP`
  hypotheses are the interface; `CurvePt` exists to bring in Mathlib's group lemmas.
  The group order `8·r_J` is not proved: it is the one field of the `Prop`-valued structure
  `JubjubGroupFacts`, taken as an explicit hypothesis where `[r_J]([8]Q) = O` is needed.
-/
import Mathlib.Algebra.Group.Basic
import Plonk.Proofs.EdwardsAssoc
import Plonk.Generated
import Plonk.Proofs.Ladder

namespace Plonk

/-! ### Commutativity, neutral element, inverses -/

theorem addF_id (p : PtF) : addF p idF = p := by
  unfold addF idF; simp

theorem id_addF (p : PtF) : addF idF p = p := by
  rw [addF_comm, addF_id]

theorem negF_negF (p : PtF) : negF (negF p) = p := by
  unfold negF; simp

theorem negF_id : negF idF = idF := by unfold negF idF; simp

/-- inverses: `P + (−P) = O` on the curve (uses completeness for the denominators) -/
theorem addF_neg {p : PtF} (hp : OnCurveP p) : addF p (negF p) = idF := by
  obtain ⟨hA, hB⟩ := add_completeP hp (neg_on_curveP hp)
  unfold OnCurveP OnCurveF at hp
  unfold negF at hA hB
  simp only at hA hB
  unfold addF negF idF
  apply Prod.ext
  · simp only
    rw [div_eq_zero_iff]; left; ring
  · simp only
    rw [div_eq_one_iff_eq hB]
    linear_combination hp

theorem neg_addF {p : PtF} (hp : OnCurveP p) : addF (negF p) p = idF := by
  rw [addF_comm, addF_neg hp]

/-- negation distributes over the addition law, on and off the curve -/
theorem negF_addF (p q : PtF) : negF (addF p q) = addF (negF p) (negF q) := by
  unfold addF negF
  apply Prod.ext <;> simp only <;> ring

/-! ### Scalar multiples by repeated addition -/

/-- `smulF n P = P + … + P` (`n` times), by recursion -/
def smulF : ℕ → PtF → PtF
  | 0, _ => idF
  | n+1, p => addF (smulF n p) p

@[simp] theorem smulF_zero (p : PtF) : smulF 0 p = idF := rfl
theorem smulF_succ (n : ℕ) (p : PtF) : smulF (n+1) p = addF (smulF n p) p := rfl
@[simp] theorem smulF_one (p : PtF) : smulF 1 p = p := by rw [smulF_succ, smulF_zero, id_addF]
theorem smulF_two (p : PtF) : smulF 2 p = addF p p := by rw [smulF_succ, smulF_one]

theorem smulF_on_curve (n : ℕ) {p : PtF} (hp : OnCurveP p) : OnCurveP (smulF n p) := by
  induction n with
  | zero => exact id_on_curveP
  | succ n ih => exact add_on_curveP ih hp

@[simp] theorem smulF_id (n : ℕ) : smulF n idF = idF := by
  induction n with
  | zero => rfl
  | succ n ih => rw [smulF_succ, ih, addF_id]

theorem smulF_negF (n : ℕ) (p : PtF) : smulF n (negF p) = negF (smulF n p) := by
  induction n with
  | zero => simp [negF_id]
  | succ n ih => rw [smulF_succ, ih, smulF_succ, negF_addF]

/-- signed multiples -/
def zsmulF : ℤ → PtF → PtF
  | Int.ofNat n, p => smulF n p
  | Int.negSucc n, p => negF (smulF (n+1) p)

@[simp] theorem zsmulF_natCast (n : ℕ) (p : PtF) : zsmulF (n : ℤ) p = smulF n p := rfl
@[simp] theorem zsmulF_zero (p : PtF) : zsmulF 0 p = idF := rfl
@[simp] theorem zsmulF_one (p : PtF) : zsmulF 1 p = p := smulF_one p
@[simp] theorem zsmulF_neg_one (p : PtF) : zsmulF (-1) p = negF p := by
  show negF (smulF 1 p) = negF p
  rw [smulF_one]

theorem zsmulF_on_curve (z : ℤ) {p : PtF} (hp : OnCurveP p) : OnCurveP (zsmulF z p) := by
  cases z with
  | ofNat n => exact smulF_on_curve n hp
  | negSucc n => exact neg_on_curveP (smulF_on_curve (n+1) hp)

/-! ### Curve points as an abelian group -/

/-- points of the curve -/
structure CurvePt where
  val : PtF
  on : OnCurveP val

namespace CurvePt

instance : Zero CurvePt := ⟨⟨idF, id_on_curveP⟩⟩
instance : Add CurvePt := ⟨fun p q => ⟨addF p.1 q.1, add_on_curveP p.2 q.2⟩⟩
instance : Neg CurvePt := ⟨fun p => ⟨negF p.1, neg_on_curveP p.2⟩⟩

@[simp] theorem val_zero : (0 : CurvePt).1 = idF := rfl
@[simp] theorem val_add (p q : CurvePt) : (p + q).1 = addF p.1 q.1 := rfl
@[simp] theorem val_neg (p : CurvePt) : (-p).1 = negF p.1 := rfl

@[ext] theorem ext {p q : CurvePt} (h : p.1 = q.1) : p = q := by
  cases p; cases q; simp only at h; subst h; rfl

/-- the abelian group of JubJub curve points over `F` -/
instance addCommGroup : AddCommGroup CurvePt where
  add_assoc p q r := CurvePt.ext (addF_assoc p.2 q.2 r.2)
  zero_add p := CurvePt.ext (id_addF p.1)
  add_zero p := CurvePt.ext (addF_id p.1)
  nsmul n p := ⟨smulF n p.1, smulF_on_curve n p.2⟩
  nsmul_zero _ := rfl
  nsmul_succ _ _ := rfl
  zsmul z p := ⟨zsmulF z p.1, zsmulF_on_curve z p.2⟩
  zsmul_zero' _ := rfl
  zsmul_succ' _ _ := rfl
  zsmul_neg' _ _ := rfl
  neg_add_cancel p := CurvePt.ext (neg_addF p.2)
  add_comm p q := CurvePt.ext (addF_comm p.1 q.1)

@[simp] theorem val_nsmul (n : ℕ) (p : CurvePt) : (n • p).1 = smulF n p.1 := rfl
@[simp] theorem val_zsmul (z : ℤ) (p : CurvePt) : (z • p).1 = zsmulF z p.1 := rfl

end CurvePt

/-! ### Scalar-multiple laws, from the group structure -/

theorem smulF_add (m n : ℕ) {p : PtF} (hp : OnCurveP p) :
    smulF (m + n) p = addF (smulF m p) (smulF n p) :=
  congrArg CurvePt.val (add_nsmul (⟨p, hp⟩ : CurvePt) m n)

theorem smulF_mul (m n : ℕ) {p : PtF} (hp : OnCurveP p) :
    smulF (m * n) p = smulF m (smulF n p) :=
  congrArg CurvePt.val (mul_nsmul' (⟨p, hp⟩ : CurvePt) m n)

theorem smulF_double (n : ℕ) {p : PtF} (hp : OnCurveP p) :
    smulF (2 * n) p = addF (smulF n p) (smulF n p) := by
  rw [two_mul, smulF_add _ _ hp]

theorem smulF_addF (n : ℕ) {p q : PtF} (hp : OnCurveP p) (hq : OnCurveP q) :
    smulF n (addF p q) = addF (smulF n p) (smulF n q) :=
  congrArg CurvePt.val (nsmul_add (⟨p, hp⟩ : CurvePt) ⟨q, hq⟩ n)

theorem zsmulF_add (m n : ℤ) {p : PtF} (hp : OnCurveP p) :
    zsmulF (m + n) p = addF (zsmulF m p) (zsmulF n p) :=
  congrArg CurvePt.val (add_zsmul (⟨p, hp⟩ : CurvePt) m n)

theorem zsmulF_mul (m n : ℤ) {p : PtF} (hp : OnCurveP p) :
    zsmulF (m * n) p = zsmulF m (zsmulF n p) :=
  congrArg CurvePt.val (mul_zsmul (⟨p, hp⟩ : CurvePt) m n)

theorem zsmulF_neg (m : ℤ) {p : PtF} (hp : OnCurveP p) :
    zsmulF (-m) p = negF (zsmulF m p) :=
  congrArg CurvePt.val (neg_zsmul (⟨p, hp⟩ : CurvePt) m)

theorem addF_left_cancel {p q r : PtF} (hp : OnCurveP p) (hq : OnCurveP q) (hr : OnCurveP r)
    (h : addF p q = addF p r) : q = r := by
  have : (⟨p, hp⟩ : CurvePt) + ⟨q, hq⟩ = ⟨p, hp⟩ + ⟨r, hr⟩ := CurvePt.ext h
  exact congrArg CurvePt.val (add_left_cancel this)

/-! ### The MSB-first double-and-add ladder -/

/-- one ladder step of `component_mul_point`: `acc ← (acc + acc) + (if b then P else O)` -/
def ladderStepF (P : PtF) (acc : PtF) (b : Bool) : PtF :=
  addF (addF acc acc) (if b then P else idF)

/-- the ladder over a bit list, most significant bit first, from accumulator `acc` -/
def ladderF (P : PtF) (bits : List Bool) (acc : PtF) : PtF := bits.foldl (ladderStepF P) acc

@[simp] theorem ladderF_nil (P acc : PtF) : ladderF P [] acc = acc := rfl
@[simp] theorem ladderF_cons (P acc : PtF) (b : Bool) (bs : List Bool) :
    ladderF P (b :: bs) acc = ladderF P bs (ladderStepF P acc b) := rfl
theorem ladderStepF_on_curve {P acc : PtF} (hP : OnCurveP P) (ha : OnCurveP acc) (b : Bool) :
    OnCurveP (ladderStepF P acc b) := by
  unfold ladderStepF
  apply add_on_curveP (add_on_curveP ha ha)
  cases b
  · exact id_on_curveP
  · exact hP

theorem ladderF_on_curve {P : PtF} (hP : OnCurveP P) (bits : List Bool) {acc : PtF}
    (ha : OnCurveP acc) : OnCurveP (ladderF P bits acc) := by
  induction bits generalizing acc with
  | nil => exact ha
  | cons b bs ih => exact ih (ladderStepF_on_curve hP ha b)

/-- starting from `[n]P`, the ladder over `bits` ends in `[bitsValMSB bits n]P` -/
theorem ladder_from {P : PtF} (hP : OnCurveP P) (bits : List Bool) (n : ℕ) :
    ladderF P bits (smulF n P) = smulF (bitsValMSB bits n) P :=
  ladder_rep (G := CurvePt) (Rep := fun X Q => X = Q.val) (P := ⟨P, hP⟩) (step := ladderStepF P)
    (fun {acc A} b ha => by subst ha; cases b <;> simp [ladderStepF, addF_id])
    bits (acc := smulF n P) (n := n) rfl

/-- the MSB-first double-and-add ladder from the identity computes the scalar multiple (defined
    by repeated addition) by the number the bits denote -/
theorem ladder_is_scalar_mul {P : PtF} (hP : OnCurveP P) (bits : List Bool) :
    ladderF P bits idF = smulF (bitsValMSB bits 0) P := by
  have := ladder_from hP bits 0
  simpa using this

theorem bitsValMSB_append (bs cs : List Bool) (n : ℕ) :
    bitsValMSB (bs ++ cs) n = bitsValMSB cs (bitsValMSB bs n) := by
  unfold bitsValMSB; rw [List.foldl_append]

theorem bitsValMSB_eq (bits : List Bool) (n : ℕ) :
    bitsValMSB bits n = n * 2 ^ bits.length + bitsValMSB bits 0 := by
  induction bits generalizing n with
  | nil => simp
  | cons b bs ih =>
    rw [bitsValMSB_cons, ih, bitsValMSB_cons, ih (2 * 0 + b.toNat), List.length_cons, pow_succ]
    ring

/-- little-endian value -/
def bitsValLE : List Bool → ℕ
  | [] => 0
  | b :: bs => b.toNat + 2 * bitsValLE bs

/-- `bitsValMSB` of the reversed little-endian bit list is the usual binary value -/
theorem bitsValMSB_reverse (bits : List Bool) : bitsValMSB bits.reverse 0 = bitsValLE bits := by
  induction bits with
  | nil => rfl
  | cons b bs ih =>
    rw [List.reverse_cons, bitsValMSB_append, ih]
    simp [bitsValLE]; ring

theorem bitsValLE_lt (bits : List Bool) : bitsValLE bits < 2 ^ bits.length := by
  induction bits with
  | nil => simp [bitsValLE]
  | cons b bs ih =>
    rw [bitsValLE, List.length_cons, pow_succ]
    have := Bool.toNat_le b
    omega

/-! ### Doubling chains and the cofactor -/

theorem smulF_pow_two_succ (k : ℕ) {p : PtF} (hp : OnCurveP p) :
    smulF (2 ^ (k+1)) p = addF (smulF (2 ^ k) p) (smulF (2 ^ k) p) := by
  rw [pow_succ, mul_comm, smulF_double _ hp]

/-- three doublings are multiplication by the cofactor `8` -/
theorem dbl3_eq_smul8 {q : PtF} (hq : OnCurveP q) :
    addF (addF (addF q q) (addF q q)) (addF (addF q q) (addF q q)) = smulF 8 q := by
  have h1 : smulF 2 q = addF q q := smulF_two q
  have h2 : smulF 4 q = addF (smulF 2 q) (smulF 2 q) := smulF_double 2 hq
  have h3 : smulF 8 q = addF (smulF 4 q) (smulF 4 q) := smulF_double 4 hq
  rw [h3, h2, h1]

theorem RJ_eight_inv : 8 * Generated.EIGHT_INV % RJ = 1 := by decide +kernel

/-- a curve point killed by `r_J` is `[8]` of a curve point, namely of `[8⁻¹ mod r_J]P`
    (the host-side witness of `assert_torsion_free_point`) -/
theorem eight_smul_eight_inv {p : PtF} (hp : OnCurveP p) (hk : smulF RJ p = idF) :
    smulF 8 (smulF Generated.EIGHT_INV p) = p := by
  rw [← smulF_mul _ _ hp]
  have h := Nat.div_add_mod (8 * Generated.EIGHT_INV) RJ
  rw [RJ_eight_inv] at h
  rw [← h, smulF_add _ _ hp, mul_comm, smulF_mul _ _ hp, hk, smulF_id, smulF_one, id_addF]

/-! ### Signed-digit accumulation (fixed-base ladder) -/

/-- the fixed-base accumulation `acc ← acc + eᵢ•[kᵢ]G` over a list of `(digit, multiplier)` -/
def signedAccF (G : PtF) (l : List (ℤ × ℕ)) (acc : PtF) : PtF :=
  l.foldl (fun acc ek => addF acc (zsmulF ek.1 (smulF ek.2 G))) acc

/-- the integer the digits denote: `Σ eᵢ·kᵢ` -/
def signedSum (l : List (ℤ × ℕ)) : ℤ := (l.map fun ek => ek.1 * (ek.2 : ℤ)).sum

theorem signedAcc_from {G : PtF} (hG : OnCurveP G) (l : List (ℤ × ℕ)) (z : ℤ) :
    signedAccF G l (zsmulF z G) = zsmulF (z + signedSum l) G := by
  induction l generalizing z with
  | nil => simp [signedAccF, signedSum]
  | cons ek l ih =>
    have step : addF (zsmulF z G) (zsmulF ek.1 (smulF ek.2 G)) = zsmulF (z + ek.1 * ek.2) G := by
      rw [zsmulF_add _ _ hG, zsmulF_mul _ _ hG, zsmulF_natCast]
    show signedAccF G l (addF (zsmulF z G) (zsmulF ek.1 (smulF ek.2 G))) = _
    rw [step, ih]
    congr 1
    simp [signedSum]; ring

/-- the fixed-base accumulation from the identity computes `[Σ eᵢ·kᵢ]G` -/
theorem signedAcc_is_scalar_mul {G : PtF} (hG : OnCurveP G) (l : List (ℤ × ℕ)) :
    signedAccF G l idF = zsmulF (signedSum l) G := by
  have := signedAcc_from hG l 0
  simpa using this

/-! ### Model-level corollaries (about `edAddOrId` itself) -/

theorem toFP_inj {p q : Pt} (hp1 : p.1 < R) (hp2 : p.2 < R) (hq1 : q.1 < R) (hq2 : q.2 < R) :
    toFP p = toFP q ↔ p = q := by
  unfold toFP
  rw [Prod.mk.injEq, toF_inj_of_lt hp1 hq1, toF_inj_of_lt hp2 hq2]
  constructor
  · rintro ⟨h1, h2⟩; exact Prod.ext h1 h2
  · rintro rfl; exact ⟨rfl, rfl⟩

/-- the host-side addition is associative on curve points -/
theorem edAddOrId_assoc (p q r : Pt) (hp : onCurve p = true) (hq : onCurve q = true)
    (hr : onCurve r = true) :
    edAddOrId (edAddOrId p q) r = edAddOrId p (edAddOrId q r) := by
  have hpq := edAddOrId_on_curve p q hp hq
  have hqr := edAddOrId_on_curve q r hq hr
  have l1 := edAddOrId_lt (edAddOrId p q) r
  have l2 := edAddOrId_lt p (edAddOrId q r)
  rw [← toFP_inj l1.1 l1.2 l2.1 l2.2, toFP_edAddOrId _ _ hpq hr, toFP_edAddOrId _ _ hp hq,
    toFP_edAddOrId _ _ hp hqr, toFP_edAddOrId _ _ hq hr]
  exact addF_assoc ((onCurve_iff_P p).mp hp) ((onCurve_iff_P q).mp hq) ((onCurve_iff_P r).mp hr)

/-- the host-side addition is commutative on curve points -/
theorem edAddOrId_comm (p q : Pt) (hp : onCurve p = true) (hq : onCurve q = true) :
    edAddOrId p q = edAddOrId q p := by
  have l1 := edAddOrId_lt p q
  have l2 := edAddOrId_lt q p
  rw [← toFP_inj l1.1 l1.2 l2.1 l2.2, toFP_edAddOrId _ _ hp hq, toFP_edAddOrId _ _ hq hp]
  exact addF_comm _ _

/-- the host-side MSB-first ladder (the witness computation of `component_mul_point`) -/
def ladderModel (P : Pt) (bits : List Bool) (acc : Pt) : Pt :=
  bits.foldl (fun acc b => edAddOrId (edAddOrId acc acc) (if b then P else Pt.id)) acc

theorem ladderModel_spec (P : Pt) (hP : onCurve P = true) (bits : List Bool) (acc : Pt)
    (ha : onCurve acc = true) :
    onCurve (ladderModel P bits acc) = true ∧
    toFP (ladderModel P bits acc) = ladderF (toFP P) bits (toFP acc) := by
  induction bits generalizing acc with
  | nil => exact ⟨ha, rfl⟩
  | cons b bs ih =>
    have h2 := edAddOrId_on_curve acc acc ha ha
    have hsel : onCurve (if b then P else Pt.id) = true := by
      cases b
      · exact id_on_curve_model
      · exact hP
    have h3 := edAddOrId_on_curve _ _ h2 hsel
    obtain ⟨i1, i2⟩ := ih _ h3
    refine ⟨i1, ?_⟩
    show toFP (ladderModel P bs _) = ladderF (toFP P) bs (ladderStepF (toFP P) (toFP acc) b)
    rw [i2, toFP_edAddOrId _ _ h2 hsel, toFP_edAddOrId _ _ ha ha]
    unfold ladderStepF
    cases b <;> simp [toFP_id]

/-- the model's ladder from the identity computes `[bits]P` -/
theorem ladderModel_is_scalar_mul (P : Pt) (hP : onCurve P = true) (bits : List Bool) :
    onCurve (ladderModel P bits Pt.id) = true ∧
    toFP (ladderModel P bits Pt.id) = smulF (bitsValMSB bits 0) (toFP P) := by
  obtain ⟨h1, h2⟩ := ladderModel_spec P hP bits Pt.id id_on_curve_model
  refine ⟨h1, ?_⟩
  rw [h2, toFP_id]
  exact ladder_is_scalar_mul ((onCurve_iff_P P).mp hP) bits

/-! ### The group order, as a hypothesis -/

/-- The only assumption about the JubJub group: its order `8·r_J` kills every curve point.
    Used only in `smul_RJ_smul_eight` and `mem_eight_iff`. -/
structure JubjubGroupFacts : Prop where
  order : ∀ p : PtF, OnCurveP p → smulF (8 * RJ) p = idF

namespace JubjubGroupFacts

/-- associativity; the hypothesis is not used (`addF_assoc`) -/
theorem assoc (_ : JubjubGroupFacts) (p q r : PtF) (hp : OnCurveP p) (hq : OnCurveP q)
    (hr : OnCurveP r) : addF (addF p q) r = addF p (addF q r) := addF_assoc hp hq hr

/-- `[r_J]([8]Q) = O` for every curve point (group order `8·r_J`) -/
theorem smul_RJ_smul_eight (H : JubjubGroupFacts) {q : PtF} (hq : OnCurveP q) :
    smulF RJ (smulF 8 q) = idF := by
  rw [← smulF_mul _ _ hq, mul_comm]; exact H.order q hq

/-- `P ∈ [8]·E(F_r)` iff `P` is on the curve and `[r_J]P = O`.
    Only the direction `→` uses the hypothesis. -/
theorem mem_eight_iff (H : JubjubGroupFacts) (p : PtF) :
    (∃ q : PtF, OnCurveP q ∧ smulF 8 q = p) ↔ OnCurveP p ∧ smulF RJ p = idF := by
  constructor
  · rintro ⟨q, hq, rfl⟩
    exact ⟨smulF_on_curve 8 hq, H.smul_RJ_smul_eight hq⟩
  · rintro ⟨hp, hk⟩
    exact ⟨smulF Generated.EIGHT_INV p, smulF_on_curve _ hp, eight_smul_eight_inv hp hk⟩

/-- the ladder computes the scalar multiple; the hypothesis is not used
    (`Plonk.ladder_is_scalar_mul`) -/
theorem ladder_is_scalar_mul (_ : JubjubGroupFacts) {P : PtF} (hP : OnCurveP P)
    (bits : List Bool) : ladderF P bits idF = smulF (bitsValMSB bits 0) P :=
  Plonk.ladder_is_scalar_mul hP bits

end JubjubGroupFacts

end Plonk
