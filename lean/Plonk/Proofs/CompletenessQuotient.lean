/-
  C01 (completeness): the quotient polynomial the model's `prove` computes.

  `prove` evaluates `Num/Z_H` on the coset `g·⟨ω₈⟩` of size `8n` (`quotientEvals`, C05
  `quotient_in_prove`) and interpolates: `tPoly := ofCoeffs (d8.cosetIfft quot)`.  If the numerator is
  `T·(Xⁿ − 1)` with `deg T < 8n`, the interpolant IS `T` (`tPoly_eq_quotient`): two polynomials of
  degree `< 8n` agreeing on `8n` points.  Hence `tPoly.length ≤ deg T + 1` (`quotient_list_fits`); with
  the honest bound `deg T ≤ 4n + 6` (needs `n ≥ 2` for `4n + 6 < 8n`) the list has `≤ 4n + 7` entries,
  which is `≤ 7n` — `prove` does not report `circuitUnsatisfied` — as soon as `n ≥ 3`.
-/
import Plonk.Proofs.QuotientCoset
import Plonk.Proofs.ProverMask
import Plonk.Proofs.CompletenessCore

namespace Plonk.Complete
open Polynomial Plonk Plonk.Quot

/-- the coset points `g·ω₈^i`, `i < 8n`, are pairwise distinct -/
theorem coset_points_card {d8 : Domain} (h8 : d8.WF) :
    ((Finset.range d8.size).image fun i => toF GENERATOR * toF d8.groupGen ^ i).card = d8.size := by
  rw [Finset.card_image_of_injOn, Finset.card_range]
  intro i hi j hj hij
  have := mul_left_cancel₀ generator_ne_zero hij
  exact h8.prim.pow_inj (Finset.mem_range.mp (Finset.mem_coe.mp hi))
    (Finset.mem_range.mp (Finset.mem_coe.mp hj)) this

theorem quotientEvals_length (size8 : Nat) (selE sigE8 : Array (Array Nat))
    (linE aE bE cE dE zE piE vh vhInv8 l1Den : Array Nat)
    (nInv8 beta gamma alpha rSep lSep fSep vSep : Nat) :
    (quotientEvals size8 selE sigE8 linE aE bE cE dE zE piE vh vhInv8 l1Den nInv8 beta gamma alpha
      rSep lSep fSep vSep).length = size8 :=
  (List.length_map _).trans List.length_range

/-- **the interpolant of the coset quotient values is the quotient** -/
theorem tPoly_eq_quotient (m : Nat) (d d8 : Domain) (hd : Domain.new? m = some d)
    (hd8 : Domain.new? (8 * d.size) = some d8) (sel sigma : Array Poly) (aP bP cP dP zP piP : Poly)
    (vh linE : Array Nat) (hvh : vh = (d8.vanishingOverCoset d.size).toArray)
    (hlin : linE = (d8.cosetFft [0, 1]).toArray)
    (beta gamma alpha rSep lSep fSep vSep : Nat) (T : F[X])
    (hT : NumP (toF d.groupGen) d.size (polysOf sel sigma aP bP cP dP zP piP)
      ⟨toF beta, toF gamma, toF alpha⟩ ⟨toF rSep, toF lSep, toF fSep, toF vSep⟩ =
        T * (X ^ d.size - 1))
    (hdeg : T.degree < d8.size) :
    toPoly (Poly.ofCoeffs (d8.cosetIfft
      (quotientEvals d8.size (sel.map fun p => (d8.cosetFft p).toArray)
        (sigma.map fun p => (d8.cosetFft p).toArray) linE (cosetEvals d8 aP) (cosetEvals d8 bP)
        (cosetEvals d8 cP) (cosetEvals d8 dP) (cosetEvals d8 zP) (d8.cosetFft piP).toArray vh
        (batchInversion ((vh.toList).take 8)).toArray
        (batchInversion (linE.toList.map fun e => fsub e 1)).toArray (fmul d8.sizeInv 8)
        beta gamma alpha rSep lSep fSep vSep))) = T := by
  have h8 := Domain.new?_WF _ d8 hd8
  generalize hq : quotientEvals d8.size (sel.map fun p => (d8.cosetFft p).toArray)
        (sigma.map fun p => (d8.cosetFft p).toArray) linE (cosetEvals d8 aP) (cosetEvals d8 bP)
        (cosetEvals d8 cP) (cosetEvals d8 dP) (cosetEvals d8 zP) (d8.cosetFft piP).toArray vh
        (batchInversion ((vh.toList).take 8)).toArray
        (batchInversion (linE.toList.map fun e => fsub e 1)).toArray (fmul d8.sizeInv 8)
        beta gamma alpha rSep lSep fSep vSep = quot
  have hlen : quot.length = d8.size := by rw [← hq]; exact quotientEvals_length ..
  have hcl : (d8.cosetIfft quot).length = d8.size := Domain.cosetIfft_length h8 (le_refl 1) quot
  rw [toPoly_ofCoeffs]
  apply eq_of_degrees_lt_of_eval_finset_eq
    ((Finset.range d8.size).image fun i => toF GENERATOR * toF d8.groupGen ^ i)
  · rw [coset_points_card h8]
    have := ProverMask.degree_toPoly_lt (d8.cosetIfft quot)
    rwa [hcl] at this
  · rw [coset_points_card h8]; exact hdeg
  · intro x hx
    obtain ⟨i, hi, rfl⟩ := Finset.mem_image.mp hx
    have hi' : i < d8.size := Finset.mem_range.mp hi
    have hne := coset_pow_ne_one m d d8 hd hd8 i
    have hne0 : (toF GENERATOR * toF d8.groupGen ^ i) ^ d.size - 1 ≠ 0 := sub_ne_zero.mpr hne
    rw [toPoly_eq_polyN, hcl, Domain.eval_cosetIfft h8 (le_refl 1) quot hlen i hi', ← hq,
      quotient_entry_prove m d d8 hd hd8 sel sigma aP bP cP dP zP piP vh linE hvh hlin beta gamma
        alpha rSep lSep fSep vSep i hi', hT]
    simp only [eval_mul, eval_sub, eval_pow, eval_X, eval_one]
    field_simp

/-- a reduced, trimmed coefficient list (`Poly.ofCoeffs _`) of a polynomial of degree `≤ D` has at
    most `D + 1` entries (with `D = 4n + 6`: the hypothesis of `commitments_fit`) -/
theorem quotient_list_fits (t : List Nat) (hr : Reduced t) (ht : Trimmed t) (D : Nat)
    (hdeg : (toPoly t).natDegree ≤ D) : t.length ≤ D + 1 := by
  by_cases hne : t = []
  · rw [hne]; simp
  · have := (length_of_trimmed hr ht hne).1
    omega

theorem natDegree_toPoly_le (p : List Nat) : (toPoly p).natDegree ≤ p.length - 1 := by
  by_cases h : p = []
  · subst h; simp
  · have := ProverMask.natDegree_toPoly_lt p h
    omega

/-- the degree profile of the polynomials behind coefficient lists, from the list lengths -/
theorem polysDeg2_of_lengths (sel sigma : Array Poly) (aP bP cP dP zP piP : Poly) (e f : Nat)
    (hsel : ∀ j, (sel.getD j []).length ≤ e + 1) (hsig : ∀ j, (sigma.getD j []).length ≤ e + 1)
    (ha : aP.length ≤ e + 1) (hb : bP.length ≤ e + 1) (hc : cP.length ≤ e + 1)
    (hd : dP.length ≤ e + 1) (hpi : piP.length ≤ e + 1) (hz : zP.length ≤ f + 1) :
    PolysDeg2 (polysOf sel sigma aP bP cP dP zP piP) e f := by
  have k (p : List Nat) (m : Nat) (h : p.length ≤ m + 1) : (toPoly p).natDegree ≤ m := by
    have := natDegree_toPoly_le p; omega
  refine ⟨⟨?_, ?_, ?_, ?_, ?_, ?_, ?_, ?_, ?_, ?_, ?_⟩, ?_, ?_, ?_, ?_, ?_, ?_, ?_, ?_, ?_, ?_⟩
  -- as for `modelPolys_deg`: unfold `polysOf` before the fields are compared
  all_goals dsimp only [polysOf]
  exacts [k _ _ (hsel 0), k _ _ (hsel 1), k _ _ (hsel 2), k _ _ (hsel 3), k _ _ (hsel 4),
    k _ _ (hsel 5), k _ _ (hsel 6), k _ _ (hsel 7), k _ _ (hsel 8), k _ _ (hsel 9),
    k _ _ (hsel 10), k _ _ ha, k _ _ hb, k _ _ hc, k _ _ hd, k _ _ hpi, k _ _ (hsig 0),
    k _ _ (hsig 1), k _ _ (hsig 2), k _ _ (hsig 3), k _ _ hz]

end Plonk.Complete
