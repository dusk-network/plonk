/-
  C01 (completeness): the verifier's side.

  With `Num = T·(Xⁿ − 1)`, the quotient shares recombining to `T` (`quotientOf ι p n = T`, what
  `ProverMask.split_recombine` proves of the model's `splitQuotient`) and TRUE evaluations, the
  model verifier's linearisation polynomial `D − u·Z` (`linearizationTerms`) takes the value `−r₀`
  (`r0Eval`) at the challenge point (`linPoly_eval`).  `openPolys / openEvals / openCount / openPoint
  / openChal` are the two aggregated openings of the protocol (at `z`: `D − u·Z, a, b, c, d, σ₁, σ₂,
  σ₃, q_arith, q_c, q_l, q_r` — the last four only in V2/V3 — with claimed values `−r₀, ā, …`; at
  `ω·z`: `Z, a, b, d`), in the shape of `Props/C02.forged_evaluation_rejected`; honest witnesses and
  true evaluations pass the batched check in the trapdoor view, for EVERY `g`.

  `VerifierM.verify` accepts iff `[x]·(Σ left) + Σ right = O` for the term lists of the model's
  `verifyTerms` (C03 `accept_iff_equation`).  Interpreting every point by the commitment `[q(x)]g`
  of the polynomial `q = ι c` it commits to (the trapdoor view of the honest prover's commitments,
  C20 `commit_eval`), `verify_msm_zero` shows that for the honest prover's polynomials this
  combination IS zero: `x • evalTerms ι' left + evalTerms ι' right = 0`, `ι' c = commit x g (ι c)`,
  for every trapdoor, every `g` and all challenges.  The only missing link to `verify = .ok` is (A3)
  of C02: `G1.msum / G1.smul / G1.add` compute `Σ sᵢ•Pᵢ` in a prime-order group.
-/
import Plonk.Proofs.SoundnessVerifier
import Plonk.Proofs.SoundnessOpen
import Plonk.Proofs.CompletenessCore

namespace Plonk.Complete
open Polynomial Plonk Plonk.Quot Plonk.Sound
open Plonk.KzgMath (agg aggL defect)

/-- the polynomial behind `[D] − u·[z]`, the first commitment of the opening at `z` -/
noncomputable def linPoly (ι : G1 → F[X]) (k : VKey) (p : ProofM) (ch : Challenges) (zh l1 : Nat) :
    F[X] :=
  evalTerms ι (linearizationTerms k p ch zh l1) - toF ch.u • ι p.zC

/-- **the verifier's opening claim `(D − u·Z)(z) = −r₀` holds for the honest quotient** -/
theorem linPoly_eval (ι : G1 → F[X]) (k : VKey) (p : ProofM) (ch : Challenges) (zh l1 piEval : Nat)
    (ω : F) (n : ℕ) (P : ProverPolys F) (A : AgmRep ι k p P) (E : TrueEvals ω (toF ch.z) p.ev P)
    (hzh : toF zh = toF ch.z ^ n - 1) (hl1 : toF l1 = (L1P n).eval (toF ch.z))
    (hpi : toF piEval = P.pi.eval (toF ch.z)) (T : F[X]) (hq : quotientOf ι p n = T)
    (hT : NumP ω n P ⟨toF ch.beta, toF ch.gamma, toF ch.alpha⟩
      ⟨toF ch.rangeSep, toF ch.logicSep, toF ch.fixedSep, toF ch.varSep⟩ = T * (X ^ n - 1)) :
    (linPoly ι k p ch zh l1).eval (toF ch.z) = - toF (r0Eval p.ev ch l1 piEval) := by
  unfold linPoly
  rw [verifier_claim_iff_quotient_identity ι k p ch zh l1 piEval ω n P A E hzh hl1 hpi, hq]
  exact eval_of_quotient _ T hT _

/-- the polynomials opened at `z` (index `0`) and at `ω·z` (index `1`) -/
noncomputable def openPolys (D : F[X]) (P : ProverPolys F) (i j : ℕ) : F[X] :=
  if i = 0 then
    ([D, P.a, P.b, P.c, P.d, P.s1, P.s2, P.s3, P.Q.qarith, P.Q.qc, P.Q.ql, P.Q.qr] : List F[X]).getD j 0
  else ([P.z, P.a, P.b, P.d] : List F[X]).getD j 0

/-- the claimed evaluations: `−r₀` for `D − u·Z`, then the evaluations carried by the proof -/
def openEvals (r0 : F) (e : Evals) (i j : ℕ) : F :=
  if i = 0 then
    ([-r0, toF e.a, toF e.b, toF e.c, toF e.d, toF e.s1, toF e.s2, toF e.s3, toF e.qarith, toF e.qc,
      toF e.ql, toF e.qr] : List F).getD j 0
  else ([toF e.z, toF e.aw, toF e.bw, toF e.dw] : List F).getD j 0

/-- number of polynomials per point: `12` at `z` (`8` in the legacy V1 equation), `4` at `ω·z` -/
def openCount (legacy : Bool) (i : ℕ) : ℕ := if i = 0 then (if legacy then 8 else 12) else 4

/-- the two opening points -/
def openPoint (ω z : F) (i : ℕ) : F := if i = 0 then z else ω * z

/-- the two aggregation challenges -/
def openChal (v vw : F) (i : ℕ) : F := if i = 0 then v else vw

theorem open_evals_true {ω z : F} {e : Evals} {P : ProverPolys F} (E : TrueEvals ω z e P) (D : F[X])
    (r0 : F) (hD : D.eval z = -r0) (legacy : Bool) :
    ∀ i < 2, ∀ j < openCount legacy i,
      openEvals r0 e i j = (openPolys D P i j).eval (openPoint ω z i) := by
  intro i hi j hj
  have hj12 : i = 0 → j < 12 := by
    intro h0
    rw [openCount, if_pos h0] at hj
    cases legacy <;> simp at hj <;> omega
  interval_cases i
  · have := hj12 rfl
    simp only [openEvals, openPolys, openPoint, if_true]
    interval_cases j
    exacts [hD.symm, E.a, E.b, E.c, E.d, E.s1, E.s2, E.s3, E.qarith, E.qc, E.ql, E.qr]
  · have hj4 : j < 4 := by simpa [openCount] using hj
    simp only [openEvals, openPolys, openPoint, if_neg (by omega : ¬ (1 = 0))]
    interval_cases j
    exacts [E.z, E.aw, E.bw, E.dw]

section batch
variable {G : Type*} [AddCommGroup G] [Module F G]

/-- **honest witnesses and true evaluations pass the batched opening check** (trapdoor view), for
    every `g`, `x`, `u`, `vᵢ` — the completeness half of `Sound.batch_open_sound` -/
theorem batch_check_of_true_evals (g : G) (x u : F) (n : ℕ) (v z : ℕ → F) (k : ℕ → ℕ)
    (p : ℕ → ℕ → F[X]) (e : ℕ → ℕ → F)
    (he : ∀ i < n, ∀ j < k i, e i j = (p i j).eval (z i)) :
    x • agg u n (fun i => KzgMath.commit x g (agg (v i) (k i) (p i) /ₘ (X - C (z i))))
        = agg u n (fun i => agg (v i) (k i) (fun j => KzgMath.commit x g (p i j))
            + z i • KzgMath.commit x g (agg (v i) (k i) (p i) /ₘ (X - C (z i))))
          - agg u n (fun i => agg (v i) (k i) (e i)) • g := by
  rw [← sub_eq_zero, KzgMath.batch_check_sub_defect g x u n v z k p e _ fun i _ =>
      KzgMath.divByMonic_quot _ (z i),
    KzgMath.agg_eq_zero u n fun i hi => KzgMath.defect_eq_zero_of_true v z k p e i (he i hi), zero_smul]

end batch

section
variable {G : Type*} [AddCommGroup G] [Module F G]

theorem evalTerms_commit (x : F) (g : G) (ι : G1 → F[X]) (ts : List (Nat × G1)) :
    evalTerms (fun c => KzgMath.commit x g (ι c)) ts = KzgMath.commit x g (evalTerms ι ts) := by
  induction ts with
  | nil => simp [KzgMath.commit_zero]
  | cons t ts ih =>
    obtain ⟨s, c⟩ := t
    rw [evalTerms_cons, evalTerms_cons, ih, KzgMath.commit_add, KzgMath.commit_smul]

/-- the interpretation of the remaining commitments: wires, opened key polynomials, the generator
    and the two opening witnesses -/
structure OpenRep (ι : G1 → F[X]) (vk : VKey) (g1 : G1) (p : ProofM) (P : ProverPolys F)
    (Wz Wzw : F[X]) : Prop where
  a : ι p.aC = P.a
  b : ι p.bC = P.b
  c : ι p.cC = P.c
  d : ι p.dC = P.d
  s1 : ι vk.s1 = P.s1
  s2 : ι vk.s2 = P.s2
  s3 : ι vk.s3 = P.s3
  qarith : ι vk.qarith = P.Q.qarith
  g : ι g1 = 1
  wz : ι p.wz = Wz
  wzw : ι p.wzw = Wzw

/-- **the model verifier's grouped MSM vanishes on the honest prover's data**: the current
    equation (V2/V3, twelve polynomials opened at `z`) and the legacy V1 equation (`verify_legacy`:
    seven commitments besides `D − u·Z`) -/
theorem verify_msm_zero (legacy : Bool) (g : G) (x : F) (ι : G1 → F[X]) (vk : VKey) (g1 : G1)
    (d : Domain) (roots pis : List Nat) (p : ProofM) (ch : Challenges) (l1 piEval : Nat)
    (right left : List (Nat × G1))
    (hlp : d.lagrangeAndPi roots pis ch.z = some (l1, piEval))
    (hc : verifyTerms vk g1 d roots pis p ch legacy = some (right, left))
    (n : ℕ) (P : ProverPolys F) (A : AgmRep ι vk p P)
    (E : TrueEvals (toF d.groupGen) (toF ch.z) p.ev P)
    (hzh : toF (d.evaluateVanishing ch.z) = toF ch.z ^ n - 1)
    (hl1 : toF l1 = (L1P n).eval (toF ch.z)) (hpi : toF piEval = P.pi.eval (toF ch.z))
    (T : F[X]) (hq : quotientOf ι p n = T)
    (hT : NumP (toF d.groupGen) n P ⟨toF ch.beta, toF ch.gamma, toF ch.alpha⟩
      ⟨toF ch.rangeSep, toF ch.logicSep, toF ch.fixedSep, toF ch.varSep⟩ = T * (X ^ n - 1))
    (O : OpenRep ι vk g1 p P
      (agg (toF ch.v) (openCount legacy 0)
        (openPolys (linPoly ι vk p ch (d.evaluateVanishing ch.z) l1) P 0) /ₘ (X - C (toF ch.z)))
      (agg (toF ch.vw) 4 (openPolys (linPoly ι vk p ch (d.evaluateVanishing ch.z) l1) P 1) /ₘ
        (X - C (toF d.groupGen * toF ch.z)))) :
    x • evalTerms (fun c => KzgMath.commit x g (ι c)) left +
      evalTerms (fun c => KzgMath.commit x g (ι c)) right = 0 := by
  obtain ⟨_, _, ref, _, hr⟩ := verifyTerms_some_of_lagrange vk g1 d roots pis p ch legacy
    (by rw [hlp]; simp)
  obtain ⟨e1, e2⟩ := verifyCode_eq_verifyRef (fun c => KzgMath.commit x g (ι c)) vk g1 d roots pis p
    ch legacy right left ref hc hr
  have hD := linPoly_eval ι vk p ch (d.evaluateVanishing ch.z) l1 piEval (toF d.groupGen) n P A E
    hzh hl1 hpi T hq hT
  set D := linPoly ι vk p ch (d.evaluateVanishing ch.z) l1 with hDdef
  rw [e1, e2, verifyRef_batched _ vk g1 d roots pis p ch legacy l1 piEval ref hlp hr, evalTerms_commit,
    show KzgMath.commit x g (evalTerms ι (linearizationTerms vk p ch (d.evaluateVanishing ch.z) l1)) -
      toF ch.u • KzgMath.commit x g (ι p.zC) = KzgMath.commit x g D by
        rw [hDdef, linPoly, KzgMath.commit_sub, KzgMath.commit_smul]]
  -- the two batches are the commitments resp. the values at the point of the opened polynomials
  have hz : agg (toF ch.v) (openCount legacy 0) (openPolys D P 0) =
      aggL (toF ch.v) (([D, P.a, P.b, P.c, P.d, P.s1, P.s2, P.s3, P.Q.qarith, P.Q.qc, P.Q.ql, P.Q.qr]).take
        (openCount legacy 0)) := by
    rw [KzgMath.aggL_take _ _ _ (by cases legacy <;> exact Nat.le_of_ble_eq_true rfl)]; rfl
  have hw : agg (toF ch.vw) 4 (openPolys D P 1) = aggL (toF ch.vw) [P.z, P.a, P.b, P.d] :=
    (KzgMath.aggL_eq_agg _ _).symm
  have cz : KzgMath.commit x g D :: (openedZ vk p legacy).map (fun c => KzgMath.commit x g (ι c.2)) =
      (([D, P.a, P.b, P.c, P.d, P.s1, P.s2, P.s3, P.Q.qarith, P.Q.qc, P.Q.ql, P.Q.qr]).take
        (openCount legacy 0)).map (KzgMath.commit x g) := by
    cases legacy <;>
      simp only [openedZ, openCount, if_true, List.map_cons, List.map_nil, List.take_succ_cons, List.take_zero,
        List.cons_append, List.nil_append, List.append_nil, Bool.false_eq_true, if_false,
        O.a, O.b, O.c, O.d, O.s1, O.s2, O.s3, O.qarith, A.qc, A.ql, A.qr]
  have ez : -toF (r0Eval p.ev ch l1 piEval) :: (openedZ vk p legacy).map (fun c => toF c.1) =
      (([D, P.a, P.b, P.c, P.d, P.s1, P.s2, P.s3, P.Q.qarith, P.Q.qc, P.Q.ql, P.Q.qr]).take
        (openCount legacy 0)).map (eval (toF ch.z)) := by
    cases legacy <;>
      simp only [openedZ, openCount, if_true, List.map_cons, List.map_nil, List.take_succ_cons, List.take_zero,
        List.cons_append, List.nil_append, List.append_nil, Bool.false_eq_true, if_false,
        hD, E.a, E.b, E.c, E.d, E.s1, E.s2, E.s3, E.qarith, E.qc, E.ql, E.qr]
  have cw : (openedZw p).map (fun c => KzgMath.commit x g (ι c.2)) = [P.z, P.a, P.b, P.d].map (KzgMath.commit x g) := by
    simp only [openedZw, List.map_cons, List.map_nil, A.z, O.a, O.b, O.d]
  have ew : (openedZw p).map (fun c => toF c.1) =
      [P.z, P.a, P.b, P.d].map (eval (toF d.groupGen * toF ch.z)) := by
    simp only [openedZw, List.map_cons, List.map_nil, E.z, E.aw, E.bw, E.dw]
  rw [cz, ez, cw, ew, KzgMath.aggL_map_commit, KzgMath.aggL_map_commit, KzgMath.aggL_map_eval,
    KzgMath.aggL_map_eval, ← hz, ← hw, O.g, O.wz, O.wzw, KzgMath.commit_eval x g 1, eval_one, one_smul]
  -- what is left is the sum of the two single openings
  have h1 := KzgMath.open_msm_zero x g (agg (toF ch.v) (openCount legacy 0) (openPolys D P 0)) (toF ch.z)
  have h2 := KzgMath.open_msm_zero x g (agg (toF ch.vw) 4 (openPolys D P 1)) (toF d.groupGen * toF ch.z)
  linear_combination (norm := module) h1 + toF ch.u • h2

end

end Plonk.Complete
