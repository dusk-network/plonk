/-
  C19 (FFT half), thread independence: the parallel butterfly (explicit `threads`) computes exactly
  what the serial butterfly chunk computes, for every `threads ≥ 1`; hence `bestFft = serialFft`
  whatever the values of the `Generated.PARALLEL_*` thresholds.
-/
import Plonk.Model.FFT
import Plonk.Proofs.Beside
import Mathlib.Tactic.Ring

namespace Plonk
open List

/-! ### the butterfly loop with its twiddle state -/

/-- loop body of `butterflyRange` -/
def brStep (lo m off wm : Nat) (st : Array Nat × Nat) (j : Nat) : Array Nat × Nat :=
  let (a, w) := st
  let li := lo + off + j
  let ri := lo + m + off + j
  let t := fmul (a.getD ri 0) w
  let l := a.getD li 0
  ((a.setIfInBounds ri (fsub l t)).setIfInBounds li (fadd l t), fmul w wm)

/-- `butterflyRange` together with the final twiddle -/
def brState (a : Array Nat) (lo m off len wm w : Nat) : Array Nat × Nat :=
  (List.range len).foldl (brStep lo m off wm) (a, w)

theorem butterflyRange_eq (a : Array Nat) (lo m off len wm w : Nat) :
    butterflyRange a lo m off len wm w = (brState a lo m off len wm w).1 := rfl

theorem brStep_shift (lo m off wm l1 : Nat) (st : Array Nat × Nat) (j : Nat) :
    brStep lo m off wm st (l1 + j) = brStep lo m (off + l1) wm st j := by
  have e1 : lo + off + (l1 + j) = lo + (off + l1) + j := by simp only [Nat.add_assoc]
  have e2 : lo + m + off + (l1 + j) = lo + m + (off + l1) + j := by simp only [Nat.add_assoc]
  simp only [brStep, e1, e2]

/-- the loop over `l1 + l2` steps is the loop over `l1` steps followed by the loop over `l2` steps
    that starts at offset `off + l1` from the twiddle reached so far -/
theorem brState_add (a : Array Nat) (lo m off l1 l2 wm w : Nat) :
    brState a lo m off (l1 + l2) wm w
      = brState (brState a lo m off l1 wm w).1 lo m (off + l1) l2 wm (brState a lo m off l1 wm w).2 := by
  unfold brState
  rw [List.range_add, List.foldl_append, List.foldl_map]
  simp only [brStep_shift]

theorem brStep_snd (lo m off wm : Nat) (st : Array Nat × Nat) (j : Nat) :
    (brStep lo m off wm st j).2 = fmul st.2 wm := rfl

/-- the twiddle after `len` steps -/
theorem brState_snd_eq (a : Array Nat) (lo m off len wm w : Nat) :
    (brState a lo m off len wm w).2 = geom w wm len :=
  congrArg Prod.snd (foldl_range_beside (fun a w j => (brStep lo m off wm (a, w) j).1) (fmul · wm)
    (geom w wm) (fun _ => rfl) a len)

theorem brState_snd (a : Array Nat) (lo m off len wm w : Nat) (hw : w < R) :
    (brState a lo m off len wm w).2 < R ∧
    toF (brState a lo m off len wm w).2 = toF w * toF wm ^ len := by
  rw [brState_snd_eq]; exact ⟨geom_lt hw wm len, toF_geom w wm len⟩

theorem brState_zero (a : Array Nat) (lo m off wm w : Nat) :
    brState a lo m off 0 wm w = (a, w) := rfl

/-! ### the parallel butterfly -/

/-- loop body of `parallelButterflyChunk` with piece length `L` -/
def pbStep (lo m wm L : Nat) (st : Array Nat × Nat) (r : Nat) : Array Nat × Nat :=
  let (a, seed) := st
  let off := r * L
  let len := min L (m - off)
  (butterflyRange a lo m off len wm seed, fmul seed (fpow wm L))

theorem parallelButterflyChunk_eq (a : Array Nat) (lo m wm threads : Nat) :
    parallelButterflyChunk a lo m wm threads
      = ((List.range (divCeil m (divCeil m threads))).foldl
          (pbStep lo m wm (divCeil m threads)) (a, 1 % R)).1 := rfl

theorem one_mod_R_lt : 1 % R < R := Nat.mod_lt _ R_pos

/-- after `c` pieces of length `L`: the serial loop over the first `min (c·L) m` indices, and the
    seed is the canonical representative of `wm^(c·L)` -/
theorem pb_fold (a : Array Nat) (lo m wm L : Nat) (hL : L < 2 ^ 256) (c : Nat) :
    ((List.range c).foldl (pbStep lo m wm L) (a, 1 % R)).1
        = butterflyRange a lo m 0 (min (c * L) m) wm (1 % R) ∧
    ((List.range c).foldl (pbStep lo m wm L) (a, 1 % R)).2 < R ∧
    toF ((List.range c).foldl (pbStep lo m wm L) (a, 1 % R)).2 = toF wm ^ (c * L) := by
  induction c with
  | zero =>
    refine ⟨?_, one_mod_R_lt, ?_⟩
    · simp [butterflyRange_eq, brState_zero]
    · simp
  | succ c ih =>
    obtain ⟨ih1, ih2, ih3⟩ := ih
    rw [List.range_succ, List.foldl_append]
    simp only [List.foldl_cons, List.foldl_nil]
    generalize ((List.range c).foldl (pbStep lo m wm L) (a, 1 % R)) = st at ih1 ih2 ih3 ⊢
    obtain ⟨b, seed⟩ := st
    simp only at ih1 ih2 ih3
    simp only [pbStep]
    refine ⟨?_, fmul_lt _ _, ?_⟩
    · by_cases hc : c * L < m
      · have e2 : min ((c + 1) * L) m = c * L + min L (m - c * L) := by
          rw [Nat.add_mul, Nat.one_mul, ← Nat.add_min_add_left, Nat.add_sub_cancel' hc.le]
        rw [e2, butterflyRange_eq, butterflyRange_eq, brState_add, ih1, Nat.min_eq_left hc.le,
          butterflyRange_eq, Nat.zero_add]
        congr 2
        have hs := brState_snd a lo m 0 (c * L) wm (1 % R) one_mod_R_lt
        apply (toF_inj_of_lt ih2 hs.1).mp
        rw [ih3, hs.2, toF_mod, toF_one, one_mul]
      · have hc : m ≤ c * L := Nat.le_of_not_lt hc
        rw [Nat.min_eq_right (Nat.le_trans hc (Nat.mul_le_mul_right L (Nat.le_succ c))),
          Nat.sub_eq_zero_of_le hc, Nat.min_zero, ih1, Nat.min_eq_right hc]
        rfl
    · rw [toF_fmul, ih3, toF_fpow _ _ hL]
      rw [Nat.add_mul, Nat.one_mul, pow_add]

/-! `(a + t − 1 − i) / t` counts the `k` with `i + k·t < a`; `i = 0` is `divCeil a t` -/

theorem foldCount_bound (len n i k : Nat) (hi : i < n) (hk : (len + n - 1 - i) / n ≤ k) :
    len ≤ i + k * n := by
  have h1 := Nat.div_add_mod (len + n - 1 - i) n
  have h2 := Nat.mod_lt (len + n - 1 - i) (Nat.zero_lt_of_lt hi)
  have h3 : (len + n - 1 - i) / n * n ≤ k * n := Nat.mul_le_mul_right _ hk
  have h4 : n * ((len + n - 1 - i) / n) = (len + n - 1 - i) / n * n := Nat.mul_comm _ _
  omega

theorem foldCount_le (len n i : Nat) (hi : i < n) : (len + n - 1 - i) / n ≤ len := by
  apply Nat.le_of_lt_succ
  rw [Nat.div_lt_iff_lt_mul (Nat.zero_lt_of_lt hi), Nat.succ_mul]
  have := Nat.le_mul_of_pos_right len (Nat.zero_lt_of_lt hi)
  omega

theorem divCeil_mul_ge (m L : Nat) (hL : 0 < L) : m ≤ divCeil m L * L :=
  (foldCount_bound m L 0 _ hL (Nat.le_refl _)).trans (Nat.zero_add _).le

theorem divCeil_pos (m t : Nat) (hm : 0 < m) (ht : 0 < t) : 0 < divCeil m t := by
  unfold divCeil
  apply Nat.div_pos <;> omega

theorem divCeil_le (m t : Nat) (ht : 0 < t) : divCeil m t ≤ m := foldCount_le m t 0 ht

/-- **thread independence of one chunk**: for every `threads ≥ 1` the parallel butterfly equals the
    serial butterfly chunk (no bounds hypothesis is needed; `m < 2^256` is the range in which the
    model's `fpow` is exponentiation) -/
theorem parallelButterflyChunk_eq_butterflyChunk (a : Array Nat) (lo m wm threads : Nat)
    (ht : 1 ≤ threads) (hm : m < 2 ^ 256) :
    parallelButterflyChunk a lo m wm threads = butterflyChunk a lo m wm := by
  rw [parallelButterflyChunk_eq]
  unfold butterflyChunk
  rcases Nat.eq_zero_or_pos m with h0 | hpos
  · subst h0
    have hL : divCeil 0 threads = 0 := Nat.le_zero.mp (divCeil_le 0 threads ht)
    rw [hL]
    have : divCeil 0 0 = 0 := by decide
    rw [this]; rfl
  · have hLpos := divCeil_pos m threads hpos ht
    have hLle := divCeil_le m threads ht
    have h := (pb_fold a lo m wm (divCeil m threads) (Nat.lt_of_le_of_lt hLle hm)
      (divCeil m (divCeil m threads))).1
    rw [h]
    have := divCeil_mul_ge m (divCeil m threads) hLpos
    rw [Nat.min_eq_right this]

/-! ### `bestFft = serialFft` -/

/-- one stage of `serialFft` -/
def serialStage (n omega : Nat) (st : Array Nat × Nat) : Array Nat × Nat :=
  let (a, m) := st
  let wm := fpow omega (n / (2 * m))
  let a := (List.range (n / (2 * m))).foldl (fun a c => butterflyChunk a (c * 2 * m) m wm) a
  (a, 2 * m)

/-- one stage of `bestFft` -/
def bestStage (n omega threads : Nat) (st : Array Nat × Nat) : Array Nat × Nat :=
  let (a, m) := st
  let wm := fpow omega (n / (2 * m))
  let chunkCount := n / (2 * m)
  let a :=
    if chunkCount ≥ Generated.PARALLEL_FFT_MIN_CHUNKS then
      (List.range chunkCount).foldl (fun a c => butterflyChunk a (c * 2 * m) m wm) a
    else if n ≥ Generated.PARALLEL_FINAL_FFT_MIN_LEN ∧ threads ≥ Generated.PARALLEL_FINAL_FFT_MIN_THREADS then
      (List.range chunkCount).foldl (fun a c => parallelButterflyChunk a (c * 2 * m) m wm threads) a
    else
      (List.range chunkCount).foldl (fun a c => butterflyChunk a (c * 2 * m) m wm) a
  (a, 2 * m)

theorem serialFft_eq_stages (a : Array Nat) (omega logN : Nat) :
    serialFft a omega logN
      = ((List.range logN).foldl (fun st _ => serialStage a.size omega st)
          (bitreversePermute a logN, 1)).1 := rfl

theorem bestFft_eq_stages (a : Array Nat) (omega logN threads : Nat) :
    bestFft a omega logN threads
      = if a.size < Generated.PARALLEL_FFT_MIN_LEN then serialFft a omega logN else
        ((List.range logN).foldl (fun st _ => bestStage a.size omega threads st)
          (bitreversePermute a logN, 1)).1 := rfl

/-- all three arms of the switch inside a stage agree -/
theorem bestStage_eq_serialStage (n omega threads : Nat) (ht : 1 ≤ threads)
    (st : Array Nat × Nat) (hm : st.2 < 2 ^ 256) :
    bestStage n omega threads st = serialStage n omega st := by
  obtain ⟨a, m⟩ := st
  simp only at hm
  have hp : (fun (a : Array Nat) c => parallelButterflyChunk a (c * 2 * m) m
      (fpow omega (n / (2 * m))) threads)
      = (fun a c => butterflyChunk a (c * 2 * m) m (fpow omega (n / (2 * m)))) := by
    funext a c
    exact parallelButterflyChunk_eq_butterflyChunk _ _ _ _ _ ht hm
  simp only [bestStage, serialStage, hp, ite_self]

theorem serialStage_snd (n omega : Nat) (st : Array Nat × Nat) :
    (serialStage n omega st).2 = 2 * st.2 := rfl

theorem stages_eq (n omega threads : Nat) (ht : 1 ≤ threads) (l : List Nat) :
    ∀ st : Array Nat × Nat, st.2 * 2 ^ l.length ≤ 2 ^ 256 →
      l.foldl (fun st _ => bestStage n omega threads st) st
        = l.foldl (fun st _ => serialStage n omega st) st := by
  induction l with
  | nil => intro st _; rfl
  | cons x l ih =>
    intro st hst
    simp only [List.foldl_cons]
    rw [List.length_cons, Nat.pow_succ] at hst
    have hlt : st.2 < 2 ^ 256 := by
      have : 0 < 2 ^ l.length := Nat.two_pow_pos _
      have : st.2 * 2 ≤ st.2 * (2 ^ l.length * 2) := by
        apply Nat.mul_le_mul_left; omega
      omega
    rw [bestStage_eq_serialStage n omega threads ht st hlt]
    apply ih
    rw [serialStage_snd]
    calc 2 * st.2 * 2 ^ l.length = st.2 * (2 ^ l.length * 2) := by ring
      _ ≤ 2 ^ 256 := hst

/-- **thread independence**: `bestFft` equals `serialFft` for every thread count `≥ 1`, whatever the
    values of the `Generated.PARALLEL_*` thresholds (they are never unfolded). `logN ≤ 256` is the
    range in which the model's `fpow` is exponentiation; no relation between `a.size` and `logN`
    is needed. -/
theorem bestFft_eq_serialFft (a : Array Nat) (omega logN threads : Nat) (ht : 1 ≤ threads)
    (hlog : logN ≤ 256) : bestFft a omega logN threads = serialFft a omega logN := by
  rw [bestFft_eq_stages]
  split
  · rfl
  · rw [serialFft_eq_stages, stages_eq a.size omega threads ht]
    simp only [List.length_range, Nat.one_mul]
    exact Nat.pow_le_pow_right (by decide) hlog

end Plonk
