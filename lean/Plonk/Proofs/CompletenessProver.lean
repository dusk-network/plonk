/-
  C01 (completeness): links from the algebraic composition to the model's own functions.

  The output of the model's `permVec` (`compute_permutation_vec`) is the running product `accSeq` of
  its row numerators / denominators; any polynomial interpolating it (`Interpolates`, e.g. `blindPoly`
  with ANY blinders) satisfies the hypothesis `AccInterp` of the completeness composition; `permVec`
  returns `some _` (does not hit the Rust `assert!(denominators != 0)`) exactly when `γ ∉ denBadM β`.
  From the model's notions of a satisfying witness (`rowHolds` on the padded table with cyclic next
  row, i.e. `sysSat`; `copyViolation = none`) to the hypotheses `rowOKP` / "constant on wiring
  classes" of the composition, for wire polynomials interpolating the table (`WireInterp`).
  For the polynomials the specification prover builds (`Quot.modelPolys`: `ifft` selector / sigma /
  public-input columns, `blindPoly` wires and accumulator with ANY blinders): `KeyInterp` /
  `WireInterp` from C05's `Interpolates`, and the honest degree profile (`modelPolys_deg`, at most
  two blinders per wire and three for the accumulator).
-/
import Plonk.Proofs.CompletenessModel
import Plonk.Proofs.CompletenessQuotient
import Plonk.Proofs.QuotientExact
import Plonk.Proofs.SoundnessWitness

namespace Plonk.Complete
open Polynomial Plonk Plonk.Quot Plonk.Perm Plonk.Sound Plonk.Composer

/-- sequence form (used by `C01Complete.perm_vec_is_accumulator`): the vector returned by the model's `permVec` is
    the running product of its row numerators and denominators -/
theorem permVec_is_accSeq (n : Nat) (roots aS bS cS dS : List Nat) (sigE : List (List Nat))
    (beta gamma : Nat) (z : List Nat) (h : permVec n roots aS bS cS dS sigE beta gamma = some z) :
    z.length = n ∧ (∀ i < n, denF aS bS cS dS sigE beta gamma i ≠ 0) ∧
    ∀ i < n, toF (z.getD i 0) =
      accSeq (numF roots aS bS cS dS beta gamma) (denF aS bS cS dS sigE beta gamma) i := by
  obtain ⟨hlen, hden, hz0, hstep⟩ := permVec_spec n roots aS bS cS dS sigE beta gamma z h
  exact ⟨hlen, hden, eq_accSeq_of_rec n _ _ (fun i => toF (z.getD i 0)) hz0 hstep⟩

theorem numF_eq_numRow {ω : F} {n : Nat} {P : ProverPolys F} {G : Nat → Gate}
    {roots aS bS cS dS piS : List Nat} {sigE : List (List Nat)} {z : List Nat}
    (hI : Interpolates ω n P G roots aS bS cS dS piS sigE z) (beta gamma : Nat) {i : Nat}
    (hi : i < n) :
    numF roots aS bS cS dS beta gamma i = numRow ω P (toF beta) (toF gamma) i := by
  simp only [numF, numRow, wireVal, wireP]
  rw [hI.a i hi, hI.b i hi, hI.c i hi, hI.d i hi, hI.root i hi]

theorem denF_eq_denRow {ω : F} {n : Nat} {lay : Composer} {P : ProverPolys F} {G : Nat → Gate}
    {roots aS bS cS dS piS : List Nat} {sigE : List (List Nat)} {z : List Nat}
    (hI : Interpolates ω n P G roots aS bS cS dS piS sigE z) (I : KeyInterp ω n lay P)
    (beta gamma : Nat) {i : Nat} (hi : i < n) :
    denF aS bS cS dS sigE beta gamma i = denRow ω lay P (toF beta) (toF gamma) i := by
  simp only [denF, denRow, wireVal, wireP]
  rw [hI.a i hi, hI.b i hi, hI.c i hi, hI.d i hi, ← I.s1 i hi, ← I.s2 i hi, ← I.s3 i hi, ← I.s4 i hi,
    hI.s1 i hi, hI.s2 i hi, hI.s3 i hi, hI.s4 i hi]

/-- polynomials interpolating the table and the output of the
    model's `permVec` (in particular the blinded accumulator, whatever the blinders) satisfy
    `AccInterp` -/
theorem accInterp_of_permVec {ω : F} {n : Nat} {lay : Composer} {P : ProverPolys F} {G : Nat → Gate}
    {roots aS bS cS dS piS : List Nat} {sigE : List (List Nat)} {z : List Nat}
    (hI : Interpolates ω n P G roots aS bS cS dS piS sigE z) (I : KeyInterp ω n lay P)
    (beta gamma : Nat) (h : permVec n roots aS bS cS dS sigE beta gamma = some z) :
    AccInterp ω n lay P (toF beta) (toF gamma) := by
  obtain ⟨-, -, hz⟩ := permVec_is_accSeq n roots aS bS cS dS sigE beta gamma z h
  intro i hi
  rw [hI.z i hi, hz i hi]
  unfold accVal accSeq
  refine Finset.prod_congr rfl (fun j hj => ?_)
  have hj' : j < n := lt_trans (Finset.mem_range.mp hj) hi
  rw [numF_eq_numRow hI beta gamma hj', denF_eq_denRow hI I beta gamma hj']

theorem permVec_some_of_den_ne_zero (n : Nat) (roots aS bS cS dS : List Nat) (sigE : List (List Nat))
    (beta gamma : Nat) (h : ∀ i < n, denF aS bS cS dS sigE beta gamma i ≠ 0) :
    ∃ z, permVec n roots aS bS cS dS sigE beta gamma = some z := by
  rw [permVec_eq]
  have hany : (permDens n aS bS cS dS sigE beta gamma).any (· == 0) = false := by
    rw [List.any_eq_false]
    intro x hx hx0
    obtain ⟨i, hi, rfl⟩ := List.getElem_of_mem hx
    have hin : i < n := by simpa [permDens] using hi
    apply h i hin
    rw [← toF_permDens_getD n aS bS cS dS sigE beta gamma i hin, List.getD_eq_getElem _ 0 hi]
    have : (permDens n aS bS cS dS sigE beta gamma)[i] = 0 := by simpa using hx0
    rw [this, toF_zero]
  rw [hany]
  exact ⟨_, rfl⟩

/-- **the exceptional challenges are exactly `denBadM`**: the model's `permVec` returns a vector
    (rather than hitting the Rust assertion on a zero denominator) iff `γ ∉ denBadM β` -/
theorem permVec_some_iff {ω : F} {n : Nat} {lay : Composer} {P : ProverPolys F} {G : Nat → Gate}
    {roots aS bS cS dS piS : List Nat} {sigE : List (List Nat)} {z0 : List Nat}
    (hI : Interpolates ω n P G roots aS bS cS dS piS sigE z0) (I : KeyInterp ω n lay P)
    (beta gamma : Nat) :
    (∃ z, permVec n roots aS bS cS dS sigE beta gamma = some z) ↔
      toF gamma ∉ denBadM ω n lay P (toF beta) := by
  constructor
  · rintro ⟨z, hz⟩
    obtain ⟨-, hden, -⟩ := permVec_is_accSeq n roots aS bS cS dS sigE beta gamma z hz
    refine (notMem_denBadM_iff ..).mpr ?_
    intro i hi
    rw [← denF_eq_denRow hI I beta gamma hi]
    exact hden i hi
  · intro hγ
    apply permVec_some_of_den_ne_zero
    intro i hi
    rw [denF_eq_denRow hI I beta gamma hi]
    exact (notMem_denBadM_iff ..).mp hγ i hi

/-- the wire polynomials interpolate the padded wire table of the proving-time composer `c` -/
structure WireInterp (ω : F) (n : Nat) (cp : Composer) (P : ProverPolys F) : Prop where
  a : ∀ i < n, P.a.eval (ω ^ i) = toF (cp.rowVals i).a
  b : ∀ i < n, P.b.eval (ω ^ i) = toF (cp.rowVals i).b
  c : ∀ i < n, P.c.eval (ω ^ i) = toF (cp.rowVals i).c
  d : ∀ i < n, P.d.eval (ω ^ i) = toF (cp.rowVals i).d

theorem rowVals_lt (c : Composer) (hc : ∀ x, c.val x < R) (i : Nat) :
    (c.rowVals i).a < R ∧ (c.rowVals i).b < R ∧ (c.rowVals i).c < R ∧ (c.rowVals i).d < R := by
  unfold rowVals
  split
  · exact ⟨hc _, hc _, hc _, hc _⟩
  · exact ⟨R_pos, R_pos, R_pos, R_pos⟩

theorem wireVal_eq_valAt {ω : F} {n : Nat} {c : Composer} {P : ProverPolys F}
    (W : WireInterp ω n c P) (p : Pos) (h1 : p.1 < 4) (h2 : p.2 < n) :
    wireVal ω P p = toF (valAt c p) := by
  obtain ⟨col, i⟩ := p
  have hc : col < 4 := h1
  have hi : i < n := h2
  unfold wireVal valAt
  interval_cases col
  · exact W.a i hi
  · exact W.b i hi
  · exact W.c i hi
  · exact W.d i hi

theorem wireNat_eq_valAt {ω : F} {n : Nat} {c : Composer} {P : ProverPolys F}
    (W : WireInterp ω n c P) (hc : ∀ x, c.val x < R) (col i : Nat) (h1 : col < 4) (h2 : i < n) :
    wireNat ω P col i = valAt c (col, i) := by
  unfold wireNat
  rw [wireVal_eq_valAt W (col, i) h1 h2]
  apply val_toF_of_lt
  obtain ⟨ha, hb, hcc, hd⟩ := rowVals_lt c hc i
  unfold valAt
  interval_cases col
  · exact ha
  · exact hb
  · exact hcc
  · exact hd

/-- **rows**: the model's row check of the compiled gates `lay.gateAt` on the wire table of `c`
    (next row cyclic, public inputs of the layout) gives `rowOKP` for interpolating polynomials -/
theorem rows_of_model {ω : F} {n : Nat} (hn0 : 0 < n) (lay c : Composer) {P : ProverPolys F}
    (W : WireInterp ω n c P) (hc : ∀ x, c.val x < R)
    (hrows : ∀ i < n, rowHolds (lay.gateAt i) (c.rowVals i).a (c.rowVals i).b (c.rowVals i).c
      (c.rowVals i).d (c.rowVals ((i + 1) % n)).a (c.rowVals ((i + 1) % n)).b
      (c.rowVals ((i + 1) % n)).d (lay.piAt i) = true) :
    ∀ i < n, rowOKP ω n lay P i := by
  intro i hi
  have hm : (i + 1) % n < n := Nat.mod_lt _ hn0
  unfold rowOKP
  rw [wireNat_eq_valAt W hc 0 i (by omega) hi, wireNat_eq_valAt W hc 1 i (by omega) hi,
    wireNat_eq_valAt W hc 2 i (by omega) hi, wireNat_eq_valAt W hc 3 i (by omega) hi,
    wireNat_eq_valAt W hc 0 _ (by omega) hm, wireNat_eq_valAt W hc 1 _ (by omega) hm,
    wireNat_eq_valAt W hc 3 _ (by omega) hm]
  exact hrows i hi

/-- `sysSat` is the row hypothesis of `rows_of_model` for `lay = c` -/
theorem sysSat_rows (c : Composer) (h : c.sysSat = true) :
    ∀ i < c.paddedSize, rowHolds (c.gateAt i) (c.rowVals i).a (c.rowVals i).b (c.rowVals i).c
      (c.rowVals i).d (c.rowVals ((i + 1) % c.paddedSize)).a
      (c.rowVals ((i + 1) % c.paddedSize)).b (c.rowVals ((i + 1) % c.paddedSize)).d (c.piAt i)
        = true := by
  intro i hi
  unfold sysSat at h
  rw [List.all_eq_true] at h
  exact h i (List.mem_range.mpr hi)

/-- **copy constraints**: no copy violation of `c` against the compiled layout gives wire values
    constant on the wiring classes of the layout -/
theorem const_of_copyViolation {ω : F} {n : Nat} (lay c : Composer) (hn : lay.gates.size ≤ n)
    {P : ProverPolys F} (W : WireInterp ω n c P) (h : copyViolation lay c = none) :
    ∀ p q, SameClass lay p q → wireVal ω P p = wireVal ω P q := by
  rw [copyViolation_eq_none_iff] at h
  intro p q hpq
  rw [wireVal_eq_valAt W p hpq.1.1 (lt_of_lt_of_le hpq.1.2 hn),
    wireVal_eq_valAt W q hpq.2.1.1 (lt_of_lt_of_le hpq.2.1.2 hn), h p q hpq]

theorem copyViolation_self (c : Composer) : copyViolation c c = none := by
  rw [copyViolation_eq_none_iff]
  intro p q hpq
  have hv (r : Pos) (h1 : r.1 < 4) (h2 : r.2 < c.gates.size) : valAt c r = c.val (wireAt c r) := by
    obtain ⟨col, i⟩ := r
    have hc : col < 4 := h1
    have hi : i < c.gates.size := h2
    unfold valAt wireAt rowVals
    simp only [gateAt_of_lt c hi, Array.getElem?_eq_getElem hi]
    interval_cases col <;> rfl
  rw [hv p hpq.1.1 hpq.1.2, hv q hpq.2.1.1 hpq.2.1.2, hpq.2.2.1]

theorem keyInterp_of_interpolates {ω : F} {n : Nat} {lay : Composer} {P : ProverPolys F}
    {G : Nat → Gate} {roots aS bS cS dS piS : List Nat} {sigE : List (List Nat)} {z : List Nat}
    (hI : Interpolates ω n P G roots aS bS cS dS piS sigE z)
    (hG : ∀ i < n, G i = lay.gateAt i) (hpi : ∀ i < n, toF (piS.getD i 0) = toF (lay.piAt i))
    (hs : ∀ col < 4, ∀ i < n,
      toF ((sigE.getD col []).getD i 0) = idLabel ω (sigmaFn lay (col, i))) :
    KeyInterp ω n lay P where
  sel := fun i hi => by rw [hI.sel i hi, hG i hi]
  pi := fun i hi => by rw [hI.pi i hi, hpi i hi]
  s1 := fun i hi => by rw [hI.s1 i hi, hs 0 (by omega) i hi]
  s2 := fun i hi => by rw [hI.s2 i hi, hs 1 (by omega) i hi]
  s3 := fun i hi => by rw [hI.s3 i hi, hs 2 (by omega) i hi]
  s4 := fun i hi => by rw [hI.s4 i hi, hs 3 (by omega) i hi]

theorem wireInterp_of_interpolates {ω : F} {n : Nat} {c : Composer} {P : ProverPolys F}
    {G : Nat → Gate} {roots aS bS cS dS piS : List Nat} {sigE : List (List Nat)} {z : List Nat}
    (hI : Interpolates ω n P G roots aS bS cS dS piS sigE z)
    (ha : ∀ i < n, aS.getD i 0 = (c.rowVals i).a) (hb : ∀ i < n, bS.getD i 0 = (c.rowVals i).b)
    (hc : ∀ i < n, cS.getD i 0 = (c.rowVals i).c) (hd : ∀ i < n, dS.getD i 0 = (c.rowVals i).d) :
    WireInterp ω n c P where
  a := fun i hi => by rw [hI.a i hi, ha i hi]
  b := fun i hi => by rw [hI.b i hi, hb i hi]
  c := fun i hi => by rw [hI.c i hi, hc i hi]
  d := fun i hi => by rw [hI.d i hi, hd i hi]

theorem natDegree_ifft_le {d : Domain} (hd : d.WF) (w : List Nat) (e : Nat) (he : d.size ≤ e + 1) :
    (toPoly (Poly.ofCoeffs (d.ifft w))).natDegree ≤ e := by
  have h1 := natDegree_toPoly_le (Poly.ofCoeffs (d.ifft w))
  have h2 := length_ofCoeffs_le (d.ifft w)
  have h3 : (d.ifft w).length = d.size := Domain.ifft_length hd (le_refl 1) w
  omega

theorem natDegree_blind_le {d : Domain} (hd : d.WF) (w bs : List Nat) (e : Nat)
    (he : d.size + bs.length ≤ e + 1) : (toPoly (blindPoly d w bs)).natDegree ≤ e := by
  have h1 := natDegree_toPoly_le (blindPoly d w bs)
  have h2 := blindPoly_length_le d hd w bs
  omega

/-- **the honest degree profile** of the specification prover's polynomials: at most two blinders
    per wire polynomial, at most three for the accumulator -/
theorem modelPolys_deg {d : Domain} (hd : d.WF) (G : Nat → Gate) (aS bS cS dS piS : List Nat)
    (sigE : List (List Nat)) (z ba bb bc bd bz : List Nat) (ha : ba.length ≤ 2) (hb : bb.length ≤ 2)
    (hc : bc.length ≤ 2) (hdd : bd.length ≤ 2) (hz : bz.length ≤ 3) :
    PolysDeg2 (modelPolys d G aS bS cS dS piS sigE z ba bb bc bd bz) (d.size + 1) (d.size + 2) := by
  have s (f : Gate → Nat) : (selCol d G f).natDegree ≤ d.size + 1 :=
    natDegree_ifft_le hd _ _ (by omega)
  have i (w : List Nat) : (toPoly (Poly.ofCoeffs (d.ifft w))).natDegree ≤ d.size + 1 :=
    natDegree_ifft_le hd w _ (by omega)
  have b (w bs : List Nat) (e : Nat) (h : bs.length ≤ e) :
      (toPoly (blindPoly d w bs)).natDegree ≤ d.size + (e - 1) :=
    natDegree_blind_le hd w bs _ (by omega)
  refine ⟨⟨?_, ?_, ?_, ?_, ?_, ?_, ?_, ?_, ?_, ?_, ?_⟩, ?_, ?_, ?_, ?_, ?_, ?_, ?_, ?_, ?_, ?_⟩
  -- `modelPolys` must be unfolded before the fields are compared: the unifier would unfold
  -- `natDegree` and `toPoly` on the other side first
  all_goals dsimp only [modelPolys]
  exacts [s _, s _, s _, s _, s _, s _, s _, s _, s _, s _, s _, b aS ba 2 ha, b bS bb 2 hb,
    b cS bc 2 hc, b dS bd 2 hdd, i piS, i _, i _, i _, i _, b z bz 3 hz]

/-- the wire column of the padded table (the `wcol` of `prove`, `ProverMask.wireCol`) -/
def tableCol (n : Nat) (c : Composer) (f : RowVals → Nat) : List Nat :=
  (List.range n).map fun i => f (c.rowVals i)

theorem tableCol_length (n : Nat) (c : Composer) (f : RowVals → Nat) :
    (tableCol n c f).length = n := by simp [tableCol]

theorem tableCol_getD (n : Nat) (c : Composer) (f : RowVals → Nat) (i : Nat) (hi : i < n) :
    (tableCol n c f).getD i 0 = f (c.rowVals i) := getD_map_range _ _ _ hi

end Plonk.Complete
