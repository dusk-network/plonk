/-
  Property C07 — curve components (point.rs, fixed_base.rs) and the error-returning entry points.
  Mathlib-free.
-/
import Plonk.Proofs.Shape

namespace Plonk
open Plonk Plonk.Composer

namespace Composer
variable {π : Nat → Nat → Prop} [Std.Refl π]

/-! ### point.rs -/

omit [Std.Refl π] in
/-- `append_point` on affine coordinates: both coordinates are value parameters -/
theorem appendAffinePoint_valueFree {p₁ p₂ : Pt} :
    ValueFree π (appendAffinePoint p₁) (appendAffinePoint p₂) :=
  .bind (.appendWitness _ _) fun _ => .bind (.appendWitness _ _) fun _ => .pure _

theorem appendAffinePoint_fst (p : Pt) (c : Composer) :
    ((appendAffinePoint p).run c).1 = (c.wit.size, c.wit.size + 1) :=
  congrArg (Prod.mk c.wit.size) (Array.size_push ..)

theorem toAffine?_eq_none_iff (e : Ext) : e.toAffine? = none ↔ e.z = 0 := by
  unfold Ext.toAffine?
  by_cases h : e.z = 0 <;> simp [h]

theorem toAffine?_isSome_iff (e : Ext) : e.toAffine?.isSome ↔ e.z ≠ 0 := by
  unfold Ext.toAffine?
  by_cases h : e.z = 0 <;> simp [h]

theorem exists_toAffine? {e : Ext} (h : e.z ≠ 0) : ∃ a, e.toAffine? = some a :=
  Option.isSome_iff_exists.mp ((toAffine?_isSome_iff e).mpr h)

/-- decision logic of an entry point that fails exactly on `Z = 0` -/
theorem error_iff_degenerate {α : Type} {r : Except CErr α} {z : Nat}
    (h0 : z = 0 → r = .error .degenerate) (h1 : z ≠ 0 → ∃ a, r = .ok a) (err : CErr) :
    r = .error err ↔ err = .degenerate ∧ z = 0 := by
  by_cases h : z = 0
  · rw [h0 h]
    exact ⟨fun e => ⟨(Except.error.inj e).symm, h⟩, fun e => e.1 ▸ rfl⟩
  · obtain ⟨a, ha⟩ := h1 h
    rw [ha]
    exact ⟨fun e => (by cases e), fun e => absurd e.2 h⟩

theorem ne_zero_of_ok {α : Type} {r : Except CErr α} {z : Nat}
    (h0 : z = 0 → r = .error .degenerate) {a : α} (h : r = .ok a) : z ≠ 0 :=
  fun hz => nomatch (h0 hz).symm.trans h

theorem appendPoint_degenerate {e : Ext} (h : e.z = 0) (c : Composer) :
    (appendPoint e).run c = (.error .degenerate, c) := by
  unfold appendPoint; rw [(toAffine?_eq_none_iff e).mpr h]; rfl

theorem appendPoint_ok {e : Ext} (h : e.z ≠ 0) (c : Composer) :
    ((appendPoint e).run c).1 = .ok (c.wit.size, c.wit.size + 1) := by
  unfold appendPoint
  obtain ⟨a, ha⟩ := exists_toAffine? h
  rw [ha]
  exact congrArg Except.ok (appendAffinePoint_fst a c)

/-- two points that are both degenerate or both not: `toAffine?` is `none` for both or `some`
    for both -/
theorem toAffine?_cases {e₁ e₂ : Ext} (h : e₁.z = 0 ↔ e₂.z = 0) :
    (e₁.toAffine? = none ∧ e₂.toAffine? = none) ∨
      ∃ a₁ a₂, e₁.toAffine? = some a₁ ∧ e₂.toAffine? = some a₂ := by
  by_cases h₁ : e₁.z = 0
  · exact .inl ⟨(toAffine?_eq_none_iff _).mpr h₁, (toAffine?_eq_none_iff _).mpr (h.mp h₁)⟩
  · obtain ⟨a₁, ha₁⟩ := exists_toAffine? h₁
    obtain ⟨a₂, ha₂⟩ := exists_toAffine? (mt h.mpr h₁)
    exact .inr ⟨a₁, a₂, ha₁, ha₂⟩

omit [Std.Refl π] in
/-- `append_point`: two points that are both degenerate or both not -/
theorem appendPoint_valueFree {e₁ e₂ : Ext} (h : e₁.z = 0 ↔ e₂.z = 0) :
    ValueFree π (appendPoint e₁) (appendPoint e₂) := by
  unfold appendPoint
  obtain ⟨h₁, h₂⟩ | ⟨a₁, a₂, h₁, h₂⟩ := toAffine?_cases h <;> rw [h₁, h₂]
  · exact .pure _
  · exact .bind appendAffinePoint_valueFree fun _ => .pure _

theorem appendPoint_shape {e₁ e₂ : Ext} (h₁ : e₁.z ≠ 0) (h₂ : e₂.z ≠ 0) :
    ShapeEq (appendPoint e₁) (appendPoint e₂) :=
  (appendPoint_valueFree (iff_of_false h₁ h₂)).shapeEq

/-- `append_constant_point`: the point is a circuit constant (its affine coordinates become
    selectors), so the component is value-free as it stands -/
theorem appendConstantPoint_valueFree {e : Ext} :
    ValueFree π (appendConstantPoint e) (appendConstantPoint e) := by
  unfold appendConstantPoint
  cases e.toAffine? with
  | none => exact .pure _
  | some a =>
    exact .ite (.pure _) <| .bind appendConstant_valueFree fun _ =>
      .bind appendConstant_valueFree fun _ => .pure _

theorem appendConstantPoint_run (e : Ext) (c : Composer) :
    (appendConstantPoint e).run c =
      if e.z = 0 then (.error .degenerate, c)
      else if ¬(e.onCurve = true ∧ e.torsionFree = true) then (.error .notTorsionFree, c)
      else (.ok (c.wit.size, c.wit.size + 1),
            ((appendConstant ((e.toAffine?.getD Pt.id).2)).run
              ((appendConstant ((e.toAffine?.getD Pt.id).1)).run c).2).2) := by
  unfold appendConstantPoint
  by_cases hz : e.z = 0
  · rw [(toAffine?_eq_none_iff e).mpr hz, if_pos hz]; rfl
  · obtain ⟨a, ha⟩ := exists_toAffine? hz
    rw [ha, if_neg hz]
    show (if (!(e.onCurve && e.torsionFree)) = true then pure (.error .notTorsionFree)
      else _ : CM (Except CErr Pt)).run c = _
    rw [run_ite]
    refine ite_congr ?_ (fun _ => rfl) fun _ => ?_
    · cases e.onCurve <;> cases e.torsionFree <;> simp
    · exact Prod.ext (congrArg (fun n => Except.ok (c.wit.size, n)) (Array.size_push ..)) rfl

theorem appendPublicPoint_degenerate {e : Ext} (h : e.z = 0) (c : Composer) :
    (appendPublicPoint e).run c = (.error .degenerate, c) := by
  unfold appendPublicPoint; rw [(toAffine?_eq_none_iff e).mpr h]; rfl

theorem appendPublicPoint_ok {e : Ext} (h : e.z ≠ 0) (c : Composer) :
    ((appendPublicPoint e).run c).1 = .ok (c.wit.size, c.wit.size + 1) := by
  unfold appendPublicPoint
  obtain ⟨a, ha⟩ := exists_toAffine? h
  rw [ha]
  exact congrArg Except.ok (appendAffinePoint_fst a c)

/-- `append_public_point`: any two non-degenerate points (different public values) -/
theorem appendPublicPoint_valueFree {e₁ e₂ : Ext} (h : e₁.z = 0 ↔ e₂.z = 0) :
    ValueFree AnyPi (appendPublicPoint e₁) (appendPublicPoint e₂) := by
  unfold appendPublicPoint
  obtain ⟨h₁, h₂⟩ | ⟨a₁, a₂, h₁, h₂⟩ := toAffine?_cases h <;> rw [h₁, h₂]
  · exact .pure _
  · exact .bind appendAffinePoint_valueFree fun _ =>
      .bind (assertEqualConstant_valueFree _ _ rfl) fun _ =>
      .bind (assertEqualConstant_valueFree _ _ rfl) fun _ => .pure _

theorem appendPublicPoint_shape {e₁ e₂ : Ext} (h₁ : e₁.z ≠ 0) (h₂ : e₂.z ≠ 0) :
    ShapeEq (appendPublicPoint e₁) (appendPublicPoint e₂) :=
  (appendPublicPoint_valueFree (iff_of_false h₁ h₂)).shapeEq

theorem assertEqualPoint_valueFree {a b : Pt} :
    ValueFree π (assertEqualPoint a b) (assertEqualPoint a b) :=
  .bind assertEqual_valueFree fun _ => assertEqual_valueFree

theorem assertEqualPublicPoint_degenerate (p : Pt) {e : Ext} (h : e.z = 0) (c : Composer) :
    (assertEqualPublicPoint p e).run c = (.error .degenerate, c) := by
  unfold assertEqualPublicPoint; rw [(toAffine?_eq_none_iff e).mpr h]; rfl

theorem assertEqualPublicPoint_ok (p : Pt) {e : Ext} (h : e.z ≠ 0) (c : Composer) :
    ((assertEqualPublicPoint p e).run c).1 = .ok () := by
  unfold assertEqualPublicPoint
  obtain ⟨a, ha⟩ := exists_toAffine? h
  rw [ha]; rfl

theorem assertEqualPublicPoint_valueFree (p : Pt) {e₁ e₂ : Ext} (h : e₁.z = 0 ↔ e₂.z = 0) :
    ValueFree AnyPi (assertEqualPublicPoint p e₁) (assertEqualPublicPoint p e₂) := by
  unfold assertEqualPublicPoint
  obtain ⟨h₁, h₂⟩ | ⟨a₁, a₂, h₁, h₂⟩ := toAffine?_cases h <;> rw [h₁, h₂]
  · exact .pure _
  · exact .bind (assertEqualConstant_valueFree _ _ rfl) fun _ =>
      .bind (assertEqualConstant_valueFree _ _ rfl) fun _ => .pure _

theorem assertEqualPublicPoint_shape (p : Pt) {e₁ e₂ : Ext} (h₁ : e₁.z ≠ 0) (h₂ : e₂.z ≠ 0) :
    ShapeEq (assertEqualPublicPoint p e₁) (assertEqualPublicPoint p e₂) :=
  (assertEqualPublicPoint_valueFree p (iff_of_false h₁ h₂)).shapeEq

/-- `add_point_gates`: the host-side sum (with its pole fallback `edAddOrId`) only feeds witness
    values -/
theorem addPointGates_valueFree {a b : Pt} : ValueFree π (addPointGates a b) (addPointGates a b) :=
  .getVal_bind fun _ _ => .getVal_bind fun _ _ => .getVal_bind fun _ _ => .getVal_bind fun _ _ =>
    .bind (.appendWitness _ _) fun _ => .bind (.appendWitness _ _) fun _ =>
    .bind (.appendWitness _ _) fun _ => .bind (.appendCustomGate .rfl) fun _ =>
    .bind (.appendCustomGate .rfl) fun _ => .pure _

/-- `assert_torsion_free_gates(point, q)`: the host-computed eighth `q` is a value parameter -/
theorem assertTorsionFreeGates_valueFree {point : Pt} {q₁ q₂ : Pt} :
    ValueFree π (assertTorsionFreeGates point q₁) (assertTorsionFreeGates point q₂) :=
  .bind appendAffinePoint_valueFree fun _ => .bind (gateMul_valueFree .rfl) fun _ =>
    .bind (gateMul_valueFree .rfl) fun _ => .bind (gateMul_valueFree .rfl) fun _ =>
    .bind (appendGate_valueFree .rfl) fun _ => .bind addPointGates_valueFree fun _ =>
    .bind addPointGates_valueFree fun _ => .bind addPointGates_valueFree fun _ =>
    assertEqualPoint_valueFree

/-- `assert_torsion_free_point`: on-curve or not, the same gates -/
theorem assertTorsionFreePoint_valueFree {point : Pt} :
    ValueFree π (assertTorsionFreePoint point) (assertTorsionFreePoint point) :=
  .getVal_bind fun _ _ => .getVal_bind fun _ _ => assertTorsionFreeGates_valueFree

theorem componentNegPoint_valueFree {p : Pt} :
    ValueFree π (componentNegPoint p) (componentNegPoint p) :=
  .bind (gateMul_valueFree .rfl) fun _ => .pure _

theorem componentAddPoint_valueFree {a b : Pt} :
    ValueFree π (componentAddPoint a b) (componentAddPoint a b) := addPointGates_valueFree

theorem componentSubPoint_valueFree {a b : Pt} :
    ValueFree π (componentSubPoint a b) (componentSubPoint a b) :=
  .bind componentNegPoint_valueFree fun _ => componentAddPoint_valueFree

theorem selectIdentityGates_valueFree {bit : Nat} {a : Pt} :
    ValueFree π (selectIdentityGates bit a) (selectIdentityGates bit a) :=
  .bind componentSelectZero_valueFree fun _ =>
    .bind componentSelectOne_valueFree fun _ => .pure _

theorem componentSelectIdentity_valueFree {bit : Nat} {a : Pt} :
    ValueFree π (componentSelectIdentity bit a) (componentSelectIdentity bit a) :=
  .bind componentBoolean_valueFree fun _ => selectIdentityGates_valueFree

theorem componentSelectPoint_valueFree {bit : Nat} {a b : Pt} :
    ValueFree π (componentSelectPoint bit a b) (componentSelectPoint bit a b) :=
  .bind componentSelect_valueFree fun _ =>
    .bind componentSelect_valueFree fun _ => .pure _

theorem componentMulPoint_go_valueFree (point : Pt) : ∀ (bits : List Nat) (r : Pt),
    ValueFree π (componentMulPoint.go point bits r) (componentMulPoint.go point bits r)
  | [], _ => .pure _
  | b :: bs, r => by
    unfold componentMulPoint.go
    exact .bind addPointGates_valueFree fun _ =>
      .bind selectIdentityGates_valueFree fun _ =>
      .bind addPointGates_valueFree fun _ => componentMulPoint_go_valueFree point bs _

theorem componentMulPoint_valueFree {jubjub : Nat} {point : Pt} :
    ValueFree π (componentMulPoint jubjub point) (componentMulPoint jubjub point) :=
  .bind componentDecomposition_valueFree fun _ => componentMulPoint_go_valueFree _ _ _

/-! ### fixed_base.rs -/

theorem assertCanonicalJubjubScalar_valueFree {scalar : Nat} :
    ValueFree π (assertCanonicalJubjubScalar scalar) (assertCanonicalJubjubScalar scalar) :=
  .bind rangeCheck_valueFree fun _ => .bind (gateAdd_valueFree .rfl) fun _ =>
    rangeCheck_valueFree

/-- the digit-validity test of `append_fixed_base_signed_digits` (some digit outside `{-1,0,1}`) -/
def badDigits (ds : List Int) : Bool := ds.any (fun d => d != 0 && d != 1 && d != -1)

theorem badDigits_eq_false_iff (ds : List Int) :
    badDigits ds = false ↔ ∀ d ∈ ds, d = 0 ∨ d = 1 ∨ d = -1 := by
  simp only [badDigits, List.any_eq_false, Bool.and_eq_true, bne_iff_ne, ne_eq]
  exact forall₂_congr fun d _ => by omega

theorem length_doublings : ∀ (n : Nat) (p : Pt), (doublings n p).length = n
  | 0, _ => rfl
  | n+1, p => by simp [doublings, length_doublings n]

theorem length_fixedAccs : ∀ (l : List (Int × Pt)) (sa : Nat) (pa : Pt),
    (fixedAccs l sa pa).1.length = l.length
  | [], _, _ => rfl
  | (e, m) :: rest, sa, pa => by
    simp only [fixedAccs, List.length_cons]
    rw [length_fixedAccs rest]

/-- the part of `append_fixed_base_signed_digits` after the digit check, with the host-computed
    data abstracted: `n` rounds are recorded by `wits` -/
def fbTail (jubjub : Nat) (gen : Pt) (n : Nat) (wits : List Nat) : CM (Except CErr Pt) := do
  let mults := (doublings Generated.FIXED_BASE_SIGNED_DIGIT_ROUNDS gen).reverse
  let base := (← get).wit.size
  appendWitnesses wits
  let accX (i : Nat) := base + 4 * i
  let accY (i : Nat) := base + 4 * i + 1
  let accBit (i : Nat) := base + 4 * i + 2
  let xyAlpha (i : Nat) := base + 4 * i + 3
  assertEqualConstant (accX 0) 0 none
  assertEqualConstant (accY 0) 1 none
  assertEqualConstant (accBit 0) 0 none
  appendCustomGates ((mults.zipIdx).map fun (m, i) => Constraint.groupAddFixedBase
      { ql := m.1, qr := m.2, qc := fmul m.1 m.2, a := accX i, b := accY i, c := xyAlpha i, d := accBit i })
  appendGate { a := base + 4 * n, b := base + 4 * n + 1, d := base + 4 * n + 2 }
  assertEqualConstant (accBit FIXED_BASE_LEADING_ZERO_ROUNDS) 0 none
  assertEqual (base + 4 * n + 2) jubjub
  pure (.ok (base + 4 * n, base + 4 * n + 1))

/-- host-side rows of the signed-digit ladder -/
def fbRows (gen : Pt) (digits : List Int) : List (Nat × Pt × Nat) × (Nat × Pt) :=
  fixedAccs (digits.reverse.zip (doublings Generated.FIXED_BASE_SIGNED_DIGIT_ROUNDS gen).reverse)
    0 Pt.id

def fbWits (gen : Pt) (digits : List Int) : List Nat :=
  (fbRows gen digits).1.flatMap (fun (sa, pa, xy) => [pa.1, pa.2, sa, xy]) ++
    [(fbRows gen digits).2.2.1, (fbRows gen digits).2.2.2, (fbRows gen digits).2.1]

theorem length_fbRows (gen : Pt) (digits : List Int) :
    (fbRows gen digits).1.length = min digits.length Generated.FIXED_BASE_SIGNED_DIGIT_ROUNDS := by
  unfold fbRows
  rw [length_fixedAccs]; simp [length_doublings]

theorem length_flatMap4 (rows : List (Nat × Pt × Nat)) :
    (rows.flatMap (fun (sa, pa, xy) => [pa.1, pa.2, sa, xy])).length = 4 * rows.length := by
  induction rows with
  | nil => rfl
  | cons r rs ih =>
    rw [List.flatMap_cons, List.length_append, ih]
    show 4 + 4 * rs.length = 4 * (rs.length + 1)
    omega

theorem length_fbWits (gen : Pt) (digits : List Int) :
    (fbWits gen digits).length =
      4 * min digits.length Generated.FIXED_BASE_SIGNED_DIGIT_ROUNDS + 3 := by
  unfold fbWits
  rw [List.length_append, length_flatMap4, length_fbRows]; rfl

/-- normal form of `append_fixed_base_signed_digits` -/
theorem appendFixedBaseSignedDigits_eq (jubjub : Nat) (gen : Pt) (digits : List Int) :
    appendFixedBaseSignedDigits jubjub gen digits = (do
      assertCanonicalJubjubScalar jubjub
      if badDigits digits then pure (.error .unsupportedWnaf)
      else fbTail jubjub gen (fbRows gen digits).1.length (fbWits gen digits)) := by
  rfl

theorem fbTail_valueFree (jubjub : Nat) (gen : Pt) (n : Nat) {w₁ w₂ : List Nat}
    (h : w₁.length = w₂.length) :
    ValueFree π (fbTail jubjub gen n w₁) (fbTail jubjub gen n w₂) :=
  .get_bind fun s₁ s₂ hs => by
    rw [hs.wit_size]
    exact .bind (appendWitnesses_valueFree h) fun _ =>
      .bind assertEqualConstant_valueFree' fun _ =>
      .bind assertEqualConstant_valueFree' fun _ =>
      .bind assertEqualConstant_valueFree' fun _ =>
      .bind appendCustomGates_valueFree' fun _ => .bind (appendGate_valueFree .rfl) fun _ =>
      .bind assertEqualConstant_valueFree' fun _ =>
      .bind assertEqual_valueFree fun _ => .pure _

theorem fbTail_ok (jubjub : Nat) (gen : Pt) (n : Nat) (w : List Nat) (c : Composer) :
    ((fbTail jubjub gen n w).run c).1 = .ok (c.wit.size + 4 * n, c.wit.size + 4 * n + 1) := by
  unfold fbTail
  simp only [run_bind_fst, run_pure_fst, run_get_fst]

/-- `append_fixed_base_signed_digits` with an unsupported digit: the canonical-scalar gates are
    emitted (value-independently), then `.error .unsupportedWnaf` -/
theorem appendFixedBaseSignedDigits_invalid (jubjub : Nat) (gen : Pt) {digits : List Int}
    (h : badDigits digits = true) :
    appendFixedBaseSignedDigits jubjub gen digits =
      (do assertCanonicalJubjubScalar jubjub; pure (.error .unsupportedWnaf)) := by
  rw [appendFixedBaseSignedDigits_eq]; simp only [h, ↓reduceIte]

/-- `append_fixed_base_signed_digits`: same generator (a circuit constant); the digit strings are
    both invalid, or both valid and of the same effective length — the digits only influence
    values -/
theorem appendFixedBaseSignedDigits_valueFree (jubjub : Nat) (gen : Pt) {ds₁ ds₂ : List Int}
    (hb : badDigits ds₁ = badDigits ds₂)
    (hl : badDigits ds₁ = false → min ds₁.length Generated.FIXED_BASE_SIGNED_DIGIT_ROUNDS =
          min ds₂.length Generated.FIXED_BASE_SIGNED_DIGIT_ROUNDS) :
    ValueFree π (appendFixedBaseSignedDigits jubjub gen ds₁)
      (appendFixedBaseSignedDigits jubjub gen ds₂) := by
  rw [appendFixedBaseSignedDigits_eq, appendFixedBaseSignedDigits_eq, ← hb]
  refine .bind assertCanonicalJubjubScalar_valueFree fun _ => ?_
  cases h : badDigits ds₁
  · simp only [Bool.false_eq_true, ↓reduceIte, length_fbRows, hl h]
    exact fbTail_valueFree _ _ _ (by rw [length_fbWits, length_fbWits, hl h])
  · exact .pure _

theorem appendFixedBaseSignedDigits_error_iff (jubjub : Nat) (gen : Pt) (digits : List Int)
    (c : Composer) (err : CErr) :
    ((appendFixedBaseSignedDigits jubjub gen digits).run c).1 = .error err ↔
      err = .unsupportedWnaf ∧ badDigits digits = true := by
  rw [appendFixedBaseSignedDigits_eq]
  rw [run_bind_fst]
  cases h : badDigits digits
  · simp only [Bool.false_eq_true, ↓reduceIte, and_false, iff_false]
    rw [fbTail_ok]; simp
  · simp only [↓reduceIte, and_true, run_pure_fst, Except.error.injEq]
    exact eq_comm

/-- the loop of `compute_windowed_naf(2)` puts `n` digits, each in `{-1, 0, 1}`, behind what it
    has accumulated -/
theorem wnaf2_go_spec : ∀ (n k : Nat) (acc : List Int), ∃ l : List Int,
    wnaf2.go n k acc = acc.reverse ++ l ∧ l.length = n ∧ ∀ d ∈ l, d = 0 ∨ d = 1 ∨ d = -1
  | 0, _, acc => ⟨[], by simp [wnaf2.go], rfl, fun _ h => nomatch h⟩
  | n+1, k, acc => by
    have step : ∀ (d : Int) (k' : Nat), (d = 0 ∨ d = 1 ∨ d = -1) → ∃ l : List Int,
        wnaf2.go n k' (d :: acc) = acc.reverse ++ l ∧ l.length = n + 1 ∧
          ∀ x ∈ l, x = 0 ∨ x = 1 ∨ x = -1 := fun d k' hd => by
      obtain ⟨l, h, hl, hm⟩ := wnaf2_go_spec n k' (d :: acc)
      refine ⟨d :: l, by rw [h, List.reverse_cons, List.append_assoc]; rfl,
        congrArg (· + 1) hl, fun x hx => ?_⟩
      rcases List.mem_cons.mp hx with rfl | hx
      · exact hd
      · exact hm x hx
    rw [wnaf2.go]
    by_cases h1 : (k % 2 == 1) = true
    · rw [if_pos h1]
      by_cases h2 : k % 4 ≥ 2
      · rw [if_pos h2]; exact step _ _ (.inr (.inr rfl))
      · rw [if_neg h2]; exact step _ _ (.inr (.inl rfl))
    · rw [if_neg h1]; exact step _ _ (.inl rfl)

theorem wnaf2_length (k : Nat) : (wnaf2 k).length = 256 := by
  obtain ⟨l, h, hl, -⟩ := wnaf2_go_spec 256 k []
  unfold wnaf2; rw [h]; exact hl

theorem badDigits_wnaf2 (k : Nat) : badDigits (wnaf2 k) = false := by
  obtain ⟨l, h, -, hm⟩ := wnaf2_go_spec 256 k []
  rw [badDigits_eq_false_iff]
  unfold wnaf2; rw [h]; exact hm

/-- the generator test of `component_mul_generator` -/
def genOk (gen : Ext) : Prop := gen.z ≠ 0 ∧ gen.onCurve = true ∧ gen.primeOrder = true

instance (gen : Ext) : Decidable (genOk gen) := by unfold genOk; infer_instance

theorem genOk_iff_test (gen : Ext) :
    (gen.z == 0 || !gen.onCurve || !gen.primeOrder) = true ↔ ¬ genOk gen := by
  unfold genOk
  cases gen.onCurve <;> cases gen.primeOrder <;> simp

theorem componentMulGenerator_run (jubjub : Nat) (gen : Ext) (c : Composer) :
    (componentMulGenerator jubjub gen).run c =
      if ¬ genOk gen then (.error .generatorNotPrime, c)
      else if c.val jubjub ≥ RJ then (.error .scalarMalformed, c)
      else (appendFixedBaseSignedDigits jubjub ((gen.toAffine?).getD Pt.id)
              (wnaf2 (c.val jubjub))).run c := by
  unfold componentMulGenerator
  rw [run_ite, run_getVal_bind, run_ite]
  exact ite_congr (propext (genOk_iff_test gen)) (fun _ => rfl) fun _ => rfl

theorem componentMulGenerator_error_iff (jubjub : Nat) (gen : Ext) (c : Composer) (err : CErr) :
    ((componentMulGenerator jubjub gen).run c).1 = .error err ↔
      (err = .generatorNotPrime ∧ ¬ genOk gen) ∨
      (err = .scalarMalformed ∧ genOk gen ∧ c.val jubjub ≥ RJ) := by
  rw [componentMulGenerator_run]
  by_cases hg : genOk gen
  · by_cases hs : c.val jubjub ≥ RJ
    · simp [hg, hs]; exact eq_comm
    · simp [hg, hs, appendFixedBaseSignedDigits_error_iff, badDigits_wnaf2]
  · simp [hg]; exact eq_comm

/-- `component_mul_generator` on two states of the same shape whose scalars both pass the
    canonical-range test: same result indices, same shape.  (The generator is a circuit
    constant; the scalar value only selects the wNAF digits, which only feed values.) -/
theorem componentMulGenerator_shape (jubjub : Nat) (gen : Ext) {c₁ c₂ : Composer}
    (h : SameShape c₁ c₂) (h₁ : c₁.val jubjub < RJ) (h₂ : c₂.val jubjub < RJ) :
    ((componentMulGenerator jubjub gen).run c₁).1 = ((componentMulGenerator jubjub gen).run c₂).1 ∧
    SameShape ((componentMulGenerator jubjub gen).run c₁).2
      ((componentMulGenerator jubjub gen).run c₂).2 := by
  rw [componentMulGenerator_run, componentMulGenerator_run]
  by_cases hg : genOk gen
  · simp only [hg, not_true_eq_false, ↓reduceIte, ge_iff_le, Nat.not_le.mpr h₁, Nat.not_le.mpr h₂]
    exact (appendFixedBaseSignedDigits_valueFree jubjub _
      ((badDigits_wnaf2 _).trans (badDigits_wnaf2 _).symm)
      fun _ => by rw [wnaf2_length, wnaf2_length]).shapeEq c₁ c₂ h
  · simp only [hg, not_false_eq_true, ↓reduceIte]
    exact ⟨trivial, h⟩

theorem componentMulGenerator_ok_iff (jubjub : Nat) (gen : Ext) (c : Composer) :
    (∃ p, ((componentMulGenerator jubjub gen).run c).1 = .ok p) ↔
      genOk gen ∧ c.val jubjub < RJ := by
  rw [componentMulGenerator_run]
  split
  next hg => exact iff_of_false (fun ⟨_, h⟩ => nomatch h) fun h => hg h.1
  next hg =>
    split
    next hs => exact iff_of_false (fun ⟨_, h⟩ => nomatch h) fun h => Nat.not_lt.mpr hs h.2
    next hs =>
      refine iff_of_true ?_ ⟨Decidable.of_not_not hg, Nat.not_le.mp hs⟩
      rw [appendFixedBaseSignedDigits_eq, run_bind_fst, badDigits_wnaf2, if_neg Bool.false_ne_true]
      exact ⟨_, fbTail_ok ..⟩

end Composer
end Plonk
