/-
  G1 group law, part 4: the bridge to the symbolic verifier algebra (`evalTerms` of
  `VerifierAlgebra.lean`).  The results of the model's multi-scalar multiplications `G1.msum`,
  read in the curve group, are the `F`-linear combinations `evalTerms ι ts`:
  * for every additive map `φ` from the curve group to an `F`-module (`msum_evalTerms_hom`);
  * for the canonical interpretation `ιR` of the model's points in the `r`-torsion subgroup
    `G1.Sub = E(F_p)[r]` of the curve, which is an `F`-module (`msum_evalTerms`).
-/
import Mathlib.Algebra.Module.ZMod
import Plonk.Proofs.G1GroupMul
import Plonk.Proofs.VerifierAlgebra

set_option Elab.async false

namespace Plonk

namespace G1

theorem toF_smul_eq_nsmul {G : Type*} [AddCommGroup G] [Module F G] (k : Nat) (g : G) :
    toF k • g = (k % R) • g := by
  rw [← toF_mod, toF, Nat.cast_smul_eq_nsmul]

/-- every additive map from the curve group to an `F`-module sends the model's MSM result to the
    `F`-linear combination of the images -/
theorem msum_evalTerms_hom {G : Type*} [AddCommGroup G] [Module F G] (φ : Pt →+ G)
    {ts : List (Nat × G1)} (hv : ∀ t ∈ ts, t.2.Valid) :
    φ (pt (G1.msum ts)) = evalTerms (fun p => φ (pt p)) ts := by
  rw [(msum_spec hv).2]
  clear hv
  induction ts with
  | nil => simp
  | cons t ts ih =>
    obtain ⟨k, p⟩ := t
    rw [List.map_cons, List.sum_cons, map_add, ih, evalTerms_cons, toF_smul_eq_nsmul, map_nsmul]

/-- `E(F_p)[r]`: the points killed by `r` -/
def Sub : AddSubgroup Pt := (nsmulAddMonoidHom (α := Pt) R).ker

theorem mem_Sub {Q : Pt} : Q ∈ Sub ↔ R • Q = 0 := by
  unfold Sub; rw [AddMonoidHom.mem_ker]; rfl

theorem Sub_nsmul_R (x : Sub) : R • x = 0 := by
  apply Subtype.ext
  rw [AddSubgroup.coe_nsmul]
  exact mem_Sub.mp x.2

noncomputable instance : Module F Sub := AddCommGroup.zmodModule Sub_nsmul_R

/-- canonical interpretation of the model's points in `E(F_p)[r]` (junk goes to `0`) -/
noncomputable def ιR (p : G1) : Sub := if h : R • pt p = 0 then ⟨pt p, mem_Sub.mpr h⟩ else 0

theorem coe_ιR {p : G1} (hv : p.Valid) (ht : p.torsionFree = true) : (ιR p : Pt) = pt p := by
  unfold ιR; rw [dif_pos ((torsionFree_iff hv).mp ht)]

theorem ιR_of_nsmul {p : G1} (h : R • pt p = 0) : (ιR p : Pt) = pt p := by
  unfold ιR; rw [dif_pos h]

theorem coe_toF_smul (k : Nat) (x : Sub) : ((toF k • x : Sub) : Pt) = (k % R) • (x : Pt) := by
  rw [toF_smul_eq_nsmul, AddSubgroup.coe_nsmul]

theorem coe_evalTerms_ιR : ∀ {ts : List (Nat × G1)}, (∀ t ∈ ts, t.2.Valid) →
    (∀ t ∈ ts, t.2.torsionFree = true) →
    ((evalTerms ιR ts : Sub) : Pt) = (ts.map fun t => (t.1 % R) • pt t.2).sum
  | [], _, _ => by simp
  | (k, p) :: ts, hv, ht => by
    rw [evalTerms_cons, AddSubgroup.coe_add, coe_toF_smul,
      coe_ιR (hv _ List.mem_cons_self) (ht _ List.mem_cons_self), List.map_cons, List.sum_cons,
      coe_evalTerms_ιR (fun t h => hv t (List.mem_cons_of_mem _ h))
        (fun t h => ht t (List.mem_cons_of_mem _ h))]

/-- an MSM of subgroup points stays in the subgroup -/
theorem msum_nsmul_R {ts : List (Nat × G1)} (hv : ∀ t ∈ ts, t.2.Valid)
    (ht : ∀ t ∈ ts, t.2.torsionFree = true) : R • pt (G1.msum ts) = 0 := by
  rw [(msum_spec hv).2, ← mem_Sub]
  apply AddSubgroup.list_sum_mem
  intro x hx
  obtain ⟨t, htm, rfl⟩ := List.mem_map.mp hx
  exact AddSubgroup.nsmul_mem _ (mem_Sub.mpr ((torsionFree_iff (hv t htm)).mp (ht t htm))) _

theorem msum_torsionFree {ts : List (Nat × G1)} (hv : ∀ t ∈ ts, t.2.Valid)
    (ht : ∀ t ∈ ts, t.2.torsionFree = true) : (G1.msum ts).torsionFree = true :=
  (torsionFree_iff (msum_spec hv).1).mpr (msum_nsmul_R hv ht)

/-- the model's MSM result, as a point of `E(F_p)[r]`, is the `F`-linear
    combination `evalTerms ιR` of its inputs -/
theorem msum_evalTerms {ts : List (Nat × G1)} (hv : ∀ t ∈ ts, t.2.Valid)
    (ht : ∀ t ∈ ts, t.2.torsionFree = true) : ιR (G1.msum ts) = evalTerms ιR ts := by
  apply Subtype.ext
  rw [ιR_of_nsmul (msum_nsmul_R hv ht), coe_evalTerms_ιR hv ht, (msum_spec hv).2]

theorem add_nsmul_R {p q : G1} (hp : p.Valid) (hq : q.Valid) (tp : p.torsionFree = true)
    (tq : q.torsionFree = true) : R • pt (p.add q) = 0 := by
  rw [pt_add hp hq, nsmul_add, (torsionFree_iff hp).mp tp, (torsionFree_iff hq).mp tq, add_zero]

theorem ιR_add {p q : G1} (hp : p.Valid) (hq : q.Valid) (tp : p.torsionFree = true)
    (tq : q.torsionFree = true) : ιR (p.add q) = ιR p + ιR q := by
  apply Subtype.ext
  rw [ιR_of_nsmul (add_nsmul_R hp hq tp tq), AddSubgroup.coe_add, coe_ιR hp tp, coe_ιR hq tq,
    pt_add hp hq]

theorem ιR_inf : ιR .inf = 0 := by
  apply Subtype.ext
  rw [ιR_of_nsmul (by rw [pt_inf, nsmul_zero])]; rfl

theorem ιR_injective {p q : G1} (hp : p.Valid) (hq : q.Valid) (tp : p.torsionFree = true)
    (tq : q.torsionFree = true) (h : ιR p = ιR q) : p = q := by
  apply pt_injective hp hq
  rw [← coe_ιR hp tp, ← coe_ιR hq tq, h]

theorem ιR_eq_zero_iff {p : G1} (hp : p.Valid) (tp : p.torsionFree = true) : ιR p = 0 ↔ p = .inf := by
  constructor
  · intro h
    exact ιR_injective hp trivial tp torsionFree_inf (h.trans ιR_inf.symm)
  · rintro rfl; exact ιR_inf

theorem smul_nsmul_R {k : Nat} (hk : k < 2 ^ 256) {p : G1} (hp : p.Valid) (tp : p.torsionFree = true) :
    R • pt (G1.smul k p) = 0 := by
  rw [(smul_spec hk hp).2, nsmul_left_comm, (torsionFree_iff hp).mp tp, nsmul_zero]

theorem smul_torsionFree {k : Nat} (hk : k < 2 ^ 256) {p : G1} (hp : p.Valid)
    (tp : p.torsionFree = true) : (G1.smul k p).torsionFree = true :=
  (torsionFree_iff (smul_spec hk hp).1).mpr (smul_nsmul_R hk hp tp)

theorem add_torsionFree {p q : G1} (hp : p.Valid) (hq : q.Valid) (tp : p.torsionFree = true)
    (tq : q.torsionFree = true) : (p.add q).torsionFree = true :=
  (torsionFree_iff (add_valid hp hq)).mpr (add_nsmul_R hp hq tp tq)

theorem ιR_smul {k : Nat} (hk : k < 2 ^ 256) {p : G1} (hp : p.Valid) (tp : p.torsionFree = true) :
    ιR (G1.smul k p) = toF k • ιR p := by
  apply Subtype.ext
  rw [ιR_of_nsmul (smul_nsmul_R hk hp tp), coe_toF_smul, coe_ιR hp tp, (smul_spec hk hp).2,
    nsmul_mod_R ((torsionFree_iff hp).mp tp)]

/-- the pairing-side test of the model verifier (`[x]·L + R = O`, trapdoor `x`), in `E(F_p)[r]` -/
theorem add_smul_msum_eq_inf_iff {x : Nat} (hx : x < 2 ^ 256) {left right : List (Nat × G1)}
    (hvl : ∀ t ∈ left, t.2.Valid) (htl : ∀ t ∈ left, t.2.torsionFree = true)
    (hvr : ∀ t ∈ right, t.2.Valid) (htr : ∀ t ∈ right, t.2.torsionFree = true) :
    G1.add (G1.smul x (G1.msum left)) (G1.msum right) = .inf ↔
      toF x • evalTerms ιR left + evalTerms ιR right = 0 := by
  have vl := (msum_spec hvl).1
  have vr := (msum_spec hvr).1
  have tl := msum_torsionFree hvl htl
  have tr := msum_torsionFree hvr htr
  have key : ∀ L Rr : G1, L.Valid → Rr.Valid → L.torsionFree = true → Rr.torsionFree = true →
      (G1.add (G1.smul x L) Rr = .inf ↔ toF x • ιR L + ιR Rr = 0) := by
    intro L Rr vL vR tL tR
    have hs := smul_spec hx vL
    have ts := smul_torsionFree hx vL tL
    generalize G1.smul x L = S at hs ts
    rw [← ιR_eq_zero_iff (add_valid hs.1 vR) (add_torsionFree hs.1 vR ts tR), ιR_add hs.1 vR ts tR]
    have : ιR S = toF x • ιR L := by
      apply Subtype.ext
      rw [coe_ιR hs.1 ts, coe_toF_smul, coe_ιR vL tL, hs.2, nsmul_mod_R ((torsionFree_iff vL).mp tL)]
    rw [this]
  rw [key _ _ vl vr tl tr, msum_evalTerms hvl htl, msum_evalTerms hvr htr]

end G1

end Plonk
