/-
  Glue lemmas for the arithmetic / equality / boolean / selection primitives of the composer.
  For each primitive `X`:
    * `X_appends`   : `Appends c c' k m` (extends, `k` gates / `m` witnesses appended, all plain)
    * `X_rows_iff`  : the appended rows hold under an arbitrary assignment iff the relation in `F`
    * `X_honest_ext`: the model's own witness table, read in any later state, satisfies them
    * `X_wf`        : well-formedness is preserved
    * `X_fst`, `X_snd`, `X_val` (primitives returning a witness): the returned index, the state,
                      the value the model stores there
-/
import Mathlib.Tactic.Ring
import Mathlib.Tactic.LinearCombination
import Mathlib.Tactic.FieldSimp
import Mathlib.Tactic.IntervalCases
import Plonk.Proofs.Spec

namespace Plonk
open Plonk.Composer

/-! ### one arithmetic row -/

/-- the public input a constraint contributes to its row (field level) -/
def Constraint.piF (s : Constraint) : F := if s.hasPi then toF s.pi else 0

/-- field-level arithmetic relation of `append_gate s` under the assignment `w`:
    `q_M·a·b + q_L·a + q_R·b + q_O·c + q_F·d + q_C + PI = 0` -/
def Constraint.arithRel (s : Constraint) (w : Nat → Nat) : Prop :=
  toF s.qm * toF (w s.a) * toF (w s.b) + toF s.ql * toF (w s.a) + toF s.qr * toF (w s.b)
    + toF s.qo * toF (w s.c) + toF s.qf * toF (w s.d) + toF s.qc + s.piF = 0

/-- the value `q_M·a·b + q_L·a + q_R·b + q_F·d + q_C` (no output term, no public input) -/
def Constraint.evalF (s : Constraint) (w : Nat → Nat) : F :=
  toF s.qm * toF (w s.a) * toF (w s.b) + toF s.ql * toF (w s.a) + toF s.qr * toF (w s.b)
    + toF s.qf * toF (w s.d) + toF s.qc

theorem Constraint.arithRel_iff (s : Constraint) (w : Nat → Nat) :
    s.arithRel w ↔ s.evalF w + toF s.qo * toF (w s.c) + s.piF = 0 := by
  unfold Constraint.arithRel Constraint.evalF
  exact Eq.congr_left (by ring)

theorem Constraint.evalF_congr (s : Constraint) {w w' : Nat → Nat} (ha : w s.a = w' s.a)
    (hb : w s.b = w' s.b) (hd : w s.d = w' s.d) : s.evalF w = s.evalF w' := by
  unfold Constraint.evalF; rw [ha, hb, hd]

namespace Composer

theorem plain_arithmetic (s : Constraint) : Gate.plain (Constraint.arithmetic s).toGate :=
  ⟨rfl, rfl, rfl, rfl⟩

theorem piAt_mk_push_self (g : Array Gate) (wt : Array Nat) (p : Array (Nat × Nat)) (n v : Nat) :
    (Composer.mk g wt (p.push (n, v))).piAt n = v := by
  unfold piAt; simp

theorem gateAt_appendCustomGate (s : Constraint) (c : Composer) :
    ((appendCustomGate s).run c).2.gateAt c.gates.size = s.toGate := by
  simp [gateAt]

theorem piAt_appendCustomGate (s : Constraint) (c : Composer)
    (hp : ∀ i, c.gates.size ≤ i → c.piAt i = 0) :
    toF (((appendCustomGate s).run c).2.piAt c.gates.size) = s.piF := by
  simp only [appendCustomGate_run, Constraint.piF]
  split
  · rw [piAt_mk_push_self]
  · have : ({ c with gates := c.gates.push s.toGate, pis := c.pis } : Composer).piAt c.gates.size
        = c.piAt c.gates.size := rfl
    rw [this, hp _ (Nat.le_refl _)]; rfl

theorem appendCustomGate_appends (s : Constraint) (c : Composer) (hp : Gate.plain s.toGate) :
    Appends c ((appendCustomGate s).run c).2 1 0 where
  ext := extends_appendCustomGate s c
  gates := by simp
  wit := rfl
  plain i h1 h2 := by
    have : i = c.gates.size := by simp at h2; omega
    subst this; rw [gateAt_appendCustomGate]; exact hp

theorem appendCustomGate_piFresh (s : Constraint) (c : Composer) (h : PiFresh c) :
    PiFresh ((appendCustomGate s).run c).2 := by
  intro i hi
  have hi' : c.gates.size < i :=
    Nat.lt_of_lt_of_le (by rw [appendCustomGate_run, Array.size_push]; exact Nat.lt_succ_self _) hi
  rw [appendCustomGate_run]
  split
  · exact (piAt_push_of_ne c _ _ i (Nat.ne_of_gt hi')).trans (h i (Nat.le_of_lt hi'))
  · exact h i (Nat.le_of_lt hi')

theorem appendCustomGate_wf (s : Constraint) (c : Composer) (h : WF c) :
    WF ((appendCustomGate s).run c).2 :=
  ⟨h.val_lt, appendCustomGate_piFresh s c h.pis_zero⟩

/-- a row holding the gate of `append_gate s`: the arithmetic relation of `s`, `hp` saying that
    the public input recorded for the row is the one `s` carries -/
theorem rowHoldsW_arithmetic {c : Composer} {w : Nat → Nat} {i : Nat} {s : Constraint}
    (h : c.gates[i]? = some (Constraint.arithmetic s).toGate) (hp : toF (c.piAt i) = s.piF) :
    c.rowHoldsW w i = true ↔ s.arithRel w := by
  rw [rowHoldsW_eq_of_get_plain h (plain_arithmetic s), rowHolds_arith _ rfl rfl rfl rfl, hp]
  unfold arithF Constraint.arithRel
  generalize s.piF = p
  simp only [Constraint.arithmetic, Constraint.fromExternal, Constraint.toGate, toF_one, mul_one]
  exact Eq.congr_left (by ring)

theorem rowHoldsW_arithmetic_noPi {c : Composer} {w : Nat → Nat} {i : Nat} {s : Constraint}
    (h : c.gates[i]? = some (Constraint.arithmetic s).toGate) (hs : s.hasPi = false)
    (hp : c.piAt i = 0) : c.rowHoldsW w i = true ↔ s.arithRel w :=
  rowHoldsW_arithmetic h (by rw [hp, toF_zero]; unfold Constraint.piF; rw [hs]; rfl)

/-! ### the primitives as specifications (`Spec.lean`) -/

theorem getVal_spec (x : Nat) (c : Composer) :
    Spec 2 (getVal x) c (c.val x) 0 0 (fun _ => True) (fun _ => True) (fun _ => True) :=
  .of_run_eq rfl

theorem appendWitness_val (v : Nat) (c : Composer) :
    ((appendWitness v).run c).2.val c.wit.size = v % R := by
  simp [val_push]

theorem appendWitness_spec (v : Nat) (c : Composer) :
    Spec 2 (appendWitness v) c c.wit.size 0 1 (fun _ => True)
      (fun t => t c.wit.size = v % R) (fun _ => True) where
  fst := rfl
  appendsL := ⟨extends_appendWitness v c, rfl, by simp,
    fun i h₁ h₂ => absurd (h₂ ▸ Nat.lt_succ_self i) (Nat.not_lt.mpr h₁)⟩
  piFresh h := h
  red i hi := by
    rw [appendWitness_run, val_push]
    split
    · exact Nat.mod_lt _ R_pos
    · rw [val_of_size_le c hi]; exact R_pos
  sound _ _ _ _ _ := trivial
  vals hext := by
    rw [hext.val_eq (by simp)]
    exact appendWitness_val v c
  complete _ _ _ _ := rowsHoldW_empty _ _ _
  conv _ _ _ _ := rowsHoldW_empty _ _ _
  plain _ _ h₁ h₂ := absurd h₂ (Nat.not_lt.mpr h₁)

/-- `append_gate s`: the appended row holds under `w` iff
    `q_M·a·b + q_L·a + q_R·b + q_O·c + q_F·d + q_C + PI = 0` (internal selectors of `s` dropped;
    `PI = s.pi` when `s.hasPi`, else `0`). -/
theorem appendGate_spec (s : Constraint) (c : Composer) :
    Spec 2 (appendGate s) c () 1 0 s.arithRel (fun _ => True) s.arithRel :=
  .of_rows rfl (appendCustomGate_appends _ c (plain_arithmetic s)) (appendCustomGate_piFresh _ c)
    (fun i hi => by show c.val i < R; rw [val_of_size_le c hi]; exact R_pos)
    (fun h w => by
      rw [show ((appendGate s).run c).2.gates.size = c.gates.size + 1 from Array.size_push ..,
        rowsHoldW_single]
      exact rowHoldsW_arithmetic (Array.getElem?_push_size ..) (piAt_appendCustomGate _ c h))
    fun _ h => h

/-! ### `append_evaluated_output` -/

/-- the value `x = q_M·a·b + q_L·a + q_R·b + q_F·d + q_C + PI` that `append_evaluated_output`
    computes.  `PI` here is `s.pi` whether or not `s.hasPi` is set, while the row carries it only
    when the flag is set (`Constraint.piF`): hence `s.hasPi = false → s.pi = 0` in the completeness
    hypothesis of `appendEvaluatedOutput_spec` and `gateAdd_spec`. -/
def aeoX (s : Constraint) (c : Composer) : Nat :=
  fadd (fadd (fadd (fadd (fadd (fmul (fmul s.qm (c.val s.a)) (c.val s.b)) (fmul s.ql (c.val s.a)))
    (fmul s.qr (c.val s.b))) (fmul s.qf (c.val s.d))) s.qc) s.pi

/-- the solved output value, `none` when `q_O` is not invertible -/
def aeoValue (s : Constraint) (c : Composer) : Option Nat :=
  if s.qo == 1 % R then some (fneg (aeoX s c))
  else if s.qo == R - 1 then some (aeoX s c)
  else (finv? s.qo).map fun yi => fmul (aeoX s c) (fneg yi)

theorem appendEvaluatedOutput_run (s : Constraint) (c : Composer) :
    (appendEvaluatedOutput s).run c =
      match aeoValue s c with
      | some cv =>
        (some c.wit.size,
          ((appendGate { s with c := c.wit.size }).run ((appendWitness cv).run c).2).2)
      | none => (none, ((appendGate s).run c).2) := by
  unfold appendEvaluatedOutput aeoValue aeoX
  simp only [bind, StateT.bind, StateT.run, getVal, pure]
  split
  · rfl
  · split
    · rfl
    · cases finv? s.qo <;> rfl

theorem toF_aeoX (s : Constraint) (c : Composer) :
    toF (aeoX s c) = s.evalF c.val + toF s.pi := by
  unfold aeoX Constraint.evalF; simp

theorem aeoValue_eq_none_iff (s : Constraint) (c : Composer) :
    aeoValue s c = none ↔ toF s.qo = 0 := by
  unfold aeoValue
  split
  · next h =>
    have : s.qo = 1 := by rw [one_mod_R] at h; simpa using h
    simp [this]
  · split
    · next h =>
      have : s.qo = R - 1 := by simpa using h
      simp [this, toF_R_sub_one]
    · rw [Option.map_eq_none_iff, finv?_eq_none_iff]

theorem aeoValue_some (s : Constraint) (c : Composer) {cv : Nat} (h : aeoValue s c = some cv) :
    toF s.qo ≠ 0 ∧ toF s.qo * toF cv = -(s.evalF c.val + toF s.pi) := by
  have hx := toF_aeoX s c
  unfold aeoValue at h
  split at h
  · next h1 =>
    rw [one_mod_R, beq_iff_eq] at h1
    injection h with h
    rw [← h, h1, toF_one, toF_fneg, hx, one_mul]
    exact ⟨one_ne_zero, rfl⟩
  · split at h
    · next h2 =>
      rw [beq_iff_eq] at h2
      injection h with h
      rw [← h, h2, toF_R_sub_one, hx, neg_one_mul]
      exact ⟨neg_ne_zero.mpr one_ne_zero, rfl⟩
    · rw [Option.map_eq_some_iff] at h
      obtain ⟨yi, hy, hcv⟩ := h
      obtain ⟨hne, hyi⟩ := finv?_some _ _ hy
      refine ⟨hne, ?_⟩
      subst hcv
      rw [toF_fmul, toF_fneg, hyi, hx, mul_neg, mul_neg, mul_left_comm, mul_inv_cancel₀ hne, mul_one]

/-- invertible `q_O`: description of the resulting state -/
theorem appendEvaluatedOutput_some (s : Constraint) (c : Composer) (h : toF s.qo ≠ 0) :
    ∃ cv, toF s.qo * toF cv = -(s.evalF c.val + toF s.pi) ∧
      (appendEvaluatedOutput s).run c =
        (some c.wit.size,
          ((appendGate { s with c := c.wit.size }).run ((appendWitness cv).run c).2).2) := by
  cases hv : aeoValue s c with
  | none => exact absurd ((aeoValue_eq_none_iff s c).mp hv) h
  | some cv => exact ⟨cv, (aeoValue_some s c hv).2, by rw [appendEvaluatedOutput_run, hv]⟩

/-- non-invertible `q_O`: no witness, one arithmetic row on the inputs -/
theorem appendEvaluatedOutput_none (s : Constraint) (c : Composer) (h : toF s.qo = 0) :
    (appendEvaluatedOutput s).run c = (none, ((appendGate s).run c).2) := by
  rw [appendEvaluatedOutput_run, (aeoValue_eq_none_iff s c).mpr h]

/-- invertible `q_O`: the returned witness `o = c.wit.size` is allocated and the row says
    `q_M·a·b + q_L·a + q_R·b + q_F·d + q_C + q_O·o + PI = 0` (the wire `c` of `s` is ignored). The
    model's table satisfies it when the operands are allocated and the public-input coefficient is
    absent when the flag is off. -/
theorem appendEvaluatedOutput_spec (s : Constraint) (c : Composer) (h : toF s.qo ≠ 0) :
    Spec 2 (appendEvaluatedOutput s) c (some c.wit.size) 1 1
      (fun w => s.evalF w + toF s.qo * toF (w c.wit.size) + s.piF = 0) (fun _ => True)
      (fun _ => (s.hasPi = false → s.pi = 0) ∧ s.a < c.wit.size ∧ s.b < c.wit.size ∧
        s.d < c.wit.size) := by
  obtain ⟨cv, hcv, hr⟩ := appendEvaluatedOutput_some s c h
  refine Spec.congr (m' := appendWitness cv >>= fun o =>
    appendGate { s with c := o } >>= fun _ => pure (some o)) hr ?_
  apply Spec.mono_iff
  · apply (appendWitness_spec _ _).bind
    apply (appendGate_spec _ _).bind
    exact Spec.pure _ _
  · decide
  · rfl
  · rfl
  · rfl
  · intro w
    rw [Constraint.arithRel_iff]
    exact ⟨fun h => h.2.1, fun h => ⟨trivial, h, trivial⟩⟩
  · intros; trivial
  · rintro t hag - ⟨ho, -⟩ ⟨hpi, ha, hb, hd⟩
    refine ⟨trivial, fun _ => ⟨?_, fun _ => trivial⟩⟩
    have hp : s.piF = toF s.pi := by
      unfold Constraint.piF
      cases hh : s.hasPi with
      | true => rfl
      | false => rw [hpi hh]; exact toF_zero.symm
    rw [Constraint.arithRel_iff]
    show s.evalF t + toF s.qo * toF (t c.wit.size) + s.piF = 0
    rw [ho, toF_mod, hcv, hp, s.evalF_congr (hag _ ha) (hag _ hb) (hag _ hd)]
    ring

/-- non-invertible `q_O`: nothing is returned, the row is the arithmetic relation of `s` -/
theorem appendEvaluatedOutput_spec_none (s : Constraint) (c : Composer) (h : toF s.qo = 0) :
    Spec 2 (appendEvaluatedOutput s) c none 1 0 s.arithRel (fun _ => True) s.arithRel := by
  refine Spec.congr (m' := appendGate s >>= fun _ => pure none)
    (appendEvaluatedOutput_none s c h) ?_
  apply Spec.mono_iff
  · apply (appendGate_spec s c).bind
    exact Spec.pure _ _
  · decide
  · rfl
  · rfl
  · rfl
  · exact fun _ => and_iff_left trivial
  · intros; trivial
  · exact fun _ _ _ _ h => ⟨h, fun _ => trivial⟩

/-! ### `gate_add` / `gate_mul` -/

/-- the constraint `gate_add` actually appends -/
def gateAddC (s : Constraint) : Constraint := { Constraint.arithmetic s with qo := R - 1 }

theorem toF_gateAddC_qo_eq (s : Constraint) : toF (gateAddC s).qo = -1 := toF_R_sub_one

theorem toF_gateAddC_qo (s : Constraint) : toF (gateAddC s).qo ≠ 0 := by
  rw [toF_gateAddC_qo_eq]; exact neg_ne_zero.mpr one_ne_zero

theorem gateAddC_evalF (s : Constraint) (w : Nat → Nat) : (gateAddC s).evalF w = s.evalF w := by
  simp only [Constraint.evalF, gateAddC, Constraint.arithmetic, Constraint.fromExternal]

theorem gateAddC_piF (s : Constraint) : (gateAddC s).piF = s.piF := by
  unfold Constraint.piF; rfl

/-- `gate_mul` is `gate_add` -/
theorem gateMul_eq (s : Constraint) : gateMul s = gateAdd s := rfl

/-- `gate_add s` / `gate_mul s`: the returned witness `o = c.wit.size` carries
    `q_M·a·b + q_L·a + q_R·b + q_F·d + q_C + PI` (`q_O` of `s` and its internal selectors are
    ignored). Operands `s` does not name are wire `0`, so their allocation follows from
    `0 < c.wit.size`. -/
theorem gateAdd_spec (s : Constraint) (c : Composer) :
    Spec 2 (gateAdd s) c c.wit.size 1 1 (fun w => toF (w c.wit.size) = s.evalF w + s.piF)
      (fun _ => True)
      (fun _ => (s.hasPi = false → s.pi = 0) ∧ s.a < c.wit.size ∧ s.b < c.wit.size ∧
        s.d < c.wit.size) := by
  unfold gateAdd
  apply Spec.mono_iff
  · apply (appendEvaluatedOutput_spec (gateAddC s) c (toF_gateAddC_qo s)).bind
    exact Spec.pure _ _
  · decide
  · rfl
  · rfl
  · rfl
  · intro w
    rw [gateAddC_evalF, gateAddC_piF, toF_gateAddC_qo_eq]
    exact (and_iff_left trivial).trans (eq_zero_iff_of_eq_sub' (by ring))
  · intros; trivial
  · exact fun _ _ _ _ h => ⟨h, fun _ => trivial⟩

/-- `o := a · b` -/
theorem gateMul_spec (a b : Nat) (c : Composer) :
    Spec 2 (gateMul { qm := 1, a := a, b := b }) c c.wit.size 1 1
      (fun w => toF (w c.wit.size) = toF (w a) * toF (w b)) (fun _ => True)
      (fun _ => a < c.wit.size ∧ b < c.wit.size) :=
  (gateAdd_spec _ c).mono_iff (Nat.le_refl 2) rfl rfl rfl
    (fun w => by
      simp only [Constraint.evalF, Constraint.piF, toF_zero, toF_one, zero_mul, one_mul, add_zero,
        Bool.false_eq_true, ↓reduceIte])
    (fun _ _ h => h) (fun _ _ _ _ h => ⟨fun _ => rfl, h.1, h.2, Nat.zero_lt_of_lt h.1⟩)

/-- `o := k − a` -/
theorem gateSub_spec (a k : Nat) (c : Composer) :
    Spec 2 (gateAdd { ql := R - 1, a := a, qc := k }) c c.wit.size 1 1
      (fun w => toF (w c.wit.size) = toF k - toF (w a)) (fun _ => True)
      (fun _ => a < c.wit.size) :=
  (gateAdd_spec _ c).mono_iff (Nat.le_refl 2) rfl rfl rfl
    (fun w => by
      simp only [Constraint.evalF, Constraint.piF, toF_zero, toF_R_sub_one, zero_mul, neg_one_mul,
        add_zero, zero_add, Bool.false_eq_true, ↓reduceIte, neg_add_eq_sub])
    (fun _ _ h => h)
    (fun _ _ _ _ h => ⟨fun _ => rfl, h, Nat.zero_lt_of_lt h, Nat.zero_lt_of_lt h⟩)

/-- `o := p · a + q · b` -/
theorem gateLin_spec (p q a b : Nat) (c : Composer) :
    Spec 2 (gateAdd { ql := p, qr := q, a := a, b := b }) c c.wit.size 1 1
      (fun w => toF (w c.wit.size) = toF p * toF (w a) + toF q * toF (w b)) (fun _ => True)
      (fun _ => a < c.wit.size ∧ b < c.wit.size) :=
  (gateAdd_spec _ c).mono_iff (Nat.le_refl 2) rfl rfl rfl
    (fun w => by
      simp only [Constraint.evalF, Constraint.piF, toF_zero, zero_mul, add_zero, zero_add,
        Bool.false_eq_true, ↓reduceIte])
    (fun _ _ h => h) (fun _ _ _ _ h => ⟨fun _ => rfl, h.1, h.2, Nat.zero_lt_of_lt h.1⟩)

/-! ### witness counts, for normalising the indices in a chain -/

theorem appendWitness_wit_size (v : Nat) (c : Composer) :
    ((appendWitness v).run c).2.wit.size = c.wit.size + 1 := (appendWitness_spec v c).wit
theorem appendGate_wit_size (s : Constraint) (c : Composer) :
    ((appendGate s).run c).2.wit.size = c.wit.size := rfl
theorem gateAdd_wit_size (s : Constraint) (c : Composer) :
    ((gateAdd s).run c).2.wit.size = c.wit.size + 1 := (gateAdd_spec s c).wit
theorem assertEqual_wit_size (a b : Nat) (c : Composer) :
    ((assertEqual a b).run c).2.wit.size = c.wit.size := rfl
theorem assertEqualConstant_wit_size (a k : Nat) (pub : Option Nat) (c : Composer) :
    ((assertEqualConstant a k pub).run c).2.wit.size = c.wit.size := rfl
theorem componentBoolean_wit_size (a : Nat) (c : Composer) :
    ((componentBoolean a).run c).2.wit.size = c.wit.size := rfl

/-! ### the gadgets built from them -/

theorem arithRel_assertEqual (a b : Nat) (w : Nat → Nat) :
    Constraint.arithRel { ql := 1, qr := R - 1, a := a, b := b } w ↔ toF (w a) = toF (w b) := by
  simp only [Constraint.arithRel, Constraint.piF, toF_zero, toF_one, toF_R_sub_one,
    Bool.false_eq_true, ↓reduceIte]
  exact eq_zero_iff_of_eq_sub (by ring)

/-- `assert_equal a b`: `w a = w b` in the field -/
theorem assertEqual_spec (a b : Nat) (c : Composer) :
    Spec 2 (assertEqual a b) c () 1 0 (fun w => toF (w a) = toF (w b)) (fun _ => True)
      (fun v => toF (v a) = toF (v b)) :=
  (appendGate_spec _ c).mono_iff (Nat.le_refl 2) rfl rfl rfl (arithRel_assertEqual a b) (fun _ _ h => h)
    (fun v _ _ _ => (arithRel_assertEqual a b v).mpr)

/-- the optional public input as a field element -/
def pubF : Option Nat → F
  | some p => toF p
  | none => 0

theorem arithRel_assertEqualConstant (a k : Nat) (pub : Option Nat) (w : Nat → Nat) :
    Constraint.arithRel (match pub with
      | some p => { ql := R - 1, a := a, qc := k % R, pi := p % R, hasPi := true }
      | none => { ql := R - 1, a := a, qc := k % R }) w ↔ toF (w a) = toF k + pubF pub := by
  cases pub <;>
    simp only [Constraint.arithRel, Constraint.piF, pubF, toF_zero, toF_mod, toF_R_sub_one,
      Bool.false_eq_true, ↓reduceIte] <;>
    exact eq_zero_iff_of_eq_sub' (by ring)

/-- `assert_equal_constant a k pub`: `w a = k + pub` -/
theorem assertEqualConstant_spec (a k : Nat) (pub : Option Nat) (c : Composer) :
    Spec 2 (assertEqualConstant a k pub) c () 1 0 (fun w => toF (w a) = toF k + pubF pub)
      (fun _ => True) (fun v => toF (v a) = toF k + pubF pub) :=
  (appendGate_spec _ c).mono_iff (Nat.le_refl 2) rfl rfl rfl (arithRel_assertEqualConstant a k pub) (fun _ _ h => h)
    (fun v _ _ _ => (arithRel_assertEqualConstant a k pub v).mpr)

theorem arithRel_boolean (a : Nat) (w : Nat → Nat) :
    Constraint.arithRel { qm := 1, qo := R - 1, a := a, b := a, c := a, d := ZERO } w ↔
      toF (w a) * toF (w a) = toF (w a) := by
  simp only [Constraint.arithRel, Constraint.piF, toF_zero, toF_one, toF_R_sub_one, ZERO,
    Bool.false_eq_true, ↓reduceIte]
  exact eq_zero_iff_of_eq_sub (by ring)

/-- `component_boolean a`: `x·x = x` (`sq_eq_self_iff`: `x = 0 ∨ x = 1`) -/
theorem componentBoolean_spec (a : Nat) (c : Composer) :
    Spec 2 (componentBoolean a) c () 1 0 (fun w => toF (w a) * toF (w a) = toF (w a))
      (fun _ => True) (fun v => toF (v a) * toF (v a) = toF (v a)) :=
  (appendGate_spec _ c).mono_iff (Nat.le_refl 2) rfl rfl rfl (arithRel_boolean a) (fun _ _ h => h)
    (fun v _ _ _ => (arithRel_boolean a v).mpr)

theorem sq_eq_self_iff (x : F) : x * x = x ↔ x = 0 ∨ x = 1 := by
  rw [← sub_eq_zero, ← mul_sub_one, mul_eq_zero, sub_eq_zero]

/-- `append_constant v`: the returned witness carries `v` -/
theorem appendConstant_spec (v : Nat) (c : Composer) :
    Spec 2 (appendConstant v) c c.wit.size 1 1 (fun w => toF (w c.wit.size) = toF v)
      (fun t => t c.wit.size = v % R) (fun _ => True) := by
  unfold appendConstant
  apply Spec.mono_iff
  · apply (appendWitness_spec _ _).bind
    exact (assertEqualConstant_spec _ _ _ _).bind_pure _
  · decide
  · rfl
  · rfl
  · rfl
  · intro w; simp only [pubF, add_zero, true_and]
  · exact fun _ _ h => h.1
  · rintro t - - ⟨h, -⟩ -
    exact ⟨trivial, fun _ => by rw [h, toF_mod, pubF, add_zero]⟩

/-- `append_public v`: the returned witness equals the public input `v` -/
theorem appendPublic_spec (v : Nat) (c : Composer) :
    Spec 2 (appendPublic v) c c.wit.size 1 1 (fun w => toF (w c.wit.size) = toF v)
      (fun t => t c.wit.size = v % R) (fun _ => True) := by
  unfold appendPublic
  apply Spec.mono_iff
  · apply (appendWitness_spec _ _).bind
    exact (appendGate_spec _ _).bind_pure _
  · decide
  · rfl
  · rfl
  · rfl
  · intro w
    simp only [Constraint.arithRel, Constraint.piF, toF_zero, toF_mod, toF_R_sub_one, ↓reduceIte,
      true_and]
    exact eq_zero_iff_of_eq_sub' (by ring)
  · exact fun _ _ h => h.1
  · rintro t - - ⟨h, -⟩ -
    refine ⟨trivial, fun _ => ?_⟩
    simp only [Constraint.arithRel, Constraint.piF, toF_zero, toF_mod, toF_R_sub_one, ↓reduceIte,
      h]
    ring

/-- `component_select_zero bit value`: the returned witness carries `bit · value` -/
theorem componentSelectZero_spec (bit value : Nat) (c : Composer) :
    Spec 2 (componentSelectZero bit value) c c.wit.size 1 1
      (fun w => toF (w c.wit.size) = toF (w bit) * toF (w value)) (fun _ => True)
      (fun _ => bit < c.wit.size ∧ value < c.wit.size) :=
  (gateAdd_spec { qm := 1, a := bit, b := value } c).mono_iff (Nat.le_refl 2) rfl rfl rfl
    (fun w => by
      simp only [Constraint.evalF, Constraint.piF, toF_zero, toF_one, zero_mul, one_mul, add_zero,
        Bool.false_eq_true, ↓reduceIte])
    (fun _ _ h => h) (fun _ _ _ _ h => ⟨fun _ => rfl, h.1, h.2, Nat.zero_lt_of_lt h.1⟩)

/-- `component_select_one bit value`: the returned witness carries `1 − bit + bit · value` -/
theorem componentSelectOne_spec (bit value : Nat) (c : Composer) :
    Spec 2 (componentSelectOne bit value) c c.wit.size 1 1
      (fun w => toF (w c.wit.size) = 1 - toF (w bit) + toF (w bit) * toF (w value))
      (fun _ => True) (fun _ => bit < c.wit.size ∧ value < c.wit.size) := by
  unfold componentSelectOne
  apply Spec.bind_read (getVal_run bit c)
  apply Spec.bind_read (getVal_run value c)
  apply Spec.mono_iff
  · apply (appendWitness_spec _ _).bind
    exact (appendGate_spec _ _).bind_pure _
  · decide
  · rfl
  · rfl
  · rfl
  · intro w
    simp only [Constraint.arithRel, Constraint.piF, toF_zero, toF_one, toF_R_sub_one,
      Bool.false_eq_true, ↓reduceIte, true_and]
    exact eq_zero_iff_of_eq_sub' (by ring)
  · intros; trivial
  · rintro t hag - ⟨h, -⟩ ⟨hb, hv⟩
    refine ⟨trivial, fun _ => ?_⟩
    simp only [Constraint.arithRel, Constraint.piF, toF_zero, toF_one, toF_R_sub_one,
      Bool.false_eq_true, ↓reduceIte, h, hag _ hb, hag _ hv, toF_mod, toF_fadd, toF_fsub,
      toF_fmul]
    ring


/-- `component_select bit a b`: the four allocated witnesses `n … n+3` (`n = c.wit.size`) carry
    `bit·a`, `1 − bit`, `(1 − bit)·b` and their sum; the returned witness is `n+3`. -/
theorem componentSelect_spec (bit a b : Nat) (c : Composer) :
    Spec 2 (componentSelect bit a b) c (c.wit.size + 3) 4 4
      (fun w => toF (w c.wit.size) = toF (w bit) * toF (w a) ∧
        toF (w (c.wit.size + 1)) = 1 - toF (w bit) ∧
        toF (w (c.wit.size + 2)) = toF (w (c.wit.size + 1)) * toF (w b) ∧
        toF (w (c.wit.size + 3)) = toF (w (c.wit.size + 2)) + toF (w c.wit.size))
      (fun _ => True)
      (fun _ => bit < c.wit.size ∧ a < c.wit.size ∧ b < c.wit.size) := by
  unfold componentSelect
  apply Spec.mono_iff
  · apply (gateMul_spec _ _ _).bind
    apply (gateSub_spec _ _ _).bind
    apply (gateMul_spec _ _ _).bind
    exact gateLin_spec _ _ _ _ _
  · decide
  · simp only [gateAdd_wit_size, gateMul_eq]
  · rfl
  · rfl
  · intro w
    simp only [gateAdd_wit_size, gateMul_eq, toF_one, one_mul]
  · intros; trivial
  · rintro v - - - ⟨hbit, ha, hb⟩
    simp only [gateAdd_wit_size, gateMul_eq]
    exact ⟨⟨hbit, ha⟩, fun _ => ⟨by omega, fun _ => ⟨⟨by omega, by omega⟩, fun _ =>
      ⟨by omega, by omega⟩⟩⟩⟩

theorem appendConstant_wit_size (v : Nat) (c : Composer) :
    ((appendConstant v).run c).2.wit.size = c.wit.size + 1 := (appendConstant_spec v c).wit
theorem componentSelectZero_wit_size (bit value : Nat) (c : Composer) :
    ((componentSelectZero bit value).run c).2.wit.size = c.wit.size + 1 :=
  (componentSelectZero_spec bit value c).wit
theorem componentSelectOne_wit_size (bit value : Nat) (c : Composer) :
    ((componentSelectOne bit value).run c).2.wit.size = c.wit.size + 1 :=
  (componentSelectOne_spec bit value c).wit
theorem componentSelect_wit_size (bit a b : Nat) (c : Composer) :
    ((componentSelect bit a b).run c).2.wit.size = c.wit.size + 4 :=
  (componentSelect_spec bit a b c).wit

/-! ### what the model stores (no hypothesis on the operands) -/

/-- the value the model stores in the returned witness: `−(x)/q_O` -/
theorem appendEvaluatedOutput_val (s : Constraint) (c : Composer) (h : toF s.qo ≠ 0) :
    toF (((appendEvaluatedOutput s).run c).2.val c.wit.size) =
      -(s.evalF c.val + toF s.pi) / toF s.qo := by
  obtain ⟨cv, hcv, hr⟩ := appendEvaluatedOutput_some s c h; rw [hr]
  have : ((appendGate { s with c := c.wit.size }).run ((appendWitness cv).run c).2).2.val c.wit.size
      = cv % R := appendWitness_val cv c
  rw [this, toF_mod, eq_div_iff h, ← hcv]; ring

theorem gateAdd_run (s : Constraint) (c : Composer) :
    (gateAdd s).run c = (c.wit.size, ((appendEvaluatedOutput (gateAddC s)).run c).2) := by
  obtain ⟨cv, -, hr⟩ := appendEvaluatedOutput_some (gateAddC s) c (toF_gateAddC_qo s)
  show (match (appendEvaluatedOutput (gateAddC s)).run c with
    | (some o, c') => (o, c') | (none, c') => (0, c')) = _
  rw [hr]

theorem gateAdd_fst (s : Constraint) (c : Composer) : ((gateAdd s).run c).1 = c.wit.size :=
  (gateAdd_spec s c).fst

theorem gateAdd_snd (s : Constraint) (c : Composer) :
    ((gateAdd s).run c).2 = ((appendEvaluatedOutput (gateAddC s)).run c).2 := by
  rw [gateAdd_run]

/-- `gateAdd_run` in the form `gateAdd s c` takes once `bind` is unfolded -/
theorem gateAdd_apply (s : Constraint) (c : Composer) :
    gateAdd s c = (c.wit.size, ((gateAdd s).run c).2) := by
  have := gateAdd_run s c
  rw [gateAdd_snd]; exact this

/-- the value the model stores -/
theorem gateAdd_val (s : Constraint) (c : Composer) :
    toF (((gateAdd s).run c).2.val c.wit.size) = s.evalF c.val + toF s.pi := by
  have : (gateAddC s).pi = s.pi := by
    simp only [gateAddC, Constraint.arithmetic, Constraint.fromExternal]
  rw [gateAdd_snd, appendEvaluatedOutput_val _ c (toF_gateAddC_qo s), gateAddC_evalF, this,
    toF_gateAddC_qo_eq, neg_div_neg_eq, div_one]

theorem componentSelectZero_val (bit value : Nat) (c : Composer) :
    toF (((componentSelectZero bit value).run c).2.val c.wit.size) =
      toF (c.val bit) * toF (c.val value) := by
  unfold componentSelectZero gateMul
  rw [gateAdd_val]
  simp [Constraint.evalF]

/-- the value the model stores in the returned witness -/
theorem componentSelect_val (bit a b : Nat) (c : Composer) (hwf : WF c)
    (hbit : bit < c.wit.size) (ha : a < c.wit.size) (hb : b < c.wit.size) :
    toF (((componentSelect bit a b).run c).2.val (c.wit.size + 3)) =
      toF (c.val bit) * toF (c.val a) + (1 - toF (c.val bit)) * toF (c.val b) := by
  have S := componentSelect_spec bit a b c
  obtain ⟨h1, h2, h3, h4⟩ := S.sound hwf.pis_zero (Extends.refl _) _
    (S.complete hwf.pis_zero (Extends.refl _) ⟨hbit, ha, hb⟩)
  rw [h4, h3, h2, h1, S.ext.val_eq hbit, S.ext.val_eq ha, S.ext.val_eq hb]; ring

/-! ### the specifications read aspect by aspect

    The forms in which files that do not chain specifications, and the statements of `Props/C08.lean`,
    use them: what is appended, well-formedness, the rows in the component's own final state. -/

theorem appendWitness_appends (v : Nat) (c : Composer) :
    Appends c ((appendWitness v).run c).2 0 1 := (appendWitness_spec v c).appends (Nat.le_refl 2)
theorem appendWitness_wf (v : Nat) (c : Composer) (h : WF c) : WF ((appendWitness v).run c).2 :=
  (appendWitness_spec v c).wf h

theorem appendGate_appends (s : Constraint) (c : Composer) :
    Appends c ((appendGate s).run c).2 1 0 := (appendGate_spec s c).appends (Nat.le_refl 2)
theorem appendGate_extends (s : Constraint) (c : Composer) :
    Extends c ((appendGate s).run c).2 := (appendGate_spec s c).ext
theorem appendGate_wf (s : Constraint) (c : Composer) (h : WF c) :
    WF ((appendGate s).run c).2 := (appendGate_spec s c).wf h
theorem appendGate_rows_iff (s : Constraint) (c : Composer) (h : WF c) (w : Nat → Nat) :
    ((appendGate s).run c).2.rowsHoldW w c.gates.size ((appendGate s).run c).2.gates.size
      ↔ s.arithRel w := (appendGate_spec s c).rows_iff_self (by decide) h.pis_zero w

theorem appendEvaluatedOutput_wf (s : Constraint) (c : Composer) (hwf : WF c) :
    WF ((appendEvaluatedOutput s).run c).2 :=
  if h : toF s.qo = 0 then (appendEvaluatedOutput_spec_none s c h).wf hwf
  else (appendEvaluatedOutput_spec s c h).wf hwf

theorem gateAdd_appends (s : Constraint) (c : Composer) :
    Appends c ((gateAdd s).run c).2 1 1 := (gateAdd_spec s c).appends (Nat.le_refl 2)
theorem gateAdd_gates_size (s : Constraint) (c : Composer) :
    ((gateAdd s).run c).2.gates.size = c.gates.size + 1 := (gateAdd_spec s c).gates
theorem gateAdd_wf (s : Constraint) (c : Composer) (h : WF c) : WF ((gateAdd s).run c).2 :=
  (gateAdd_spec s c).wf h
theorem gateAdd_rows_iff (s : Constraint) (c : Composer) (h : WF c) (w : Nat → Nat) :
    ((gateAdd s).run c).2.rowsHoldW w c.gates.size ((gateAdd s).run c).2.gates.size ↔
      toF (w c.wit.size) = s.evalF w + s.piF := (gateAdd_spec s c).rows_iff_self (by decide) h.pis_zero w
theorem gateAdd_honest_ext (s : Constraint) (c : Composer) (hwf : WF c)
    (hpi : s.hasPi = false → s.pi = 0)
    (ha : s.a < c.wit.size) (hb : s.b < c.wit.size) (hd : s.d < c.wit.size)
    {c'' : Composer} (hext : Extends ((gateAdd s).run c).2 c'') :
    ((gateAdd s).run c).2.rowsHoldW c''.val c.gates.size ((gateAdd s).run c).2.gates.size :=
  (gateAdd_spec s c).complete_self hwf.pis_zero hext ⟨hpi, ha, hb, hd⟩

theorem assertEqual_appends (a b : Nat) (c : Composer) :
    Appends c ((assertEqual a b).run c).2 1 0 := (assertEqual_spec a b c).appends (Nat.le_refl 2)
theorem assertEqual_wf (a b : Nat) (c : Composer) (h : WF c) :
    WF ((assertEqual a b).run c).2 := (assertEqual_spec a b c).wf h
theorem assertEqual_rows_iff (a b : Nat) (c : Composer) (h : WF c) (w : Nat → Nat) :
    ((assertEqual a b).run c).2.rowsHoldW w c.gates.size ((assertEqual a b).run c).2.gates.size ↔
      toF (w a) = toF (w b) := (assertEqual_spec a b c).rows_iff_self (by decide) h.pis_zero w

theorem assertEqualConstant_appends (a k : Nat) (pub : Option Nat) (c : Composer) :
    Appends c ((assertEqualConstant a k pub).run c).2 1 0 :=
  (assertEqualConstant_spec a k pub c).appends (Nat.le_refl 2)
theorem assertEqualConstant_wf (a k : Nat) (pub : Option Nat) (c : Composer) (h : WF c) :
    WF ((assertEqualConstant a k pub).run c).2 := (assertEqualConstant_spec a k pub c).wf h
theorem assertEqualConstant_rows_iff (a k : Nat) (pub : Option Nat) (c : Composer) (h : WF c)
    (w : Nat → Nat) :
    ((assertEqualConstant a k pub).run c).2.rowsHoldW w c.gates.size
        ((assertEqualConstant a k pub).run c).2.gates.size ↔
      toF (w a) = toF k + pubF pub := (assertEqualConstant_spec a k pub c).rows_iff_self (by decide) h.pis_zero w
theorem assertEqualConstant_honest_ext (a k : Nat) (pub : Option Nat) (c : Composer) (hwf : WF c)
    (ha : a < c.wit.size) (heq : toF (c.val a) = toF k + pubF pub)
    {c'' : Composer} (hext : Extends ((assertEqualConstant a k pub).run c).2 c'') :
    ((assertEqualConstant a k pub).run c).2.rowsHoldW c''.val c.gates.size
      ((assertEqualConstant a k pub).run c).2.gates.size :=
  have S := assertEqualConstant_spec a k pub c
  S.complete_self hwf.pis_zero hext (by rw [(S.ext.trans hext).val_eq ha]; exact heq)
theorem assertEqualConstant_honest_iff (a k : Nat) (pub : Option Nat) (c : Composer) (hwf : WF c) :
    ((assertEqualConstant a k pub).run c).2.rowsHoldW ((assertEqualConstant a k pub).run c).2.val
        c.gates.size ((assertEqualConstant a k pub).run c).2.gates.size ↔
      toF (c.val a) = toF k + pubF pub :=
  (assertEqualConstant_spec a k pub c).rows_iff_self (by decide) hwf.pis_zero _

theorem componentBoolean_appends (a : Nat) (c : Composer) :
    Appends c ((componentBoolean a).run c).2 1 0 := (componentBoolean_spec a c).appends (Nat.le_refl 2)
theorem componentBoolean_wf (a : Nat) (c : Composer) (h : WF c) :
    WF ((componentBoolean a).run c).2 := (componentBoolean_spec a c).wf h
theorem componentBoolean_rows_iff_sq (a : Nat) (c : Composer) (h : WF c) (w : Nat → Nat) :
    ((componentBoolean a).run c).2.rowsHoldW w c.gates.size
        ((componentBoolean a).run c).2.gates.size ↔ toF (w a) * toF (w a) = toF (w a) :=
  (componentBoolean_spec a c).rows_iff_self (by decide) h.pis_zero w
theorem componentBoolean_rows_iff (a : Nat) (c : Composer) (h : WF c) (w : Nat → Nat) :
    ((componentBoolean a).run c).2.rowsHoldW w c.gates.size
        ((componentBoolean a).run c).2.gates.size ↔ (toF (w a) = 0 ∨ toF (w a) = 1) :=
  (componentBoolean_rows_iff_sq a c h w).trans (sq_eq_self_iff _)
theorem componentBoolean_honest_ext (a : Nat) (c : Composer) (hwf : WF c)
    (ha : a < c.wit.size) (hbit : c.val a = 0 ∨ c.val a = 1)
    {c'' : Composer} (hext : Extends ((componentBoolean a).run c).2 c'') :
    ((componentBoolean a).run c).2.rowsHoldW c''.val c.gates.size
      ((componentBoolean a).run c).2.gates.size := by
  have S := componentBoolean_spec a c
  refine S.complete_self hwf.pis_zero hext ?_
  rw [(S.ext.trans hext).val_eq ha]
  rcases hbit with h | h <;> rw [h] <;> simp

theorem appendConstant_run (v : Nat) (c : Composer) :
    (appendConstant v).run c =
      (c.wit.size, ((assertEqualConstant c.wit.size v none).run ((appendWitness v).run c).2).2) :=
  rfl
theorem appendConstant_appends (v : Nat) (c : Composer) :
    Appends c ((appendConstant v).run c).2 1 1 := (appendConstant_spec v c).appends (Nat.le_refl 2)
theorem appendConstant_extends (v : Nat) (c : Composer) :
    Extends c ((appendConstant v).run c).2 := (appendConstant_spec v c).ext
theorem appendConstant_wf (v : Nat) (c : Composer) (h : WF c) :
    WF ((appendConstant v).run c).2 := (appendConstant_spec v c).wf h
theorem appendConstant_rows_iff (v : Nat) (c : Composer) (h : WF c) (w : Nat → Nat) :
    ((appendConstant v).run c).2.rowsHoldW w c.gates.size ((appendConstant v).run c).2.gates.size ↔
      toF (w c.wit.size) = toF v := (appendConstant_spec v c).rows_iff_self (by decide) h.pis_zero w
theorem appendConstant_honest_ext (v : Nat) (c : Composer) (hwf : WF c) {c'' : Composer}
    (hext : Extends ((appendConstant v).run c).2 c'') :
    ((appendConstant v).run c).2.rowsHoldW c''.val c.gates.size
      ((appendConstant v).run c).2.gates.size :=
  (appendConstant_spec v c).complete_self hwf.pis_zero hext trivial
theorem appendConstant_honest (v : Nat) (c : Composer) (hwf : WF c) :
    ((appendConstant v).run c).2.rowsHoldW ((appendConstant v).run c).2.val c.gates.size
      ((appendConstant v).run c).2.gates.size := appendConstant_honest_ext v c hwf (Extends.refl _)

theorem appendPublic_run (v : Nat) (c : Composer) :
    (appendPublic v).run c =
      (c.wit.size, ((appendGate { ql := R - 1, a := c.wit.size, pi := v % R, hasPi := true }).run
        ((appendWitness v).run c).2).2) := rfl
theorem appendPublic_extends (v : Nat) (c : Composer) :
    Extends c ((appendPublic v).run c).2 := (appendPublic_spec v c).ext
/-- the public input recorded for the appended row is `v` (reduced) -/
theorem appendPublic_piAt (v : Nat) (c : Composer) :
    ((appendPublic v).run c).2.piAt c.gates.size = v % R := piAt_mk_push_self _ _ _ _ _

theorem componentSelectZero_fst (bit value : Nat) (c : Composer) :
    ((componentSelectZero bit value).run c).1 = c.wit.size := (componentSelectZero_spec bit value c).fst
theorem componentSelectZero_appends (bit value : Nat) (c : Composer) :
    Appends c ((componentSelectZero bit value).run c).2 1 1 :=
  (componentSelectZero_spec bit value c).appends (Nat.le_refl 2)
theorem componentSelectZero_extends (bit value : Nat) (c : Composer) :
    Extends c ((componentSelectZero bit value).run c).2 := (componentSelectZero_spec bit value c).ext
theorem componentSelectZero_wf (bit value : Nat) (c : Composer) (h : WF c) :
    WF ((componentSelectZero bit value).run c).2 := (componentSelectZero_spec bit value c).wf h
theorem componentSelectZero_rows_iff (bit value : Nat) (c : Composer) (h : WF c) (w : Nat → Nat) :
    ((componentSelectZero bit value).run c).2.rowsHoldW w c.gates.size
        ((componentSelectZero bit value).run c).2.gates.size ↔
      toF (w c.wit.size) = toF (w bit) * toF (w value) :=
  (componentSelectZero_spec bit value c).rows_iff_self (by decide) h.pis_zero w
theorem componentSelectZero_honest_ext (bit value : Nat) (c : Composer) (hwf : WF c)
    (hb : bit < c.wit.size) (hv : value < c.wit.size) {c'' : Composer}
    (hext : Extends ((componentSelectZero bit value).run c).2 c'') :
    ((componentSelectZero bit value).run c).2.rowsHoldW c''.val c.gates.size
      ((componentSelectZero bit value).run c).2.gates.size :=
  (componentSelectZero_spec bit value c).complete_self hwf.pis_zero hext ⟨hb, hv⟩

theorem componentSelectOne_fst (bit value : Nat) (c : Composer) :
    ((componentSelectOne bit value).run c).1 = c.wit.size := rfl
theorem componentSelectOne_appends (bit value : Nat) (c : Composer) :
    Appends c ((componentSelectOne bit value).run c).2 1 1 :=
  (componentSelectOne_spec bit value c).appends (Nat.le_refl 2)
theorem componentSelectOne_extends (bit value : Nat) (c : Composer) :
    Extends c ((componentSelectOne bit value).run c).2 := (componentSelectOne_spec bit value c).ext
theorem componentSelectOne_wf (bit value : Nat) (c : Composer) (h : WF c) :
    WF ((componentSelectOne bit value).run c).2 := (componentSelectOne_spec bit value c).wf h
theorem componentSelectOne_rows_iff (bit value : Nat) (c : Composer) (h : WF c) (w : Nat → Nat) :
    ((componentSelectOne bit value).run c).2.rowsHoldW w c.gates.size
        ((componentSelectOne bit value).run c).2.gates.size ↔
      toF (w c.wit.size) = 1 - toF (w bit) + toF (w bit) * toF (w value) :=
  (componentSelectOne_spec bit value c).rows_iff_self (by decide) h.pis_zero w
theorem componentSelectOne_honest_ext (bit value : Nat) (c : Composer) (hwf : WF c)
    (hb : bit < c.wit.size) (hv : value < c.wit.size) {c'' : Composer}
    (hext : Extends ((componentSelectOne bit value).run c).2 c'') :
    ((componentSelectOne bit value).run c).2.rowsHoldW c''.val c.gates.size
      ((componentSelectOne bit value).run c).2.gates.size :=
  (componentSelectOne_spec bit value c).complete_self hwf.pis_zero hext ⟨hb, hv⟩

theorem componentSelect_fst (bit a b : Nat) (c : Composer) :
    ((componentSelect bit a b).run c).1 = c.wit.size + 3 := (componentSelect_spec bit a b c).fst
theorem componentSelect_appends (bit a b : Nat) (c : Composer) :
    Appends c ((componentSelect bit a b).run c).2 4 4 := (componentSelect_spec bit a b c).appends (Nat.le_refl 2)
theorem componentSelect_wf (bit a b : Nat) (c : Composer) (h : WF c) :
    WF ((componentSelect bit a b).run c).2 := (componentSelect_spec bit a b c).wf h
theorem componentSelect_rows_iff (bit a b : Nat) (c : Composer) (h : WF c) (w : Nat → Nat) :
    ((componentSelect bit a b).run c).2.rowsHoldW w c.gates.size
        ((componentSelect bit a b).run c).2.gates.size ↔
      (toF (w c.wit.size) = toF (w bit) * toF (w a) ∧
       toF (w (c.wit.size + 1)) = 1 - toF (w bit) ∧
       toF (w (c.wit.size + 2)) = toF (w (c.wit.size + 1)) * toF (w b) ∧
       toF (w (c.wit.size + 3)) = toF (w (c.wit.size + 2)) + toF (w c.wit.size)) :=
  (componentSelect_spec bit a b c).rows_iff_self (by decide) h.pis_zero w
theorem componentSelect_honest_ext (bit a b : Nat) (c : Composer) (hwf : WF c)
    (hbit : bit < c.wit.size) (ha : a < c.wit.size) (hb : b < c.wit.size) {c'' : Composer}
    (hext : Extends ((componentSelect bit a b).run c).2 c'') :
    ((componentSelect bit a b).run c).2.rowsHoldW c''.val c.gates.size
      ((componentSelect bit a b).run c).2.gates.size :=
  (componentSelect_spec bit a b c).complete_self hwf.pis_zero hext ⟨hbit, ha, hb⟩

/-! ### completeness: an arbitrary assignment of the old witnesses extends to the new ones -/

/-- `w` with the value of wire `n` replaced by (the canonical representative of) `x` -/
def setW (w : Nat → Nat) (n : Nat) (x : F) : Nat → Nat := fun i => if i = n then x.val else w i

theorem setW_self (w : Nat → Nat) (n : Nat) (x : F) : toF (setW w n x n) = x := by
  simp [setW, toF_val]

theorem setW_of_ne (w : Nat → Nat) (n : Nat) (x : F) {i : Nat} (h : i ≠ n) :
    setW w n x i = w i := by simp [setW, h]

theorem setW_of_lt (w : Nat → Nat) (n : Nat) (x : F) {i : Nat} (h : i < n) :
    setW w n x i = w i := setW_of_ne w n x (Nat.ne_of_lt h)

theorem setW_lt (w : Nat → Nat) (n : Nat) (x : F) (hw : ∀ i, w i < R) (i : Nat) :
    setW w n x i < R := by
  unfold setW; split
  · exact ZMod.val_lt x
  · exact hw i

theorem appendConstant_exists (v : Nat) (c : Composer) (hwf : WF c) (w0 : Nat → Nat) :
    ∃ w, (∀ i, i ≠ c.wit.size → w i = w0 i) ∧
      ((appendConstant v).run c).2.rowsHoldW w c.gates.size
        ((appendConstant v).run c).2.gates.size := by
  refine ⟨setW w0 c.wit.size (toF v), fun i hi => setW_of_ne _ _ _ hi, ?_⟩
  rw [(appendConstant_spec v c).rows_iff_self (by decide) hwf.pis_zero, setW_self]

theorem appendPublic_exists (v : Nat) (c : Composer) (hwf : WF c) (w0 : Nat → Nat) :
    ∃ w, (∀ i, i ≠ c.wit.size → w i = w0 i) ∧
      ((appendPublic v).run c).2.rowsHoldW w c.gates.size
        ((appendPublic v).run c).2.gates.size := by
  refine ⟨setW w0 c.wit.size (toF v), fun i hi => setW_of_ne _ _ _ hi, ?_⟩
  rw [(appendPublic_spec v c).rows_iff_self (by decide) hwf.pis_zero, setW_self]

theorem exists_assignment (w0 : Nat → Nat) (n : Nat) (xs : List F) :
    ∃ w : Nat → Nat, (∀ i, i < n → w i = w0 i) ∧ ∀ k, toF (w (n + k)) = xs.getD k 0 :=
  ⟨fun i => if i < n then w0 i else (xs.getD (i - n) 0).val, fun _ hi => if_pos hi, fun k => by
    show toF (if n + k < n then _ else _) = _
    rw [if_neg (Nat.not_lt.mpr (Nat.le_add_right n k)), Nat.add_sub_cancel_left, toF_val]⟩

/-! ### `Composer::initialized()` -/

theorem initialized_gates_size : initialized.gates.size = 4 := by decide +kernel
theorem initialized_wit_size : initialized.wit.size = 6 := by decide +kernel
theorem initialized_pis : initialized.pis = #[] := by decide +kernel
theorem initialized_val_zero : initialized.val 0 = 0 := by decide +kernel
theorem initialized_val_one : initialized.val 1 = 1 := by decide +kernel

theorem initialized_wf : WF initialized := by
  apply wf_of_wit
  · decide +kernel
  · intro i _
    unfold piAt; rw [initialized_pis]; rfl

theorem initialized_gate0 : initialized.gates[0]? =
    some { ql := R - 1, qarith := 1 } := by decide +kernel
theorem initialized_gate1 : initialized.gates[1]? =
    some { ql := R - 1, qc := 1, qarith := 1, a := 1 } := by decide +kernel

theorem initialized_honest : initialized.rowsHoldW initialized.val 0 4 := by
  intro i _ hi
  interval_cases i <;> decide +kernel

theorem initialized_piAt (i : Nat) : initialized.piAt i = 0 := by
  unfold piAt; rw [initialized_pis]; rfl

theorem initialized_row0 (w : Nat → Nat) :
    initialized.rowHoldsW w 0 = true ↔ toF (w 0) = 0 := by
  rw [rowHoldsW_arithmetic_noPi (s := { ql := R - 1 }) initialized_gate0 rfl (initialized_piAt 0)]
  simp only [Constraint.arithRel, Constraint.piF, toF_zero, toF_R_sub_one, Bool.false_eq_true,
    ↓reduceIte]
  exact eq_zero_iff_of_eq_sub' (by ring)

theorem initialized_row1 (w : Nat → Nat) :
    initialized.rowHoldsW w 1 = true ↔ toF (w 1) = 1 := by
  rw [rowHoldsW_arithmetic_noPi (s := { ql := R - 1, qc := 1, a := 1 }) initialized_gate1 rfl
    (initialized_piAt 1)]
  simp only [Constraint.arithRel, Constraint.piF, toF_zero, toF_one, toF_R_sub_one,
    Bool.false_eq_true, ↓reduceIte]
  exact eq_zero_iff_of_eq_sub' (by ring)

theorem initialized_plain (i : Nat) : Gate.plain (initialized.gateAt i) := by
  by_cases hi : i < 4
  · interval_cases i <;> (unfold Gate.plain; decide +kernel)
  · unfold gateAt
    rw [Array.getD_eq_getD_getElem?, Array.getElem?_eq_none (by rw [initialized_gates_size]; omega)]
    exact ⟨rfl, rfl, rfl, rfl⟩

theorem initialized_base_ext {c : Composer} (hext : Extends initialized c) (w : Nat → Nat)
    (h : c.rowsHoldW w 0 2) : toF (w 0) = 0 ∧ toF (w 1) = 1 := by
  rw [hext.rowsHoldW_of_plain w (by rw [initialized_gates_size]; decide)
    (fun i _ _ => initialized_plain i)] at h
  exact ⟨(initialized_row0 w).mp (h 0 (Nat.le_refl _) (by decide)),
    (initialized_row1 w).mp (h 1 (by decide) (by decide))⟩

end Composer
end Plonk
