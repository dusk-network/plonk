/-
  C19 (FFT half): the iterative in-place transform `serialFft` (bit reversal, then stages
  `m = 1, 2, 4, …`) computes the DFT — by a loop invariant on the stages: after `s` stages, block
  `c` (of size `2^s`) holds the DFT of size `2^s`, with root `ω^(2^(L−s))`, of the input
  subsequence that starts at `brev (L−s) c` and has stride `2^(L−s)`.
  Consequences: `serialFft = dft = fftRec`, and with thread independence `bestFft = dft`.
-/
import Plonk.Proofs.FftIter
import Plonk.Proofs.FftRec
import Plonk.Proofs.ListFacts

namespace Plonk
open Finset FftMath

/-- an array of model values read as a sequence of field elements (zero past the end) -/
def seqA (a : Array Nat) : ℕ → F := fun j => toF (a.getD j 0)

theorem seqF_toList (a : Array Nat) : seqF a.toList = seqA a := by
  funext j; simp only [seqF, seqA, getD_toList]

theorem seqA_toArray (v : List Nat) : seqA v.toArray = seqF v := by
  funext j; simp only [seqF, seqA, getD_toArray]

/-- loop invariant after `s` stages -/
structure StageInv (L : Nat) (ω : F) (a0 : Array Nat) (s : Nat) (arr : Array Nat) : Prop where
  size : arr.size = 2 ^ L
  lt : ∀ idx, arr.getD idx 0 < R
  val : ∀ t, s + t = L → ∀ c, c < 2 ^ t → ∀ i, i < 2 ^ s →
    toF (arr.getD (c * 2 ^ s + i) 0)
      = dftN (ω ^ (2 ^ t)) (2 ^ s) (fun j => seqA a0 (brev t c + j * 2 ^ t)) i

theorem stageInv_base (L : Nat) (ω : F) (a0 : Array Nat) (hsize : a0.size = 2 ^ L)
    (hlt : ∀ idx, a0.getD idx 0 < R) : StageInv L ω a0 0 (bitreversePermute a0 L) := by
  obtain ⟨h1, h2⟩ := bitreversePermute_spec L a0 hsize
  refine ⟨by rw [h1, hsize], ?_, ?_⟩
  · intro idx
    by_cases h : idx < 2 ^ L
    · rw [h2 idx h]; exact hlt _
    · rw [array_getD_of_le _ _ (by rw [h1, hsize]; exact Nat.le_of_not_lt h)]; exact R_pos
  · intro t ht c hc i hi
    have ht' : t = L := (Nat.zero_add t).symm.trans ht
    subst ht'
    have hi0 : i = 0 := by simpa using hi
    subst hi0
    rw [Nat.pow_zero, Nat.mul_one, Nat.add_zero, h2 c hc]
    simp [dftN, seqA]

/-- all entries are canonical -/
def Canon (a : Array Nat) : Prop := ∀ idx, a.getD idx 0 < R

theorem Canon.butterflyRange {a : Array Nat} (ha : Canon a) (lo m off len wm w : Nat) :
    Canon (butterflyRange a lo m off len wm w) := by
  rw [butterflyRange_eq_bfly]
  refine foldl_inv Canon _ (fun a j ha idx => ?_) _ a ha
  rw [bfly_getD]
  split
  · exact fadd_lt _ _
  · split
    · exact fsub_lt _ _
    · exact ha idx

/-- one stage on one block: if the two halves of block `c` hold the transforms of
    the even and of the odd subsequence of `u`, then after the stage the block holds the
    transform of `u` -/
theorem toF_stage_block {ζ : F} {P : ℕ} (hP : 0 < P) (hζ : IsPrimitiveRoot ζ (2 * P))
    (u : ℕ → F) (a : Array Nat) (wm cnt c : Nat) (hb : cnt * (2 * P) ≤ a.size) (hc : c < cnt)
    (hwm : toF wm = ζ)
    (h : ∀ b < 2, ∀ i < P,
      toF (a.getD ((2 * c + b) * P + i) 0) = dftN (ζ ^ 2) P (fun j => u (2 * j + b)) i)
    (i : Nat) (hi : i < 2 * P) :
    toF (((List.range cnt).foldl (fun a c => butterflyChunk a (c * 2 * P) P wm) a).getD
      (c * (2 * P) + i) 0) = dftN ζ (2 * P) u i := by
  by_cases hlt : i < P
  · have e : c * (2 * P) + i = (2 * c + 0) * P + i := by ring
    rw [e, (stage_getD a P wm cnt hb hc hlt).2.1, toF_fadd, toF_fmul, toF_twid,
      h 0 (by decide) i hlt, h 1 (by decide) i hlt, hwm, (dftN_butterfly hP hζ u i).1,
      mul_comm (ζ ^ i)]
    rfl
  · obtain ⟨i', rfl⟩ : ∃ i', i = i' + P := ⟨i - P, (Nat.sub_add_cancel (Nat.le_of_not_lt hlt)).symm⟩
    have hlt' : i' < P := by rw [Nat.two_mul] at hi; exact Nat.lt_of_add_lt_add_right hi
    have e : c * (2 * P) + (i' + P) = (2 * c + 1) * P + i' := by ring
    rw [e, (stage_getD a P wm cnt hb hc hlt').2.2, toF_fsub, toF_fmul, toF_twid,
      h 0 (by decide) i' hlt', h 1 (by decide) i' hlt', hwm, (dftN_butterfly hP hζ u i').2,
      mul_comm (ζ ^ i')]
    rfl

/-- the invariant after `s` stages, read on the two halves of a block of the next stage -/
theorem StageInv.half {L : Nat} {ω : F} {a0 : Array Nat} {s : Nat} {arr : Array Nat}
    (h : StageInv L ω a0 s arr) {t : Nat} (ht : s + (t + 1) = L) {c : Nat} (hc : c < 2 ^ t)
    (b : Nat) (hb : b < 2) (i : Nat) (hi : i < 2 ^ s) :
    toF (arr.getD ((2 * c + b) * 2 ^ s + i) 0)
      = dftN ((ω ^ 2 ^ t) ^ 2) (2 ^ s) (fun j => seqA a0 (brev t c + (2 * j + b) * 2 ^ t)) i := by
  rw [h.val (t + 1) ht (2 * c + b) (by rw [Nat.pow_succ]; omega) i hi, brev_two_mul_add t c b hb,
    ← pow_mul, ← Nat.pow_succ]
  apply dftN_congr
  intro j _
  congr 1
  rw [Nat.pow_succ]; ring

theorem stageInv_step (L ω : Nat) (a0 : Array Nat) (s : Nat) (arr : Array Nat) (hs : s < L)
    (hprim : IsPrimitiveRoot (toF ω) (2 ^ L)) (h : StageInv L (toF ω) a0 s arr) :
    StageInv L (toF ω) a0 (s + 1) (serialStage (2 ^ L) ω (arr, 2 ^ s)).1 := by
  obtain ⟨t, ht⟩ : ∃ t, s + (t + 1) = L := ⟨L - s - 1, by omega⟩
  have hP : 0 < 2 ^ s := Nat.two_pow_pos _
  have hn : 2 ^ L = 2 ^ t * (2 * 2 ^ s) := by
    rw [← ht, Nat.pow_add, Nat.pow_succ]; ring
  have hdiv : 2 ^ L / (2 * 2 ^ s) = 2 ^ t := by
    rw [hn]; exact Nat.mul_div_cancel _ (Nat.mul_pos (by decide) hP)
  have hQlt : 2 ^ t < 2 ^ 256 :=
    lt_of_le_of_lt (Nat.pow_le_pow_right (by decide) (by omega))
      (order_lt_of_primitive (Nat.two_pow_pos _) hprim)
  have hprim' : IsPrimitiveRoot (toF ω ^ 2 ^ t) (2 * 2 ^ s) := by
    have := hprim.pow_of_dvd (p := 2 ^ t) (Nat.two_pow_pos t).ne' ⟨2 * 2 ^ s, hn⟩
    rwa [hn, Nat.mul_div_cancel_left _ (Nat.two_pow_pos _)] at this
  have hb : 2 ^ t * (2 * 2 ^ s) ≤ arr.size := by rw [← hn, h.size]
  show StageInv L (toF ω) a0 (s + 1) ((List.range (2 ^ L / (2 * 2 ^ s))).foldl
    (fun a c => butterflyChunk a (c * 2 * 2 ^ s) (2 ^ s) (fpow ω (2 ^ L / (2 * 2 ^ s)))) arr)
  rw [hdiv]
  refine ⟨foldl_inv (fun b => b.size = 2 ^ L) _
      (fun b c hb => ((butterflyChunk_localOn (c * 2 * 2 ^ s) _ _).size b).trans hb) _ arr h.size,
    foldl_inv Canon _ (fun _ _ ha => Canon.butterflyRange ha _ _ _ _ _ _) _ arr h.lt,
    fun t' ht' c hc i hi => ?_⟩
  · obtain rfl : t' = t := by omega
    rw [Nat.pow_succ, Nat.mul_comm (2 ^ s) 2] at hi ⊢
    exact toF_stage_block hP hprim' (fun j => seqA a0 (brev t' c + j * 2 ^ t')) arr _ _ c hb hc
      (toF_fpow _ _ hQlt) (fun b hb i' hi' => h.half ht hc b hb i' hi') i hi

/-- the state after `s ≤ L` stages -/
theorem stages_inv (L ω : Nat) (a0 : Array Nat) (hsize : a0.size = 2 ^ L)
    (hlt : ∀ idx, a0.getD idx 0 < R) (hprim : IsPrimitiveRoot (toF ω) (2 ^ L)) (s : Nat)
    (hs : s ≤ L) :
    ((List.range s).foldl (fun st _ => serialStage (2 ^ L) ω st) (bitreversePermute a0 L, 1)).2
        = 2 ^ s ∧
    StageInv L (toF ω) a0 s
      ((List.range s).foldl (fun st _ => serialStage (2 ^ L) ω st) (bitreversePermute a0 L, 1)).1 := by
  induction s with
  | zero => exact ⟨rfl, stageInv_base L _ a0 hsize hlt⟩
  | succ s ih =>
    obtain ⟨ih1, ih2⟩ := ih (Nat.le_of_succ_le hs)
    rw [List.range_succ, List.foldl_append]
    simp only [List.foldl_cons, List.foldl_nil]
    generalize ((List.range s).foldl (fun st _ => serialStage (2 ^ L) ω st)
      (bitreversePermute a0 L, 1)) = st at ih1 ih2 ⊢
    obtain ⟨arr, m⟩ := st
    simp only at ih1 ih2
    subst ih1
    refine ⟨?_, stageInv_step L ω a0 s arr hs hprim ih2⟩
    rw [serialStage_snd, Nat.pow_succ]; ring

theorem array_getD_lt_R (a : Array Nat) (h : Reduced a.toList) (idx : Nat) :
    a.getD idx 0 < R := by
  rw [← getD_toList]; exact getD_lt_R _ h idx

/-- **the iterative transform computes the DFT** -/
theorem serialFft_eq_dft (L ω : Nat) (a : Array Nat) (hsize : a.size = 2 ^ L)
    (hlt : Reduced a.toList) (hprim : IsPrimitiveRoot (toF ω) (2 ^ L)) :
    serialFft a ω L = (dft ω a.toList).toArray := by
  rw [serialFft_eq_stages, hsize]
  obtain ⟨_, hsz, hR, hinv⟩ := stages_inv L ω a hsize (array_getD_lt_R a hlt) hprim L (Nat.le_refl _)
  generalize ((List.range L).foldl (fun st _ => serialStage (2 ^ L) ω st)
      (bitreversePermute a L, 1)).1 = arr at hsz hR hinv
  have hLlt : 2 ^ L < 2 ^ 256 := order_lt_of_primitive (Nat.two_pow_pos _) hprim
  apply array_ext_getD
  · simp [hsz, hsize]
  · intro i hi
    rw [hsz] at hi
    rw [getD_toArray (dft ω a.toList)]
    apply (toF_inj_of_lt (hR i) (dft_getD_lt _ _ _)).mp
    have h := hinv 0 (Nat.add_zero L) 0 (by simp) i hi
    rw [Nat.zero_mul, Nat.zero_add] at h
    rw [h, toF_dft_getD ω a.toList i (by rw [Array.length_toList, hsize]; exact hi)
      (by rw [Array.length_toList, hsize]; exact hLlt.le), seqF_toList]
    simp only [Nat.pow_zero, pow_one, Nat.mul_one, brev, Nat.zero_add, Array.length_toList, hsize]

/-- list form -/
theorem serialFft_toList_eq_dft (L ω : Nat) (v : List Nat) (hlen : v.length = 2 ^ L)
    (hlt : Reduced v) (hprim : IsPrimitiveRoot (toF ω) (2 ^ L)) :
    (serialFft v.toArray ω L).toList = dft ω v := by
  rw [serialFft_eq_dft L ω v.toArray (by simpa using hlen) (by simpa using hlt) hprim]

/-- **the iterative transform equals the radix-2 recursion** -/
theorem serialFft_eq_fftRec (L ω : Nat) (v : List Nat) (hlen : v.length = 2 ^ L)
    (hlt : ∀ x ∈ v, x < R) (hprim : IsPrimitiveRoot (toF ω) (2 ^ L)) :
    (serialFft v.toArray ω L).toList = fftRec L ω v := by
  rw [serialFft_toList_eq_dft L ω v hlen hlt hprim, fftRec_eq_dft L ω v hlen hlt hprim]

/-- **`bestFft` computes the DFT for every thread count** -/
theorem bestFft_eq_dft (L ω threads : Nat) (v : List Nat) (ht : 1 ≤ threads)
    (hlen : v.length = 2 ^ L) (hlt : Reduced v) (hprim : IsPrimitiveRoot (toF ω) (2 ^ L)) :
    (bestFft v.toArray ω L threads).toList = dft ω v := by
  have hLlt : 2 ^ L < 2 ^ 256 := order_lt_of_primitive (Nat.two_pow_pos _) hprim
  have hL : L ≤ 256 := ((Nat.pow_lt_pow_iff_right (by decide)).mp hLlt).le
  rw [bestFft_eq_serialFft _ _ _ _ ht hL, serialFft_toList_eq_dft L ω v hlen hlt hprim]

end Plonk
