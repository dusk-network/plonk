/-
  C02 (soundness), opening layer.  Built on `KzgMath` / `KzgModel` (C20).

  Honest-witness form (the witnesses are the true quotients): the batched check in the trapdoor view
  passes, for `vᵢ` and `u` outside explicit bad sets, exactly when every claimed evaluation is the
  true one.  Algebraic adversary: the witnesses are commitments of ARBITRARY polynomials `hᵢ` (the
  representation an algebraic adversary must output); the check is the evaluation of an explicit
  polynomial `openPoly` at the trapdoor, whose roots are the bad set of the trapdoor.  The
  statements on the model's functions and against the algebraic adversary are in `Props/C02.lean`.
-/
import Plonk.Proofs.KzgMath
import Plonk.Proofs.KzgModel

namespace Plonk.Sound
open Polynomial Plonk.KzgMath

section math
variable {F : Type*} [Field F] [DecidableEq F] {G : Type*} [AddCommGroup G] [Module F G]

/-- the explicit bad set of an aggregation challenge: the roots of `Σⱼ δⱼ Xʲ`, `δⱼ` the errors of
    the claimed evaluations (empty when there is no error); the same set as `KzgMath.aggBad` -/
noncomputable def aggBad (k : ℕ) (δ : ℕ → F) : Finset F :=
  if ∀ j < k, δ j = 0 then ∅ else (badPoly k δ).roots.toFinset

theorem aggBad_card_le (k : ℕ) (δ : ℕ → F) : (aggBad k δ).card ≤ k - 1 :=
  KzgMath.aggBad_card_le k δ

theorem agg_zero_iff_of_not_bad (k : ℕ) (δ : ℕ → F) (v : F) (hv : v ∉ aggBad k δ) :
    agg v k δ = 0 ↔ ∀ j < k, δ j = 0 :=
  KzgMath.agg_zero_iff_of_not_bad k δ v hv

/-- the errors of the claimed evaluations at point `i` -/
def evalErr (z : ℕ → F) (p : ℕ → ℕ → F[X]) (e : ℕ → ℕ → F) (i j : ℕ) : F :=
  e i j - (p i j).eval (z i)

/-- **Batched opening, honest witnesses.**  For every `vᵢ ∉ aggBad` (at most `kᵢ − 1` values, fixed
    by the polynomials, points and claimed evaluations) and every `u` outside a set of at most
    `n − 1` values, the batched check passes iff every claimed evaluation is the true one. -/
theorem batch_open_sound {g : G} (hg : Nondeg F g) (x : F) (n : ℕ) (z : ℕ → F) (k : ℕ → ℕ)
    (p : ℕ → ℕ → F[X]) (e : ℕ → ℕ → F) (v : ℕ → F)
    (hv : ∀ i < n, v i ∉ aggBad (k i) (evalErr z p e i)) (u : F)
    (hu : u ∉ aggBad n (defect v z k p e)) :
    (x • agg u n (fun i => KzgMath.commit x g (agg (v i) (k i) (p i) /ₘ (X - C (z i))))
        = agg u n (fun i => agg (v i) (k i) (fun j => KzgMath.commit x g (p i j))
            + z i • KzgMath.commit x g (agg (v i) (k i) (p i) /ₘ (X - C (z i))))
          - agg u n (fun i => agg (v i) (k i) (e i)) • g)
      ↔ ∀ i < n, ∀ j < k i, e i j = (p i j).eval (z i) := by
  rw [batch_check_iff hg, agg_zero_iff_of_not_bad n _ u hu]
  refine forall₂_congr (fun i hi => ?_)
  exact (agg_zero_iff_of_not_bad (k i) (evalErr z p e i) (v i) (hv i hi)).trans
    (forall₂_congr (fun j _ => sub_eq_zero))

/-- **`forged_evaluation_rejected`** (honest witnesses): one wrong evaluation and the check fails,
    outside the explicit bad sets -/
theorem forged_evaluation_rejected_math {g : G} (hg : Nondeg F g) (x : F) (n : ℕ) (z : ℕ → F)
    (k : ℕ → ℕ) (p : ℕ → ℕ → F[X]) (e : ℕ → ℕ → F) (i0 j0 : ℕ) (hi0 : i0 < n) (hj0 : j0 < k i0)
    (hforged : e i0 j0 ≠ (p i0 j0).eval (z i0)) (v : ℕ → F)
    (hv : ∀ i < n, v i ∉ aggBad (k i) (evalErr z p e i)) (u : F)
    (hu : u ∉ aggBad n (defect v z k p e)) :
    ¬ (x • agg u n (fun i => KzgMath.commit x g (agg (v i) (k i) (p i) /ₘ (X - C (z i))))
        = agg u n (fun i => agg (v i) (k i) (fun j => KzgMath.commit x g (p i j))
            + z i • KzgMath.commit x g (agg (v i) (k i) (p i) /ₘ (X - C (z i))))
          - agg u n (fun i => agg (v i) (k i) (e i)) • g) := by
  rw [batch_open_sound hg x n z k p e v hv u hu]
  exact fun h => hforged (h i0 hi0 j0 hj0)

/-- the polynomial of point `i` whose vanishing says that `hᵢ` is the quotient of the flattened
    polynomial minus the flattened claimed value by `X − zᵢ` -/
noncomputable def openTerm (v z : ℕ → F) (k : ℕ → ℕ) (p : ℕ → ℕ → F[X]) (e : ℕ → ℕ → F)
    (h : ℕ → F[X]) (i : ℕ) : F[X] :=
  (X - C (z i)) * h i - agg (v i) (k i) (p i) + C (agg (v i) (k i) (e i))

/-- the polynomial in the trapdoor that the batched check evaluates -/
noncomputable def openPoly (u : F) (n : ℕ) (v z : ℕ → F) (k : ℕ → ℕ) (p : ℕ → ℕ → F[X])
    (e : ℕ → ℕ → F) (h : ℕ → F[X]) : F[X] :=
  agg u n (openTerm v z k p e h)

omit [DecidableEq F] in
theorem coeff_agg (u : F) (n : ℕ) (Ψ : ℕ → F[X]) (m : ℕ) :
    (agg u n Ψ).coeff m = agg u n (fun i => (Ψ i).coeff m) := by
  simp only [agg, finsetSum_coeff, coeff_smul]

omit [DecidableEq F] in
theorem natDegree_agg_le (u : F) (n : ℕ) (Ψ : ℕ → F[X]) (D : ℕ) (hΨ : ∀ i < n, (Ψ i).natDegree ≤ D) :
    (agg u n Ψ).natDegree ≤ D := by
  unfold agg
  refine natDegree_sum_le_of_forall_le _ _ (fun i hi => ?_)
  exact (natDegree_smul_le _ _).trans (hΨ i (Finset.mem_range.mp hi))

omit [DecidableEq F] in
theorem natDegree_openTerm_le (v z : ℕ → F) (k : ℕ → ℕ) (p : ℕ → ℕ → F[X]) (e : ℕ → ℕ → F)
    (h : ℕ → F[X]) (i : ℕ) (D : ℕ) (hh : (h i).natDegree ≤ D) (hp : ∀ j < k i, (p i j).natDegree ≤ D + 1) :
    (openTerm v z k p e h i).natDegree ≤ D + 1 := by
  unfold openTerm
  refine (natDegree_add_le _ _).trans (max_le ((natDegree_sub_le _ _).trans (max_le ?_ ?_)) ?_)
  · refine natDegree_mul_le.trans ?_
    rw [natDegree_X_sub_C]; omega
  · exact natDegree_agg_le _ _ _ _ hp
  · rw [natDegree_C]; omega

omit [DecidableEq F] in
/-- the batched check with witnesses `Wᵢ = commit hᵢ` is the evaluation of `openPoly` at the
    trapdoor -/
theorem agm_batch_check_iff {g : G} (hg : Nondeg F g) (x u : F) (n : ℕ) (v z : ℕ → F) (k : ℕ → ℕ)
    (p : ℕ → ℕ → F[X]) (e : ℕ → ℕ → F) (h : ℕ → F[X]) :
    (x • agg u n (fun i => KzgMath.commit x g (h i))
        = agg u n (fun i => agg (v i) (k i) (fun j => KzgMath.commit x g (p i j)) + z i • KzgMath.commit x g (h i))
          - agg u n (fun i => agg (v i) (k i) (e i)) • g)
      ↔ (openPoly u n v z k p e h).eval x = 0 := by
  simp only [fun i => agg_commit_eq x g (v i) (k i) (p i)]
  simp only [commit_eval]
  rw [batch_check_general hg, openPoly, eval_agg]
  simp only [openTerm, eval_add, eval_sub, eval_mul, eval_X, eval_C]

/-- the explicit bad set of the trapdoor: the roots of `openPoly` (empty when it is zero) -/
noncomputable def trapdoorBad (u : F) (n : ℕ) (v z : ℕ → F) (k : ℕ → ℕ) (p : ℕ → ℕ → F[X])
    (e : ℕ → ℕ → F) (h : ℕ → F[X]) : Finset F :=
  (openPoly u n v z k p e h).roots.toFinset

theorem trapdoorBad_card_le (u : F) (n : ℕ) (v z : ℕ → F) (k : ℕ → ℕ) (p : ℕ → ℕ → F[X])
    (e : ℕ → ℕ → F) (h : ℕ → F[X]) (D : ℕ) (hh : ∀ i < n, (h i).natDegree ≤ D)
    (hp : ∀ i < n, ∀ j < k i, (p i j).natDegree ≤ D + 1) :
    (trapdoorBad u n v z k p e h).card ≤ D + 1 := by
  unfold trapdoorBad openPoly
  refine (Multiset.toFinset_card_le _).trans ((card_roots' _).trans ?_)
  exact natDegree_agg_le _ _ _ _ (fun i hi => natDegree_openTerm_le v z k p e h i D (hh i hi) (hp i hi))

/-- the explicit bad set of `u` for an algebraic adversary: for the first coefficient index at
    which some `openTerm` is non-zero, the roots of `Σᵢ (that coefficient of openTermᵢ)·Xⁱ` -/
noncomputable def agmUBad (n : ℕ) (Ψ : ℕ → F[X]) : Finset F := by
  classical
  exact if hex : ∃ m, ¬ ∀ i < n, (Ψ i).coeff m = 0 then
    aggBad n (fun i => (Ψ i).coeff (Nat.find hex)) else ∅

theorem agmUBad_card_le (n : ℕ) (Ψ : ℕ → F[X]) : (agmUBad n Ψ).card ≤ n - 1 := by
  classical
  unfold agmUBad
  split
  · exact aggBad_card_le _ _
  · simp

theorem agg_poly_zero_of_not_bad (n : ℕ) (Ψ : ℕ → F[X]) (u : F) (hu : u ∉ agmUBad n Ψ)
    (h0 : agg u n Ψ = 0) : ∀ i < n, Ψ i = 0 := by
  classical
  by_contra hne
  have hex : ∃ m, ¬ ∀ i < n, (Ψ i).coeff m = 0 := by
    by_contra hall
    apply hne
    intro i hi
    ext m
    rw [coeff_zero]
    by_contra hc
    exact hall ⟨m, fun hh => hc (hh i hi)⟩
  have hspec := Nat.find_spec hex
  rw [agmUBad, dif_pos hex] at hu
  apply hspec
  rw [← agg_zero_iff_of_not_bad n _ u hu, ← coeff_agg, h0, coeff_zero]

end math

end Plonk.Sound
