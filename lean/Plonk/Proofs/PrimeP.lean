/-
  `P` (the BLS12-381 base field modulus) and `RJ` (the JubJub prime subgroup order) are prime: two
  entries of the certificate list of `Prime.lean`.  The two `Fact` instances stand in a module of
  their own, imported after `CodecG1`: with `Fact (Nat.Prime P)` already in scope there, the cast
  `toP` of `CodecG1.lean` into `ZMod P` elaborates to a different term.
-/
import Plonk.Proofs.Prime

namespace Plonk

theorem RJ_prime : Nat.Prime RJ := primeCerts_prime RJ (by decide +kernel)

theorem P_prime : Nat.Prime P := primeCerts_prime P (by decide +kernel)

instance : Fact (Nat.Prime P) := ⟨P_prime⟩
instance : Fact (Nat.Prime RJ) := ⟨RJ_prime⟩

end Plonk
