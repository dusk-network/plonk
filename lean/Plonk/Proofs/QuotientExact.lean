/-
  C05 (prover exactness), algebraic half — the link between the table and the polynomials: the
  prover's polynomials take the table's values on the domain (the model's `blindPoly` / `ifft`
  polynomials do), and the entries of the model's `quotientEvals` are the values of
  `Num / (X^n − 1)` at the points whose values the arrays store.  The combined statements are in
  `Props/C05.lean`.
-/
import Plonk.Proofs.QuotientModel
import Plonk.Proofs.DomainBridge

namespace Plonk.Quot
open Plonk Polynomial FftMath

/-- the prover's polynomials take the table's values on the domain -/
structure Interpolates (ω : F) (n : Nat) (P : ProverPolys F) (G : Nat → Gate)
    (roots aS bS cS dS piS : List Nat) (sigE : List (List Nat)) (z : List Nat) : Prop where
  root : ∀ i < n, toF (roots.getD i 0) = ω ^ i
  sel : ∀ i < n, P.Q.map (eval (ω ^ i)) = selF (G i)
  a : ∀ i < n, P.a.eval (ω ^ i) = toF (aS.getD i 0)
  b : ∀ i < n, P.b.eval (ω ^ i) = toF (bS.getD i 0)
  c : ∀ i < n, P.c.eval (ω ^ i) = toF (cS.getD i 0)
  d : ∀ i < n, P.d.eval (ω ^ i) = toF (dS.getD i 0)
  pi : ∀ i < n, P.pi.eval (ω ^ i) = toF (piS.getD i 0)
  s1 : ∀ i < n, P.s1.eval (ω ^ i) = toF ((sigE.getD 0 []).getD i 0)
  s2 : ∀ i < n, P.s2.eval (ω ^ i) = toF ((sigE.getD 1 []).getD i 0)
  s3 : ∀ i < n, P.s3.eval (ω ^ i) = toF ((sigE.getD 2 []).getD i 0)
  s4 : ∀ i < n, P.s4.eval (ω ^ i) = toF ((sigE.getD 3 []).getD i 0)
  z : ∀ i < n, P.z.eval (ω ^ i) = toF (z.getD i 0)

/-- a selector column as `Compiler::preprocess` builds it -/
noncomputable def selCol (d : Domain) (G : Nat → Gate) (f : Gate → Nat) : F[X] :=
  toPoly (Poly.ofCoeffs (d.ifft ((List.range d.size).map fun i => f (G i))))

theorem eval_selCol {d : Domain} (hd : d.WF) (G : Nat → Gate) (f : Gate → Nat) (i : Nat)
    (hi : i < d.size) : (selCol d G f).eval (toF d.groupGen ^ i) = toF (f (G i)) := by
  unfold selCol
  rw [toPoly_ofCoeffs, eval_toPoly_ifft hd _ (by simp) i hi, getD_map_range _ _ _ hi]

/-- the polynomials of the specification prover: selector and sigma columns interpolated by `ifft`,
    wire columns and accumulator blinded by `blindPoly` with arbitrary blinders -/
noncomputable def modelPolys (d : Domain) (G : Nat → Gate) (aS bS cS dS piS : List Nat)
    (sigE : List (List Nat)) (z ba bb bc bd bz : List Nat) : ProverPolys F where
  Q := ⟨selCol d G (·.qm), selCol d G (·.ql), selCol d G (·.qr), selCol d G (·.qo), selCol d G (·.qf),
        selCol d G (·.qc), selCol d G (·.qarith), selCol d G (·.qrange), selCol d G (·.qlogic),
        selCol d G (·.qfixed), selCol d G (·.qvar)⟩
  a := toPoly (blindPoly d aS ba)
  b := toPoly (blindPoly d bS bb)
  c := toPoly (blindPoly d cS bc)
  d := toPoly (blindPoly d dS bd)
  pi := toPoly (Poly.ofCoeffs (d.ifft piS))
  s1 := toPoly (Poly.ofCoeffs (d.ifft (sigE.getD 0 [])))
  s2 := toPoly (Poly.ofCoeffs (d.ifft (sigE.getD 1 [])))
  s3 := toPoly (Poly.ofCoeffs (d.ifft (sigE.getD 2 [])))
  s4 := toPoly (Poly.ofCoeffs (d.ifft (sigE.getD 3 [])))
  z := toPoly (blindPoly d z bz)

theorem modelPolys_interpolates {d : Domain} (hd : d.WF) (G : Nat → Gate)
    (roots aS bS cS dS piS : List Nat) (sigE : List (List Nat)) (z ba bb bc bd bz : List Nat)
    (hroots : ∀ i < d.size, toF (roots.getD i 0) = toF d.groupGen ^ i)
    (ha : aS.length = d.size) (hb : bS.length = d.size) (hc : cS.length = d.size)
    (hdd : dS.length = d.size) (hpi : piS.length = d.size) (hzl : z.length = d.size)
    (hs : ∀ j < 4, (sigE.getD j []).length = d.size) :
    Interpolates (toF d.groupGen) d.size (modelPolys d G aS bS cS dS piS sigE z ba bb bc bd bz) G
      roots aS bS cS dS piS sigE z where
  root := hroots
  sel := fun i hi => by
    simp only [Sel.map, selF, modelPolys, eval_selCol hd G _ i hi]
  a := fun i hi => eval_blindPoly hd aS ba ha i hi
  b := fun i hi => eval_blindPoly hd bS bb hb i hi
  c := fun i hi => eval_blindPoly hd cS bc hc i hi
  d := fun i hi => eval_blindPoly hd dS bd hdd i hi
  pi := fun i hi => by
    simp only [modelPolys, toPoly_ofCoeffs]; exact eval_toPoly_ifft hd piS hpi i hi
  s1 := fun i hi => by
    simp only [modelPolys, toPoly_ofCoeffs]; exact eval_toPoly_ifft hd _ (hs 0 (by omega)) i hi
  s2 := fun i hi => by
    simp only [modelPolys, toPoly_ofCoeffs]; exact eval_toPoly_ifft hd _ (hs 1 (by omega)) i hi
  s3 := fun i hi => by
    simp only [modelPolys, toPoly_ofCoeffs]; exact eval_toPoly_ifft hd _ (hs 2 (by omega)) i hi
  s4 := fun i hi => by
    simp only [modelPolys, toPoly_ofCoeffs]; exact eval_toPoly_ifft hd _ (hs 3 (by omega)) i hi
  z := fun i hi => eval_blindPoly hd z bz hzl i hi

/-- what the arrays handed to `quotientEvals` store at index `i`: the values of the prover's
    polynomials at a point `x` (with `xⁿ ≠ 1`: a coset point) and, eight places further, at `ωx`;
    the values of `X`, `Xⁿ − 1`, their inverses, and `n⁻¹` -/
structure StoresAt (ω x : F) (n : Nat) (P : ProverPolys F) (selE sigE8 : Array (Array Nat))
    (linE aE bE cE dE zE piE vh vhInv8 l1Den : Array Nat) (nInv8 i : Nat) : Prop where
  sel : selAt selE i = P.Q.map (eval x)
  a : toF (aE.getD i 0) = P.a.eval x
  b : toF (bE.getD i 0) = P.b.eval x
  c : toF (cE.getD i 0) = P.c.eval x
  d : toF (dE.getD i 0) = P.d.eval x
  aw : toF (aE.getD (i + 8) 0) = P.a.eval (ω * x)
  bw : toF (bE.getD (i + 8) 0) = P.b.eval (ω * x)
  dw : toF (dE.getD (i + 8) 0) = P.d.eval (ω * x)
  pi : toF (piE.getD i 0) = P.pi.eval x
  lin : toF (linE.getD i 0) = x
  s1 : toF ((sigE8.getD 0 #[]).getD i 0) = P.s1.eval x
  s2 : toF ((sigE8.getD 1 #[]).getD i 0) = P.s2.eval x
  s3 : toF ((sigE8.getD 2 #[]).getD i 0) = P.s3.eval x
  s4 : toF ((sigE8.getD 3 #[]).getD i 0) = P.s4.eval x
  z : toF (zE.getD i 0) = P.z.eval x
  zw : toF (zE.getD (i + 8) 0) = P.z.eval (ω * x)
  vh : toF (vh.getD i 0) = x ^ n - 1
  vhInv : toF (vhInv8.getD (i % 8) 0) = (x ^ n - 1)⁻¹
  l1Den : toF (l1Den.getD i 0) = (x - 1)⁻¹
  nInv : toF nInv8 = (n : F)⁻¹

/-- **The coset quotient.** Entry `i` of the model's `quotientEvals` is the value at the stored
    point `x` of the numerator polynomial divided by the vanishing polynomial. -/
theorem quotient_entry_coset {ω x : F} {n : Nat} (hx : x ^ n ≠ 1) (P : ProverPolys F)
    (size8 : Nat) (selE sigE8 : Array (Array Nat))
    (linE aE bE cE dE zE piE vh vhInv8 l1Den : Array Nat)
    (nInv8 beta gamma alpha rSep lSep fSep vSep : Nat) (i : Nat) (hi : i < size8)
    (St : StoresAt ω x n P selE sigE8 linE aE bE cE dE zE piE vh vhInv8 l1Den nInv8 i) :
    toF ((quotientEvals size8 selE sigE8 linE aE bE cE dE zE piE vh vhInv8 l1Den nInv8 beta gamma
        alpha rSep lSep fSep vSep).getD i 0) =
      (NumP ω n P ⟨toF beta, toF gamma, toF alpha⟩ ⟨toF rSep, toF lSep, toF fSep, toF vSep⟩).eval x *
        (x ^ n - 1)⁻¹ := by
  have hx1 : x ≠ 1 := fun h => hx (by rw [h, one_pow])
  rw [toF_quotientEvals_getD _ _ _ _ _ _ _ _ _ _ _ _ _ _ _ _ _ _ _ _ _ _ hi, eval_NumP,
    eval_L1P_of_ne_one n hx1, St.vhInv, St.sel]
  simp only [permAt, wiresF, St.a, St.b, St.c, St.d, St.aw, St.bw, St.dw, St.pi, St.lin, St.s1, St.s2,
    St.s3, St.s4, St.z, St.zw, St.vh, St.l1Den, St.nInv]

/-- a widget scalar that is the weighted sum of the components `cs` vanishes for all separation
    challenges of a set with at least `2|cs|` elements iff every component is zero -/
theorem scalar_zero_iff (sc : Nat → Nat) (hlt : ∀ sep, sc sep < R) (cs : List Nat)
    (hcs : ∀ x ∈ cs, x < R) (hsc : ∀ sep, toF (sc sep) = wsum (cs.map toF) (toF sep))
    (S : Finset F) (hS : 2 * cs.length ≤ S.card) :
    (∀ sep : Nat, toF sep ∈ S → sc sep = 0) ↔ allZero cs = true := by
  rw [allZero_iff cs hcs]
  constructor
  · intro h x hx
    apply components_of_weighted_sum (cs.map toF) S (by simpa using hS)
    · intro s hs
      have := h s.val (by rw [toF_val]; exact hs)
      rw [← toF_val s, ← hsc, this, toF_zero]
    · exact List.mem_map.mpr ⟨x, hx, rfl⟩
  · intro h sep _
    rw [eq_zero_iff_toF (hlt sep), hsc]
    apply wsum_of_all_zero
    intro c hc
    obtain ⟨x, hx, rfl⟩ := List.mem_map.mp hc
    exact h x hx

/-- the permutation step of row `i` of the table with the accumulator `z`, next row cyclic -/
def permStepAt (n : Nat) (roots aS bS cS dS : List Nat) (sigE : List (List Nat)) (beta gamma : Nat)
    (z : List Nat) (i : Nat) : F :=
  numF roots aS bS cS dS beta gamma i * toF (z.getD i 0) -
    denF aS bS cS dS sigE beta gamma i * toF (z.getD ((i + 1) % n) 0)

theorem elements_roots (d : Domain) :
    ∀ i < d.size, toF (d.elements.getD i 0) = toF d.groupGen ^ i := by
  intro i hi
  rw [PolyC19.elements_eq, getD_map_range _ _ _ hi, toF_val]

theorem exists_domain_two : ∃ d : Domain, Domain.new? 2 = some d ∧ d.size = 2 := by
  have h : (Domain.new? 2).isSome = true := by decide +kernel
  have hs : (Domain.new? 2).map (·.size) = some 2 := by decide +kernel
  obtain ⟨d, hd⟩ := Option.isSome_iff_exists.mp h
  refine ⟨d, hd, ?_⟩
  rw [hd] at hs
  simpa using hs

theorem card_univ_F : (Finset.univ : Finset F).card = R := by
  rw [Finset.card_univ, ZMod.card]

theorem ten_lt_R : 10 < R := lt_trans (by decide) two_pow_254_lt_R

end Plonk.Quot
