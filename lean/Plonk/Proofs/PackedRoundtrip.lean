/-
  The byte-level round trip: `from_bytes` applied to the payload `Circuit::compress()` deflates returns the
  composer `decompressCompress` of `Model/Compress.lean`.  Ingredients: the scalar / polynomial dictionaries of
  `fromComposer` (lookups in the FINAL tables give back the values), representability and validity of
  `fromComposer`, `leNat ∘ leBytes32 = id` below `2^256`, and the agreement of the reconstruction loop of
  `rebuild` with the loop of `decompressCompress`.
-/
import Plonk.Proofs.PackedLemmas
import Plonk.Proofs.CompressModel
namespace Plonk.PackedRoundtrip
open Plonk Plonk.Packed Plonk.PackedLemmas Plonk.CompressModel

/-! ## little-endian scalar bytes -/

theorem R_lt_256_pow_32 : R < 256 ^ 32 := by decide

theorem leNat_leBytes32 {v : Nat} (h : v < 256 ^ 32) : leNat (leBytes32 v) = v :=
  (leNat_leBytesN 32 v).trans (Nat.mod_eq_of_lt h)

theorem leBytes32_length (v : Nat) : (leBytes32 v).length = 32 := by simp [leBytes32]

theorem leBytes32_lt (v : Nat) : ∀ b ∈ leBytes32 v, b < 256 := by
  intro b hb
  unfold leBytes32 at hb
  obtain ⟨i, -, rfl⟩ := List.mem_map.1 hb
  exact Nat.mod_lt _ (by decide)

/-! ## `fromComposer` in fold form -/

/-- the eleven dictionary insertions of one gate: final table and the eleven indices -/
def selIdx (scal : List Nat) (g : Gate) : List Nat × List Nat :=
  (gateSelectors g).foldl (fun (st : List Nat × List Nat) s =>
    let (t, i) := dictInsert st.1 (s % R); (t, st.2 ++ [i])) (scal, [])

/-- the loop body of `from_composer` (same text as in `fromComposer`) -/
def fcStep (acc : List Nat × List (List Nat) × List (List Nat)) (g : Gate) :
    List Nat × List (List Nat) × List (List Nat) :=
  let (scal, polys, cons) := acc
  let (scal, idx) := (gateSelectors g).foldl (fun (st : List Nat × List Nat) s =>
      let (t, i) := dictInsert st.1 (s % R); (t, st.2 ++ [i])) (scal, [])
  let (polys, pi) := dictInsertPoly polys idx
  (scal, polys, cons ++ [[pi, g.a, g.b, g.c, g.d]])

theorem fcStep_eq (S : List Nat) (P K : List (List Nat)) (g : Gate) : fcStep (S, P, K) g =
    ((selIdx S g).1, (dictInsertPoly P (selIdx S g).2).1,
     K ++ [[(dictInsertPoly P (selIdx S g).2).2, g.a, g.b, g.c, g.d]]) := by
  have h : fcStep (S, P, K) g =
      (match selIdx S g with
       | (scal, idx) => match dictInsertPoly P idx with
         | (polys, pi) => (scal, polys, K ++ [[pi, g.a, g.b, g.c, g.d]])) := rfl
  rw [h]

theorem fcStep_lambda : (fun (acc : List Nat × List (List Nat) × List (List Nat)) (g : Gate) =>
    let (scal, polys, cons) := acc
    let (scal, idx) := (gateSelectors g).foldl (fun (st : List Nat × List Nat) s =>
        let (t, i) := dictInsert st.1 (s % R); (t, st.2 ++ [i])) (scal, [])
    let (polys, pi) := dictInsertPoly polys idx
    (scal, polys, cons ++ [[pi, g.a, g.b, g.c, g.d]])) = fcStep := rfl

theorem insRow_lambda : (fun (acc : List Nat) (r : Nat) =>
      let (lo, hi) := acc.partition (· < r)
      lo ++ [r] ++ hi.filter (· != r)) = insRow := rfl

theorem fromComposer_eq (hades : Bool) (c : Composer) : fromComposer hades c =
    { hades := hades, publicInputs := (c.pis.toList.map (·.1)).foldl insRow [], witnesses := c.wit.size,
      scalars := ((c.gates.toList.foldl fcStep (baseScalars hades, [], [])).1.drop (baseScalars hades).length).map
        leBytes32,
      polynomials := (c.gates.toList.foldl fcStep (baseScalars hades, [], [])).2.1,
      constraints := (c.gates.toList.foldl fcStep (baseScalars hades, [], [])).2.2 } := by
  unfold fromComposer
  simp only [fcStep_lambda, insRow_lambda]

theorem selIdx_eq (scal : List Nat) (g : Gate) :
    selIdx scal g = dictFold scal ((gateSelectors g).map (· % R)) := by
  unfold selIdx dictFold
  rw [List.foldl_map]

theorem gateSelectors_length (g : Gate) : (gateSelectors g).length = 11 := rfl

/-- what one gate does to the scalar table -/
theorem selIdx_spec (scal : List Nat) (g : Gate) (hc : ∀ x ∈ scal, x < R) :
    scal <+: (selIdx scal g).1 ∧ (∀ x ∈ (selIdx scal g).1, x < R) ∧
    (selIdx scal g).1.length ≤ scal.length + 11 ∧ (selIdx scal g).2.length = 11 ∧
    (selIdx scal g).2.map (fun i => (selIdx scal g).1[i]?) = ((gateSelectors g).map (· % R)).map some := by
  rw [selIdx_eq]
  obtain ⟨h1, h2, h3⟩ := dict_roundtrip scal ((gateSelectors g).map (· % R))
  have h4 := dictFold_length_le ((gateSelectors g).map (· % R)) scal
  rw [List.length_map, gateSelectors_length] at h3 h4
  refine ⟨h2, ?_, h4, h3, ?_⟩
  · rw [dictFold_fst]
    refine foldl_orInsert_forall _ _ hc fun x hx => ?_
    obtain ⟨s, -, rfl⟩ := List.mem_map.1 hx
    exact Nat.mod_lt _ R_pos
  · exact h1

theorem dictInsertPoly_spec (tbl : List (List Nat)) (k : List Nat) :
    (dictInsertPoly tbl k).1[(dictInsertPoly tbl k).2]? = some k ∧ tbl <+: (dictInsertPoly tbl k).1 ∧
    (dictInsertPoly tbl k).1.length ≤ tbl.length + 1 ∧
    (∀ p ∈ (dictInsertPoly tbl k).1, p ∈ tbl ∨ p = k) :=
  ⟨(orInsert_spec tbl k).1, (orInsert_spec tbl k).2.1, (orInsert_spec tbl k).2.2.1, (orInsert_spec tbl k).2.2.2.2⟩

/-- lookups that succeed in a table succeed, with the same values, in every extension of it -/
theorem lookups_prefix {α : Type} {T T' : List α} (hp : T <+: T') {l : List Nat} {ks : List α}
    (h : l.map (fun i => T[i]?) = ks.map some) : l.map (fun i => T'[i]?) = ks.map some := by
  rw [← h]
  apply List.map_congr_left
  intro i hi
  have hm : T[i]? ∈ ks.map some := by rw [← h]; exact List.mem_map.2 ⟨i, hi, rfl⟩
  obtain ⟨v, -, hv⟩ := List.mem_map.1 hm
  rw [← hv]
  exact prefix_getElem? hp hv.symm

theorem lookups_lt {α : Type} {T : List α} {l : List Nat} {ks : List α}
    (h : l.map (fun i => T[i]?) = ks.map some) : ∀ i ∈ l, i < T.length := by
  intro i hi
  have hm : T[i]? ∈ ks.map some := by rw [← h]; exact List.mem_map.2 ⟨i, hi, rfl⟩
  obtain ⟨v, -, hv⟩ := List.mem_map.1 hm
  by_contra hc
  rw [List.getElem?_eq_none (by omega)] at hv
  cases hv

/-- constraint `k` encodes gate `g` against the tables `S`, `P` -/
def Encodes (S : List Nat) (P : List (List Nat)) (g : Gate) (k : List Nat) : Prop :=
  ∃ pi idx, k = [pi, g.a, g.b, g.c, g.d] ∧ P[pi]? = some idx ∧
    idx.map (fun i => S[i]?) = ((gateSelectors g).map (· % R)).map some

theorem Encodes.mono {S S' : List Nat} {P P' : List (List Nat)} (hS : S <+: S') (hP : P <+: P') {g : Gate}
    {k : List Nat} (h : Encodes S P g k) : Encodes S' P' g k := by
  obtain ⟨pi, idx, hk, hp, hi⟩ := h
  exact ⟨pi, idx, hk, prefix_getElem? hP hp, lookups_prefix hS hi⟩

/-- the loop invariant of `from_composer` after the gates `gs` -/
structure FcInv (base : List Nat) (gs : List Gate) (st : List Nat × List (List Nat) × List (List Nat)) : Prop where
  pre : base <+: st.1
  canon : ∀ x ∈ st.1, x < R
  slen : st.1.length ≤ base.length + 11 * gs.length
  plen : st.2.1.length ≤ gs.length
  polys : ∀ p ∈ st.2.1, p.length = 11 ∧ ∀ i ∈ p, i < st.1.length
  cons : List.Forall₂ (Encodes st.1 st.2.1) gs st.2.2

theorem fcStep_inv {base : List Nat} {gs : List Gate} {st : List Nat × List (List Nat) × List (List Nat)}
    (h : FcInv base gs st) (g : Gate) : FcInv base (gs ++ [g]) (fcStep st g) := by
  obtain ⟨S, P, K⟩ := st
  obtain ⟨hpre, hcanon, hslen, hplen, hpolys, hcons⟩ := h
  simp only at hpre hcanon hslen hplen hpolys hcons
  obtain ⟨s1, s2, s3, s4, s5⟩ := selIdx_spec S g hcanon
  obtain ⟨p1, p2, p3, p4⟩ := dictInsertPoly_spec P (selIdx S g).2
  rw [fcStep_eq]
  generalize selIdx S g = si at *
  generalize dictInsertPoly P si.2 = dp at *
  have hlenS : S.length ≤ si.1.length := s1.length_le
  refine ⟨hpre.trans s1, s2, ?_, ?_, ?_, ?_⟩
  · show si.1.length ≤ _
    rw [List.length_append, List.length_singleton]; omega
  · show dp.1.length ≤ _
    rw [List.length_append, List.length_singleton]; omega
  · intro p hp
    show p.length = 11 ∧ ∀ i ∈ p, i < si.1.length
    rcases p4 p hp with hp | rfl
    · obtain ⟨a, b⟩ := hpolys p hp
      exact ⟨a, fun i hi => Nat.lt_of_lt_of_le (b i hi) hlenS⟩
    · exact ⟨s4, lookups_lt s5⟩
  · show List.Forall₂ (Encodes si.1 dp.1) (gs ++ [g]) (K ++ [[dp.2, g.a, g.b, g.c, g.d]])
    refine List.rel_append (hcons.imp fun a b hab => hab.mono s1 p2) (.cons ?_ .nil)
    · exact ⟨_, _, rfl, p1, s5⟩

theorem fcFold_inv {base : List Nat} : ∀ (l gs : List Gate) (st : List Nat × List (List Nat) × List (List Nat)),
    FcInv base gs st → FcInv base (gs ++ l) (l.foldl fcStep st)
  | [], gs, st, h => by simpa using h
  | g :: l, gs, st, h => by
    have := fcFold_inv l (gs ++ [g]) _ (fcStep_inv h g)
    simpa using this

theorem FcInv.init (hades : Bool) : FcInv (baseScalars hades) [] (baseScalars hades, [], []) :=
  ⟨List.prefix_refl _, baseScalars_lt hades, by simp, by simp, fun _ h => (by cases h), List.Forall₂.nil⟩

/-! ## the reconstruction loop against the loop of `decompressCompress` -/

/-- the selector tuple of the byte-level model is the one of the structural model -/
theorem selectorsOf_eq_gateSelectors : selectorsOf = gateSelectors := rfl

/-- a constraint that encodes a gate with canonical selectors describes that gate -/
theorem gateOf_of_encodes {c : PackedCircuit} {S : List Nat} {g : Gate} {k : List Nat}
    (h : Encodes S c.polynomials g k) (hR : ∀ s ∈ gateSelectors g, s < R) : gateOf c S k = g := by
  obtain ⟨pi, idx, rfl, hp, hi⟩ := h
  have hsel : selOf c S [pi, g.a, g.b, g.c, g.d] = gateSelectors g := by
    unfold selOf
    have e0 : [pi, g.a, g.b, g.c, g.d].getD 0 0 = pi := rfl
    rw [e0, List.getD_eq_getElem?_getD, hp, Option.getD_some]
    have e1 : idx.map (fun j => S.getD j 0) = (idx.map (fun i => S[i]?)).map (fun o => o.getD 0) := by
      rw [List.map_map]
      apply List.map_congr_left
      intro j _
      simp only [Function.comp, List.getD_eq_getElem?_getD]
    rw [e1, hi, List.map_map, List.map_map]
    have : ∀ s ∈ gateSelectors g, (((fun o : Option Nat => o.getD 0) ∘ some) ∘ (· % R)) s = id s := by
      intro s hs
      simp only [Function.comp, Option.getD_some, id]
      exact Nat.mod_eq_of_lt (hR s hs)
    rw [List.map_congr_left this, List.map_id]
  unfold gateOf
  rw [hsel]
  rfl

theorem map_gateOf_of_encodes (c : PackedCircuit) (S : List Nat) {gs : List Gate} {K : List (List Nat)}
    (h : List.Forall₂ (Encodes S c.polynomials) gs K) (hR : ∀ g ∈ gs, ∀ s ∈ gateSelectors g, s < R) :
    K.map (gateOf c S) = gs := by
  induction h with
  | nil => rfl
  | cons h1 _ ih =>
    rw [List.map_cons, gateOf_of_encodes h1 (hR _ List.mem_cons_self),
      ih fun g hg => hR g (List.mem_cons_of_mem _ hg)]

theorem forall₂_mem_right {α β : Type} {r : α → β → Prop} {l1 : List α} {l2 : List β} (h : List.Forall₂ r l1 l2) :
    ∀ b ∈ l2, ∃ a ∈ l1, r a b := by
  induction h with
  | nil => intro b hb; cases hb
  | cons h1 _ ih =>
    intro b hb
    rcases List.mem_cons.1 hb with rfl | hb
    · exact ⟨_, by simp, h1⟩
    · obtain ⟨a, ha, hab⟩ := ih b hb
      exact ⟨a, List.mem_cons_of_mem _ ha, hab⟩

/-- the reconstruction of a description that encodes the gates of `comp` against its own tables, with the sorted
    rows of `comp`, is `decompressCompress comp` -/
theorem rebuild_eq_decompress (pc : PackedCircuit) (S : List Nat) (comp : Composer)
    (hcons : List.Forall₂ (Encodes S pc.polynomials) comp.gates.toList pc.constraints)
    (hR : ∀ g ∈ comp.gates.toList, ∀ s ∈ gateSelectors g, s < R)
    (hrows : pc.publicInputs = (comp.pis.toList.map (·.1)).foldl insRow [])
    (hlt : ∀ p ∈ pc.publicInputs, p < pc.constraints.length) : rebuild pc S = decompressCompress comp := by
  have hpw : pc.publicInputs.Pairwise (· < ·) := hrows ▸ (sortedRows_spec comp).1
  rw [decompressCompress_eq, ← map_gateOf_of_encodes pc S hcons hR, ← rebuild_gates, ← rebuild_wit, ← hrows,
    ← rebuild_pis pc S hlt hpw, Array.toArray_toList]

/-! ## representability and validity of `fromComposer` -/

/-- the composers `Circuit::compress()` is applied to, with the capacity of the reader -/
structure Compressible (comp : Composer) (m : Nat) : Prop where
  selectors : ∀ g ∈ comp.gates.toList, ∀ s ∈ gateSelectors g, s < R
  wires : ∀ g ∈ comp.gates.toList, g.a < comp.wit.size ∧ g.b < comp.wit.size ∧ g.c < comp.wit.size ∧
    g.d < comp.wit.size
  witnesses : comp.wit.size < 2 ^ 64
  rows : ∀ p ∈ comp.pis.toList, p.1 < comp.gates.size
  header : 11 * comp.gates.size < 2 ^ 32
  capacity : comp.gates.size ≤ m

theorem fcInv_fromComposer (hades : Bool) (comp : Composer) :
    FcInv (baseScalars hades) comp.gates.toList (comp.gates.toList.foldl fcStep (baseScalars hades, [], [])) := by
  simpa using fcFold_inv comp.gates.toList [] _ (FcInv.init hades)

/-- every constraint is `[pi, a, b, c, d]` for a gate of the list and an index into the polynomial table -/
theorem FcInv.constraint_mem {base : List Nat} {gs : List Gate} {st : List Nat × List (List Nat) × List (List Nat)}
    (h : FcInv base gs st) : ∀ k ∈ st.2.2, ∃ g ∈ gs, ∃ pi, k = [pi, g.a, g.b, g.c, g.d] ∧ pi < st.2.1.length := by
  intro k hk
  obtain ⟨g, hg, pi, idx, rfl, hp, -⟩ := forall₂_mem_right h.cons k hk
  exact ⟨g, hg, pi, rfl, (List.getElem?_eq_some_iff.1 hp).1⟩

/-- the sizes of the four vectors against the number of gates -/
theorem FcInv.sizes {base : List Nat} {gs : List Gate} {st : List Nat × List (List Nat) × List (List Nat)}
    (h : FcInv base gs st) :
    ((st.1.drop base.length).map leBytes32).length ≤ 11 * gs.length ∧ st.2.1.length ≤ gs.length ∧
    st.2.2.length = gs.length ∧ base.length + ((st.1.drop base.length).map leBytes32).length = st.1.length := by
  have h1 := h.slen
  have h2 := h.pre.length_le
  rw [List.length_map, List.length_drop]
  exact ⟨by omega, h.plen, h.cons.length_eq.symm, by omega⟩

/-- the sorted rows of a composer whose public inputs sit on gate rows -/
theorem sortedRows_lt (comp : Composer) (h : ∀ p ∈ comp.pis.toList, p.1 < comp.gates.size) :
    (∀ x ∈ compile.Plonk.Driver.sortedRows comp, x < comp.gates.size) ∧
    (compile.Plonk.Driver.sortedRows comp).length ≤ comp.gates.size := by
  obtain ⟨h1, h2⟩ := sortedRows_spec comp
  have hlt : ∀ x ∈ compile.Plonk.Driver.sortedRows comp, x < comp.gates.size := by
    intro x hx
    obtain ⟨p, hp, rfl⟩ := List.mem_map.1 ((h2 x).1 hx)
    exact h p hp
  exact ⟨hlt, pairwise_lt_length_le _ 0 _ h1 fun x hx => ⟨Nat.zero_le _, hlt x hx⟩⟩

/-! the header condition `11 · gates < 2^32` bounds every count and every index of the packed form -/

theorem lt_two_pow_32_of_le {x n : Nat} (hx : x ≤ n) (h : 11 * n < 2 ^ 32) : x < 2 ^ 32 :=
  Nat.lt_of_le_of_lt (Nat.le_trans hx (Nat.le_mul_of_pos_left n (by decide))) h

theorem lt_two_pow_64_of_lt {x n : Nat} (hx : x < n) (h : 11 * n < 2 ^ 32) : x < 2 ^ 64 :=
  Nat.lt_trans (lt_two_pow_32_of_le (Nat.le_of_lt hx) h) (by decide)

theorem index_lt_two_pow_64 {i b s n : Nat} (hi : i < b + s) (hb : b ≤ 363) (hs : s ≤ 11 * n) (h : 11 * n < 2 ^ 32) :
    i < 2 ^ 64 :=
  Nat.lt_of_lt_of_le hi (Nat.le_trans (Nat.add_le_add hb (Nat.le_trans hs (Nat.le_of_lt h))) (by decide))

/-- the packed form of a compressible composer: representable, within capacity, valid, canonical, and rebuilt
    into `decompressCompress` -/
theorem fromComposer_good {comp : Composer} {m : Nat} (hades : Bool) (h : Compressible comp m) :
    Representable (fromComposer hades comp) ∧ WithinCapacity (fromComposer hades comp) m ∧
    validateIndices (fromComposer hades comp) (baseScalars hades).length = true ∧
    (∀ s ∈ (fromComposer hades comp).scalars, leNat s < R) ∧
    rebuild (fromComposer hades comp) (baseScalars hades ++ (fromComposer hades comp).scalars.map leNat) =
      decompressCompress comp := by
  have inv := fcInv_fromComposer hades comp
  have hpw := (sortedRows_spec comp).1
  obtain ⟨hrowlt, hrowlen⟩ := sortedRows_lt comp h.rows
  rw [sortedRows_eq] at hpw hrowlt hrowlen
  obtain ⟨hS, hP, hK, hSlen⟩ := inv.sizes
  have hKmem := inv.constraint_mem
  have hbase := baseScalars_length_le hades
  have hhdr := h.header
  have hcap := h.capacity
  have hlen : comp.gates.toList.length = comp.gates.size := Array.length_toList
  rw [fromComposer_eq]
  generalize comp.gates.toList.foldl fcStep (baseScalars hades, [], []) = F at *
  generalize hrows : (comp.pis.toList.map (·.1)).foldl insRow [] = rows at *
  generalize baseScalars hades = base at *
  obtain ⟨S, P, K⟩ := F
  dsimp only at hS hP hK hSlen hKmem
  rw [hlen] at hS hP hK
  have hwire : ∀ k ∈ K, ∃ pi a b c d, k = [pi, a, b, c, d] ∧ pi < P.length ∧ a < comp.wit.size ∧ b < comp.wit.size ∧
      c < comp.wit.size ∧ d < comp.wit.size := by
    intro k hk
    obtain ⟨g, hg, pi, rfl, hpi⟩ := hKmem k hk
    obtain ⟨wa, wb, wc, wd⟩ := h.wires g hg
    exact ⟨pi, _, _, _, _, rfl, hpi, wa, wb, wc, wd⟩
  have hcanon : ∀ v ∈ S.drop base.length, leNat (leBytes32 v) = v ∧ v < R := fun v hv =>
    ⟨leNat_leBytes32 (Nat.lt_trans (inv.canon v (List.mem_of_mem_drop hv)) R_lt_256_pow_32),
      inv.canon v (List.mem_of_mem_drop hv)⟩
  have hwit := h.witnesses
  refine ⟨⟨hwit, fun x hx => ?_, fun s hs => ?_, fun p hp => ⟨(inv.polys p hp).1, fun i hi => ?_⟩, fun k hk => ?_,
      ?_, ?_, ?_, ?_⟩, ⟨?_, ?_, ?_, ?_⟩, ?_, fun s hs => ?_, ?_⟩
  · exact lt_two_pow_64_of_lt (hrowlt x hx) hhdr
  · obtain ⟨v, -, rfl⟩ := List.mem_map.1 hs
    exact ⟨leBytes32_length v, leBytes32_lt v⟩
  · exact index_lt_two_pow_64 (hSlen ▸ (inv.polys p hp).2 i hi) hbase hS hhdr
  · obtain ⟨pi, a, b, c, d, rfl, hpi, wa, wb, wc, wd⟩ := hwire k hk
    refine ⟨rfl, fun i hi => ?_⟩
    simp only [List.mem_cons, List.mem_nil_iff, or_false] at hi
    have hw : ∀ {w}, w < comp.wit.size → w < 2 ^ 64 := fun hw => Nat.lt_trans hw hwit
    rcases hi with rfl | rfl | rfl | rfl | rfl
    · exact lt_two_pow_64_of_lt (Nat.lt_of_lt_of_le hpi hP) hhdr
    · exact hw wa
    · exact hw wb
    · exact hw wc
    · exact hw wd
  · exact lt_two_pow_32_of_le hrowlen hhdr
  · exact Nat.lt_of_le_of_lt hS hhdr
  · exact lt_two_pow_32_of_le hP hhdr
  · exact lt_two_pow_32_of_le (Nat.le_of_eq hK) hhdr
  · exact Nat.le_trans hrowlen hcap
  · exact Nat.le_trans hS (by rw [Nat.mul_comm]; exact Nat.mul_le_mul_right _ hcap)
  · exact Nat.le_trans hP hcap
  · exact Nat.le_trans (Nat.le_of_eq hK) hcap
  · -- validate_indices
    unfold validateIndices
    simp only [Bool.and_eq_true, List.all_eq_true (l := rows), List.all_eq_true (l := P), List.all_eq_true (l := K),
      decide_eq_true_eq]
    refine ⟨⟨⟨fun x hx => ?_, (pairwise_lt_iff_chain rows).1 hpw⟩, fun p hp => List.all_eq_true.2 fun i hi => ?_⟩,
      fun k hk => ?_⟩
    · exact hK ▸ hrowlt x hx
    · exact decide_eq_true (hSlen ▸ (inv.polys p hp).2 i hi)
    · obtain ⟨pi, a, b, c, d, rfl, hpi, wa, wb, wc, wd⟩ := hwire k hk
      exact ⟨⟨⟨⟨hpi, wa⟩, wb⟩, wc⟩, wd⟩
  · obtain ⟨v, hv, rfl⟩ := List.mem_map.1 hs
    rw [(hcanon v hv).1]; exact (hcanon v hv).2
  · have e1 : ((S.drop base.length).map leBytes32).map leNat = S.drop base.length := by
      rw [List.map_map]
      have : ∀ v ∈ S.drop base.length, (leNat ∘ leBytes32) v = id v := by
        intro v hv
        simp only [Function.comp, id]
        exact (hcanon v hv).1
      rw [List.map_congr_left this, List.map_id]
    have e2 : base ++ S.drop base.length = S := by
      obtain ⟨t, rfl⟩ := inv.pre
      rw [List.drop_left]
    show rebuild _ (base ++ ((S.drop base.length).map leBytes32).map leNat) = _
    rw [e1, e2]
    exact rebuild_eq_decompress _ S comp inv.cons h.selectors hrows.symm fun p hp => hK ▸ hrowlt p hp

theorem fromComposer_hades (hades : Bool) (comp : Composer) : (fromComposer hades comp).hades = hades := by
  rw [fromComposer_eq]

/-- the round trip at the level of the reader, for either setting of the hades flag -/
theorem unpackBounded_pack_fromComposer {comp : Composer} {m : Nat} (hades : Bool) (h : Compressible comp m) :
    unpackBounded (pack (fromComposer hades comp)) m = some (fromComposer hades comp) := by
  obtain ⟨hr, hc, -⟩ := fromComposer_good hades h
  exact unpackBounded_pack hr hc

/-- the round trip for either setting of the hades flag -/
theorem fromPayload_pack_fromComposer {comp : Composer} {m : Nat} (hades : Bool) (h : Compressible comp m) :
    fromPayload (pack (fromComposer hades comp)) m = .ok (decompressCompress comp) := by
  obtain ⟨hr, hc, hv, hs, hreb⟩ := fromComposer_good hades h
  have hh := fromComposer_hades hades comp
  refine fromPayload_eq_ok.2 ⟨?_, fromComposer hades comp, unpackBounded_pack hr hc, ?_, hs, ?_⟩
  · exact pack_length_le (fun s hs => (hr.scalars s hs).1) (fun s hs => (hr.polynomials s hs).1)
      (fun s hs => (hr.constraints s hs).1) hc
  · rw [hh]; exact hv
  · rw [hh]; exact hreb.symm

/-- `from_bytes` applied to the payload of `Circuit::compress()` is `decompressCompress` -/
theorem fromPayload_compressPayload {comp : Composer} {m : Nat} (h : Compressible comp m) :
    fromPayload (compressPayload comp) m = .ok (decompressCompress comp) :=
  fromPayload_pack_fromComposer true h

/-- the dictionaries of `from_composer`, for ANY composer: there is a scalar table extending the built-in one, whose
    tail is what is transmitted, such that every constraint names a polynomial whose eleven indices look up the
    (reduced) selectors of its gate in the FINAL tables -/
theorem fromComposer_dictionaries (hades : Bool) (comp : Composer) :
    ∃ S : List Nat, baseScalars hades <+: S ∧ (∀ x ∈ S, x < R) ∧
      (fromComposer hades comp).scalars = (S.drop (baseScalars hades).length).map leBytes32 ∧
      List.Forall₂ (Encodes S (fromComposer hades comp).polynomials) comp.gates.toList
        (fromComposer hades comp).constraints := by
  have inv := fcInv_fromComposer hades comp
  rw [fromComposer_eq]
  exact ⟨_, inv.pre, inv.canon, rfl, inv.cons⟩

end Plonk.PackedRoundtrip
