/-
  Refinement lemmas level (ii) → (iii): the `Nat`-mod-`R` field operations of the executable
  model are the field operations of `ZMod R`.
-/
import Mathlib.Algebra.Field.ZMod
import Mathlib.FieldTheory.Finite.Basic
import Plonk.Proofs.Prime

namespace Plonk

abbrev F := ZMod R

/-- interpretation of a model value in the field -/
def toF (a : Nat) : F := (a : ZMod R)

theorem R_pos : 0 < R := R_prime.pos
theorem R_gt_one : 1 < R := R_prime.one_lt

@[simp] theorem toF_mod (a : Nat) : toF (a % R) = toF a := by
  unfold toF; exact ZMod.natCast_mod a R

@[simp] theorem toF_fadd (a b : Nat) : toF (fadd a b) = toF a + toF b := by
  unfold fadd; rw [toF_mod]; exact Nat.cast_add a b

@[simp] theorem toF_fmul (a b : Nat) : toF (fmul a b) = toF a * toF b := by
  unfold fmul; rw [toF_mod]; exact Nat.cast_mul a b

@[simp] theorem toF_fsq (a : Nat) : toF (fsq a) = toF a * toF a := by
  unfold fsq; rw [toF_mod]; exact Nat.cast_mul a a

theorem toF_R_sub (b : Nat) : toF (R - b % R) = - toF b := by
  have hb : b % R ≤ R := (Nat.mod_lt b R_pos).le
  unfold toF
  rw [Nat.cast_sub hb]
  simp [ZMod.natCast_mod]

@[simp] theorem toF_fneg (a : Nat) : toF (fneg a) = - toF a := by
  unfold fneg; rw [toF_mod, toF_R_sub]

@[simp] theorem toF_fsub (a b : Nat) : toF (fsub a b) = toF a - toF b := by
  unfold fsub; rw [toF_mod, sub_eq_add_neg, ← toF_R_sub]; exact Nat.cast_add _ _

theorem toF_eq_zero_iff (a : Nat) : toF a = 0 ↔ a % R = 0 := by
  unfold toF; rw [ZMod.natCast_eq_zero_iff]; exact Nat.dvd_iff_mod_eq_zero

theorem toF_eq_zero_of_lt {a : Nat} (h : a < R) : toF a = 0 ↔ a = 0 := by
  rw [toF_eq_zero_iff, Nat.mod_eq_of_lt h]

theorem toF_inj_of_lt {a b : Nat} (ha : a < R) (hb : b < R) : toF a = toF b ↔ a = b := by
  unfold toF
  rw [ZMod.natCast_eq_natCast_iff]; unfold Nat.ModEq
  rw [Nat.mod_eq_of_lt ha, Nat.mod_eq_of_lt hb]

theorem fadd_lt (a b : Nat) : fadd a b < R := Nat.mod_lt _ R_pos
theorem fmul_lt (a b : Nat) : fmul a b < R := Nat.mod_lt _ R_pos
theorem fsub_lt (a b : Nat) : fsub a b < R := Nat.mod_lt _ R_pos
theorem fneg_lt (a : Nat) : fneg a < R := Nat.mod_lt _ R_pos
theorem fsq_lt (a : Nat) : fsq a < R := Nat.mod_lt _ R_pos
theorem fpow_lt (a e : Nat) : fpow a e < R := powModF_lt _ _ _ _ _ R_pos (Nat.mod_lt _ R_pos)
theorem finv_lt (a : Nat) : finv a < R := fpow_lt _ _

theorem two_pow_254_lt_R : 2 ^ 254 < R := by decide +kernel
theorem R_lt_two_pow_255 : R < 2 ^ 255 := by decide +kernel

theorem four_pow_eq (m : Nat) : 4 ^ m = 2 ^ (2 * m) := by
  rw [Nat.pow_mul]

/-- `== 0` on reduced values is `= 0` in the field -/
theorem beq_zero_iff {a : Nat} (h : a < R) : (a == 0) = true ↔ toF a = 0 := by
  rw [toF_eq_zero_of_lt h]; simp

theorem val_toF_of_lt {a : Nat} (h : a < R) : (toF a).val = a := by
  unfold toF; rw [ZMod.val_natCast, Nat.mod_eq_of_lt h]

theorem toF_val (x : F) : toF x.val = x := by unfold toF; exact ZMod.natCast_zmod_val x

theorem toF_add (a b : Nat) : toF (a + b) = toF a + toF b := Nat.cast_add a b
theorem toF_mul (a b : Nat) : toF (a * b) = toF a * toF b := Nat.cast_mul a b
theorem toF_R : toF R = 0 := ZMod.natCast_self R

@[simp] theorem toF_zero : toF 0 = 0 := by simp [toF]
@[simp] theorem toF_one : toF 1 = 1 := by simp [toF]
@[simp] theorem toF_ofNat (n : Nat) [n.AtLeastTwo] : toF (OfNat.ofNat n) = (OfNat.ofNat n : F) := by
  unfold toF; exact Nat.cast_ofNat
@[simp] theorem toF_two : toF 2 = 2 := toF_ofNat 2
@[simp] theorem toF_three : toF 3 = 3 := toF_ofNat 3
@[simp] theorem toF_four : toF 4 = 4 := toF_ofNat 4

theorem toF_natCast_pow (k : Nat) : toF (2 ^ k) = (2 : F) ^ k := by
  unfold toF; push_cast; rfl

theorem toF_pow2 (k : Nat) : toF (pow2 k) = (2 : F) ^ k := by
  unfold pow2; rw [toF_mod, toF_natCast_pow]

theorem two_ne_zero_F : (2 : F) ≠ 0 := by
  rw [← toF_two, Ne, toF_eq_zero_of_lt (by have := two_pow_254_lt_R; omega)]; omega

theorem neg_one_ne_one_F : (-1 : F) ≠ 1 := fun h =>
  two_ne_zero_F (by rw [← one_add_one_eq_two]; exact eq_neg_iff_add_eq_zero.mp h.symm)

theorem bool_cases {b : F} (h : b * b = b) : b = 0 ∨ b = 1 :=
  IsIdempotentElem.iff_eq_zero_or_one.mp h

/-- `bit·(bit−1)·(bit+1) = 0` says exactly `bit ∈ {0, 1, −1}` (true in any field) -/
theorem bitCons_iff (bit : F) : bit * (bit - 1) * (bit + 1) = 0 ↔ bit = 0 ∨ bit = 1 ∨ bit = -1 := by
  rw [mul_eq_zero, mul_eq_zero, sub_eq_zero, add_eq_zero_iff_eq_neg, or_assoc]

/-- `= 0` on reduced values is `= 0` in the field (simp-normal form of `beq_zero_iff`) -/
theorem eq_zero_iff_toF {a : Nat} (h : a < R) : a = 0 ↔ toF a = 0 := (toF_eq_zero_of_lt h).symm

theorem toF_R_sub_one : toF (R - 1) = -1 := by
  have : toF (R - 1 % R) = - toF 1 := toF_R_sub 1
  rw [one_mod_R] at this; simpa using this

/-- `fpow` is exponentiation in the field (for exponents below `2^256`) -/
theorem toF_fpow (a e : Nat) (he : e < 2^256) : toF (fpow a e) = toF a ^ e := by
  unfold fpow
  have h := powModF_spec 256 (a % R) e R (1 % R) he
  have h1 : toF (powModF 256 (a % R) e R (1 % R)) = toF (1 % R * (a % R) ^ e) := by
    rw [← toF_mod, h, toF_mod]
  rw [h1]; unfold toF; push_cast
  simp [ZMod.natCast_mod]

theorem R_sub_two_lt : R - 2 < 2^256 := by decide +kernel

/-- `finv` is the field inverse (Fermat), including `finv 0 = 0 = 0⁻¹` -/
theorem toF_finv (a : Nat) : toF (finv a) = (toF a)⁻¹ := by
  unfold finv
  rw [toF_fpow _ _ R_sub_two_lt]
  by_cases h : toF a = 0
  · rw [h]
    have h2 : R - 2 ≠ 0 := by decide +kernel
    rw [inv_zero]
    exact zero_pow (M₀ := F) h2
  · have hc : (toF a) ^ (R - 1) = 1 := ZMod.pow_card_sub_one_eq_one h
    have h2 : (toF a) ^ (R - 2) * toF a = 1 := by
      rw [← pow_succ]
      have : R - 2 + 1 = R - 1 := by decide +kernel
      rw [this]; exact hc
    exact eq_inv_of_mul_eq_one_left h2

@[simp] theorem toF_fdiv (a b : Nat) : toF (fdiv a b) = toF a / toF b := by
  unfold fdiv; rw [toF_fmul, toF_finv]; rfl

theorem finv?_eq_none_iff (a : Nat) : finv? a = none ↔ toF a = 0 := by
  unfold finv?; rw [toF_eq_zero_iff]; split <;> simp_all

theorem finv?_some (a b : Nat) (h : finv? a = some b) : toF a ≠ 0 ∧ toF b = (toF a)⁻¹ := by
  unfold finv? at h
  split at h
  · simp at h
  · next hne =>
    injection h with h; subst h
    exact ⟨by rw [Ne, toF_eq_zero_iff]; exact hne, toF_finv a⟩

end Plonk
