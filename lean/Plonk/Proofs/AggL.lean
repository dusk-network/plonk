import Mathlib.Algebra.Module.Basic
import Mathlib.Algebra.Field.Defs

namespace Plonk.KzgMath
variable {F : Type*} [Field F]

/-- `a₀ + v·(a₁ + v·(a₂ + …))`: the combination `Σ vʲ aⱼ` over a list, in Horner form -/
def aggL {M : Type*} [AddCommMonoid M] [Module F M] (v : F) : List M → M
  | [] => 0
  | a :: l => a + v • aggL v l

end Plonk.KzgMath
