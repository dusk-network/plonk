/-
  C02 (soundness): the link between the verifier's equation and the quotient identity.

  The model's verifier (`Model/Verifier.lean`) never evaluates the numerator: it forms the
  linearisation commitment `[D]` (`linearizationTerms`) and checks, inside the batched opening, that
  `[D] − u·[z]` opens at the challenge point to `−r₀` (`r0Eval`).  Interpreting every commitment by
  the polynomial it commits to (`ι : G1 → F[X]`, assumption (A1)) and assuming that the evaluations
  carried by the proof are the true evaluations of these polynomials (which the opening layer
  enforces, `forged_evaluation_rejected`), `linearisation_is_quotient_identity` shows

      (D − u·Z)(z) + r₀ = Num(z) − (zⁿ − 1)·T(z),   T = t_low + Xⁿ t_mid + X²ⁿ t_high + X³ⁿ t_4,

  so the verifier's claim `(D − u·Z)(z) = −r₀` IS the quotient identity of `soundness_algebraic` at `z`.
-/
import Plonk.Proofs.SoundnessModel
import Plonk.Proofs.VerifierAlgebra
import Plonk.Proofs.LagrangeMath

namespace Plonk.Sound
open Polynomial Plonk Plonk.Quot

/-- the interpretation of the verifier-key and proof commitments as polynomials -/
structure AgmRep (ι : G1 → F[X]) (k : VKey) (p : ProofM) (P : ProverPolys F) : Prop where
  qm : ι k.qm = P.Q.qm
  ql : ι k.ql = P.Q.ql
  qr : ι k.qr = P.Q.qr
  qo : ι k.qo = P.Q.qo
  qf : ι k.qf = P.Q.qf
  qc : ι k.qc = P.Q.qc
  qrange : ι k.qrange = P.Q.qrange
  qlogic : ι k.qlogic = P.Q.qlogic
  qfixed : ι k.qfixed = P.Q.qfixed
  qvar : ι k.qvar = P.Q.qvar
  s4 : ι k.s4 = P.s4
  z : ι p.zC = P.z

/-- the evaluations carried by the proof are the true evaluations at `z` / `ωz` -/
structure TrueEvals (ω z : F) (e : Evals) (P : ProverPolys F) : Prop where
  a : toF e.a = P.a.eval z
  b : toF e.b = P.b.eval z
  c : toF e.c = P.c.eval z
  d : toF e.d = P.d.eval z
  aw : toF e.aw = P.a.eval (ω * z)
  bw : toF e.bw = P.b.eval (ω * z)
  dw : toF e.dw = P.d.eval (ω * z)
  qarith : toF e.qarith = P.Q.qarith.eval z
  qc : toF e.qc = P.Q.qc.eval z
  ql : toF e.ql = P.Q.ql.eval z
  qr : toF e.qr = P.Q.qr.eval z
  s1 : toF e.s1 = P.s1.eval z
  s2 : toF e.s2 = P.s2.eval z
  s3 : toF e.s3 = P.s3.eval z
  z : toF e.z = P.z.eval (ω * z)

/-- the quotient polynomial assembled from its four committed pieces -/
noncomputable def quotientOf (ι : G1 → F[X]) (p : ProofM) (n : ℕ) : F[X] :=
  ι p.tLow + X ^ n * ι p.tMid + X ^ (2 * n) * ι p.tHigh + X ^ (3 * n) * ι p.tFourth

theorem eval_quotientOf (ι : G1 → F[X]) (p : ProofM) (n : ℕ) (z : F) :
    (quotientOf ι p n).eval z =
      (ι p.tLow).eval z + z ^ n * (ι p.tMid).eval z + (z ^ n) ^ 2 * (ι p.tHigh).eval z +
        (z ^ n) ^ 3 * (ι p.tFourth).eval z := by
  simp only [quotientOf, eval_add, eval_mul, eval_pow, eval_X]
  ring

/-- the first Lagrange value computed by `lagrangeAndPi` (`lagrangeAndPi_some`) is `L₁(z)` -/
theorem lagrangeF_zero_eq_L1P (n : ℕ) (ω : F) {z : F} (hz : z ≠ 1) :
    PolyC19.lagrangeF n ω z 0 = (L1P n).eval z := by
  rw [eval_L1P_of_ne_one n hz]
  unfold PolyC19.lagrangeF
  rw [pow_zero, mul_one, div_eq_mul_inv, mul_inv]
  ring

/-- The ring identity behind `linearisation_is_quotient_identity`, with the arithmetic bracket `A`,
    the four widget sums `Wᵢ`, the product `N` of the four numerator factors and the first three
    denominator factors `gᵢ` as variables: `[D](z) − T − u·z + r₀ = Num − T`. -/
theorem linearisation_algebra {R : Type*} [CommRing R] (qa A W1 W2 W3 W4 qrange qlogic qfixed qvar N α
    l1 u z g1 g2 g3 β zn s4 T pi d γ : R) :
    qa * A + W1 * qrange + W2 * qlogic + W3 * qfixed + W4 * qvar +
        (N * α + l1 * α ^ 2 + u) * z - g1 * g2 * g3 * β * zn * α * s4 - T - u * z +
        (pi - l1 * α ^ 2 - α * g1 * g2 * g3 * (d + γ) * zn) =
      A * qa + qrange * W1 + qlogic * W2 + qfixed * W3 + qvar * W4 + pi +
        α * (N * z - g1 * g2 * g3 * (d + β * s4 + γ) * zn) + α ^ 2 * l1 * (z - 1) - T := by
  ring

/-- **The verifier's linearisation identity is the quotient identity.** -/
theorem linearisation_is_quotient_identity (ι : G1 → F[X]) (k : VKey) (p : ProofM) (ch : Challenges)
    (zh l1 piEval : Nat) (ω : F) (n : ℕ) (P : ProverPolys F) (A : AgmRep ι k p P)
    (E : TrueEvals ω (toF ch.z) p.ev P) (hzh : toF zh = toF ch.z ^ n - 1)
    (hl1 : toF l1 = (L1P n).eval (toF ch.z)) (hpi : toF piEval = P.pi.eval (toF ch.z)) :
    (evalTerms ι (linearizationTerms k p ch zh l1) - toF ch.u • ι p.zC).eval (toF ch.z) +
        toF (r0Eval p.ev ch l1 piEval) =
      (NumP ω n P ⟨toF ch.beta, toF ch.gamma, toF ch.alpha⟩
          ⟨toF ch.rangeSep, toF ch.logicSep, toF ch.fixedSep, toF ch.varSep⟩).eval (toF ch.z) -
        (toF ch.z ^ n - 1) * (quotientOf ι p n).eval (toF ch.z) := by
  have hz1 : toF zh + 1 = toF ch.z ^ n := by rw [hzh]; ring
  rw [linearization_eval, toF_r0Eval, eval_NumP, eval_quotientOf, toF_rangeScalar_wsum,
    toF_logicScalar_wsum, toF_fixedScalar_wsum, toF_varScalar_wsum, hz1]
  simp only [A.qm, A.ql, A.qr, A.qo, A.qf, A.qc, A.qrange, A.qlogic, A.qfixed, A.qvar, A.s4, A.z,
    eval_add, eval_sub, eval_smul, smul_eq_mul, numR, gateSumR, arithR, permStepR, permNumR,
    permDenR, Sel.map, wiresF, ← E.a, ← E.b, ← E.c, ← E.d, ← E.aw, ← E.bw, ← E.dw, ← E.qarith, ← E.qc,
    ← E.ql, ← E.qr, ← E.s1, ← E.s2, ← E.s3, ← E.z, ← hl1, ← hpi, hzh]
  exact linearisation_algebra _ _ _ _ _ _ _ _ _ _ _ _ _ _ _ _ _ _ _ _ _ _ _ _ _

/-- **Corollary**: the opening claim of the verifier `(D − u·Z)(z) = −r₀` holds iff the quotient
    identity `Num(z) = T(z)·(zⁿ − 1)` holds. -/
theorem verifier_claim_iff_quotient_identity (ι : G1 → F[X]) (k : VKey) (p : ProofM)
    (ch : Challenges) (zh l1 piEval : Nat) (ω : F) (n : ℕ) (P : ProverPolys F) (A : AgmRep ι k p P)
    (E : TrueEvals ω (toF ch.z) p.ev P) (hzh : toF zh = toF ch.z ^ n - 1)
    (hl1 : toF l1 = (L1P n).eval (toF ch.z)) (hpi : toF piEval = P.pi.eval (toF ch.z)) :
    (evalTerms ι (linearizationTerms k p ch zh l1) - toF ch.u • ι p.zC).eval (toF ch.z) =
        - toF (r0Eval p.ev ch l1 piEval) ↔
      (NumP ω n P ⟨toF ch.beta, toF ch.gamma, toF ch.alpha⟩
          ⟨toF ch.rangeSep, toF ch.logicSep, toF ch.fixedSep, toF ch.varSep⟩).eval (toF ch.z) =
        (quotientOf ι p n).eval (toF ch.z) * (toF ch.z ^ n - 1) := by
  have h := linearisation_is_quotient_identity ι k p ch zh l1 piEval ω n P A E hzh hl1 hpi
  constructor
  · intro h1; linear_combination h1 - h
  · intro h1; linear_combination h + h1

end Plonk.Sound
