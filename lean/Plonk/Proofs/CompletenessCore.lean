/-
  C01 (completeness), algebraic core, math level — no model code in this file, arbitrary field `K`.

  The running product `z_i = ∏_{j<i} num_j / den_j` of the permutation argument (`accSeq`) closes
  (`z_n = 1 = z_0`) when the two full products agree, so every cyclic permutation step vanishes, the
  wrap-around one included (mirror image of `Sound.accumulator_telescopes_cyclic`); interpolation on
  the domain `⟨ω⟩`, unchanged by multiples of `Xⁿ − 1` (blinding); `denBad`, the explicit bad set of
  `γ` for a fixed `β`, contained in the soundness bad set `Sound.gammaBad`; a numerator vanishing on
  the domain is `T·(Xⁿ − 1)` with `deg T ≤ deg Num − n`.

  Degrees.  `Sound.natDegree_NumP_le` (one bound `e` for all polynomials) gives `deg Num ≤ 5e + n`;
  with the honest bound `e = n + 2` (the blinded accumulator) this is `6n + 10`, i.e. a quotient of
  degree `≤ 5n + 10` — NOT enough for `commitments_fit` (`t.length ≤ 4n + 7`).  `PolysDeg2` keeps the
  accumulator apart: selector / public-input / sigma / wire polynomials of degree `≤ e`, accumulator
  `≤ f` (`e ≤ f`, `n ≤ 4e + 1`) give `deg Num ≤ 4e + f`; with `e = n + 1` (wires blinded with two
  scalars), `f = n + 2` (accumulator blinded with three) this is `5n + 6`, so `deg T ≤ 4n + 6`: the
  quotient has at most `4n + 7` coefficients, exactly the capacity assumed by `commitments_fit`.
-/
import Plonk.Proofs.LagrangeMath
import Plonk.Proofs.SoundnessCore
import Plonk.Proofs.SoundnessDegree

namespace Plonk.Complete
open Polynomial Plonk.Quot

section acc
variable {K : Type*} [Field K]

/-- `L₁`-term: the sequence starts at `1` -/
theorem accSeq_first (n : ℕ) (hn : 0 < n) (num den : ℕ → K) (z : ℕ → K)
    (hz : ∀ i < n, z i = accSeq num den i) : z 0 = 1 := by
  rw [hz 0 hn, accSeq_zero]

end acc

section interp
variable {K : Type*} [Field K]

theorem exists_interpolant {ω : K} {n : ℕ} (hω : IsPrimitiveRoot ω n) (v : ℕ → K) :
    ∃ Z : K[X], Z.degree < n ∧ ∀ i < n, Z.eval (ω ^ i) = v i := by
  classical
  have hinj := PolyC19.injOn_pow_of_primitive hω
  refine ⟨Lagrange.interpolate (Finset.range n) (fun i : ℕ => ω ^ i) v, ?_, ?_⟩
  · have := Lagrange.degree_interpolate_lt (r := v) hinj
    rwa [Finset.card_range] at this
  · intro i hi
    exact Lagrange.eval_interpolate_at_node (r := v) hinj (Finset.mem_range.mpr hi)

/-- blinding: a multiple of `Xⁿ − 1` does not change the values on the domain -/
theorem eval_add_mul_vanishing {ω : K} {n : ℕ} (hω : ω ^ n = 1) (Z B : K[X]) (i : ℕ) :
    (Z + B * (X ^ n - 1)).eval (ω ^ i) = Z.eval (ω ^ i) := by
  simp [FftMath.pow_pow_eq_one hω i]

end interp

section bad
open Plonk.Perm Plonk.Sound
variable {K : Type} [Field K] [DecidableEq K] {ι : Type}

theorem denBad_card_le (S : Finset ι) (val idl : ι → K) (σ : ι → ι) (β : K) :
    (denBad S val idl σ β).card ≤ S.card := Finset.card_image_le

/-- the completeness bad set is part of the soundness bad set: a `γ` that is good for
    `soundness_algebraic` is good for `completeness_algebraic` -/
theorem denBad_subset_gammaBad (S : Finset ι) (val idl : ι → K) (σ : ι → ι) (β : K) :
    denBad S val idl σ β ⊆ gammaBad S val idl σ β :=
  Finset.subset_union_right

end bad

section quot
variable {K : Type*} [Field K]

theorem exists_quotient_of_vanishes {ω : K} {n : ℕ} (hn : 0 < n) (hω : IsPrimitiveRoot ω n)
    (N : K[X]) (h : ∀ i < n, N.eval (ω ^ i) = 0) : ∃ T : K[X], N = T * (X ^ n - 1) := by
  obtain ⟨T, hT⟩ := (divisible_iff_vanishes hn hω N).mpr h
  exact ⟨T, by rw [hT, mul_comm]⟩

theorem natDegree_quotient_le {n : ℕ} (hn : 0 < n) (N T : K[X]) (h : N = T * (X ^ n - 1)) (D : ℕ)
    (hN : N.natDegree ≤ D) : T.natDegree ≤ D - n := by
  by_cases hT : T = 0
  · rw [hT, natDegree_zero]; omega
  · rw [← C_1] at h
    have := natDegree_mul hT (X_pow_sub_C_ne_zero hn (1 : K))
    rw [← h, natDegree_X_pow_sub_C] at this
    omega

theorem eval_of_quotient {n : ℕ} (N T : K[X]) (h : N = T * (X ^ n - 1)) (z : K) :
    N.eval z = T.eval z * (z ^ n - 1) := by
  rw [h]; simp

end quot

open Plonk.Sound

section
variable {K : Type*} [Field K]

/-- **degree of the quotient**: `Num = T·(Xⁿ − 1)` ⇒ `deg T ≤ 4e + f − n` -/
theorem natDegree_quotient_le2 (ω : K) (n : ℕ) (hn0 : 0 < n) (P : ProverPolys K) (ch : Chal K)
    (s : Seps K) (e f : ℕ) (he : 1 ≤ e) (hef : e ≤ f) (hn : n ≤ 4 * e + 1) (hP : PolysDeg2 P e f)
    (T : K[X]) (hT : NumP ω n P ch s = T * (X ^ n - 1)) : T.natDegree ≤ 4 * e + f - n :=
  natDegree_quotient_le hn0 _ T hT _ (natDegree_NumP_le2 ω n P ch s e f he hef hn hP)

/-- the honest profile: wires blinded with two scalars (`deg ≤ n + 1`), accumulator with three
    (`deg ≤ n + 2`), everything else interpolated (`deg ≤ n − 1 ≤ n + 1`): `deg T ≤ 4n + 6` -/
theorem natDegree_quotient_honest (ω : K) (n : ℕ) (hn0 : 0 < n) (P : ProverPolys K) (ch : Chal K)
    (s : Seps K) (hP : PolysDeg2 P (n + 1) (n + 2)) (T : K[X])
    (hT : NumP ω n P ch s = T * (X ^ n - 1)) :
    (NumP ω n P ch s).natDegree ≤ 5 * n + 6 ∧ T.natDegree ≤ 4 * n + 6 := by
  have h1 := natDegree_NumP_le2 ω n P ch s (n + 1) (n + 2) (by omega) (by omega) (by omega) hP
  have h2 := natDegree_quotient_le2 ω n hn0 P ch s (n + 1) (n + 2) (by omega) (by omega) (by omega)
    hP T hT
  exact ⟨by omega, by omega⟩

end

end Plonk.Complete
