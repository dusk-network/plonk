/-
  G1 group law, part 3: double-and-add (`J1.mul`, `G1.smul`), the Straus multi-scalar loop
  (`G1.msum`) and the subgroup test (`G1.torsionFree`) in the Mathlib point group.
-/
import Plonk.Proofs.G1GroupJac
import Plonk.Proofs.Ladder

set_option Elab.async false

namespace Plonk

theorem g1_bit_lt_two (k m : Nat) : bit k m < 2 := Nat.mod_lt _ (by decide)

namespace J1

/-- `j` represents the point `Q` of the curve group (through some valid affine model point) -/
def RepPt (j : J1) (Q : G1.Pt) : Prop := ∃ q, Rep j q ∧ G1.pt q = Q

theorem RepPt.inf : RepPt inf 0 := ⟨.inf, inf_rep, rfl⟩

theorem RepPt.ofAffine {p : G1} (hp : p.Valid) : RepPt (ofAffine p) (G1.pt p) :=
  ⟨p, ofAffine_rep hp, rfl⟩

theorem RepPt.double {j : J1} {Q : G1.Pt} (h : RepPt j Q) : RepPt j.double (Q + Q) := by
  obtain ⟨q, hq, rfl⟩ := h
  exact ⟨q.add q, double_rep hq, G1.pt_add hq.valid hq.valid⟩

theorem RepPt.add {j k : J1} {Q S : G1.Pt} (h1 : RepPt j Q) (h2 : RepPt k S) :
    RepPt (j.add k) (Q + S) := by
  obtain ⟨q, hq, rfl⟩ := h1
  obtain ⟨s, hs, rfl⟩ := h2
  exact ⟨q.add s, add_rep hq hs, G1.pt_add hq.valid hs.valid⟩

theorem RepPt.toAffine {j : J1} {Q : G1.Pt} (h : RepPt j Q) :
    j.toAffine.Valid ∧ G1.pt j.toAffine = Q := by
  obtain ⟨q, hq, rfl⟩ := h
  rw [toAffine_rep hq]; exact ⟨hq.valid, rfl⟩

/-- conditional addition, as in the loops of `mul` and `msum` -/
theorem RepPt.condAdd {acc pj : J1} {A Q : G1.Pt} (hacc : RepPt acc A) (hp : RepPt pj Q)
    {b : Nat} (hb : b < 2) : RepPt (if (b == 1) = true then acc.add pj else acc) (A + b • Q) := by
  by_cases h1 : b = 1
  · subst h1; rw [if_pos (by rfl), one_nsmul]; exact hacc.add hp
  · have h0 : b = 0 := by omega
    subst h0; rw [if_neg (by simp), zero_nsmul, add_zero]; exact hacc

theorem mul_eq (p : J1) (k bits : Nat) : p.mul k bits =
    (List.range bits).foldl (fun acc i =>
      if (bit k (bits - 1 - i) == 1) = true then acc.double.add p else acc.double) inf := rfl

/-- `J1.mul` computes `(k mod 2^bits) • Q` -/
theorem mul_repPt {j : J1} {Q : G1.Pt} (h : RepPt j Q) (k bits : Nat) :
    RepPt (j.mul k bits) ((k % 2 ^ bits) • Q) := by
  have := ladder_rep (Rep := RepPt) (P := Q)
    (step := fun acc b => if b = true then acc.double.add j else acc.double)
    (fun {acc A} b ha => by
      cases b
      · simpa using ha.double
      · simpa using ha.double.add h)
    ((List.range bits).map fun i => bit k (bits - 1 - i) == 1) (acc := inf) (n := 0)
    (by simpa using RepPt.inf)
  rw [bitsValMSB_bits, Nat.zero_mul, Nat.zero_add, ← foldl_range_bits] at this
  rw [mul_eq]; exact this

end J1

namespace G1

theorem smul_eq (k : Nat) (p : G1) : G1.smul k p = ((J1.ofAffine p).mul k 256).toAffine := rfl

theorem smul_spec_mod (k : Nat) {p : G1} (hp : p.Valid) :
    (G1.smul k p).Valid ∧ pt (G1.smul k p) = (k % 2 ^ 256) • pt p := by
  rw [smul_eq]; exact (J1.mul_repPt (J1.RepPt.ofAffine hp) k 256).toAffine

theorem smul_spec {k : Nat} (hk : k < 2 ^ 256) {p : G1} (hp : p.Valid) :
    (G1.smul k p).Valid ∧ pt (G1.smul k p) = k • pt p := by
  have := smul_spec_mod k hp
  rwa [Nat.mod_eq_of_lt hk] at this

/-- the model's subgroup test is `[r]P = O` in the curve group -/
theorem torsionFree_iff {p : G1} (hp : p.Valid) : p.torsionFree = true ↔ R • pt p = 0 := by
  have key : ∀ q : G1, q.Valid ∧ pt q = R • pt p → ((q == G1.inf) = true ↔ R • pt p = 0) := by
    intro q h; rw [G1.beq_inf, ← pt_eq_zero_iff h.1, h.2]
  exact key (G1.smul R p) (smul_spec (by decide +kernel) hp)

theorem msum_eq (ps : List (Nat × G1)) : G1.msum ps =
    ((List.range 255).foldl (fun acc i =>
      (ps.map fun t => (t.1 % R, J1.ofAffine t.2)).foldl
        (fun acc t => if (bit t.1 (254 - i) == 1) = true then acc.add t.2 else acc) acc.double)
      J1.inf).toAffine := rfl

theorem msum_inner (m : Nat) :
    ∀ (ps : List (Nat × G1)), (∀ t ∈ ps, t.2.Valid) → ∀ {acc : J1} {A : Pt}, J1.RepPt acc A →
      J1.RepPt ((ps.map fun t => (t.1 % R, J1.ofAffine t.2)).foldl
        (fun acc t => if (bit t.1 m == 1) = true then acc.add t.2 else acc) acc)
        (A + (ps.map fun t => bit (t.1 % R) m • pt t.2).sum)
  | [], _, acc, A, h => by
    rw [List.map_nil, List.foldl_nil, List.map_nil, List.sum_nil, add_zero]; exact h
  | t :: ps, hv, acc, A, h => by
    rw [List.map_cons, List.foldl_cons, List.map_cons, List.sum_cons, ← add_assoc]
    exact msum_inner m ps (fun t ht => hv t (List.mem_cons_of_mem _ ht))
      (h.condAdd (J1.RepPt.ofAffine (hv t List.mem_cons_self)) (g1_bit_lt_two _ _))

/-- `G1.msum` is `Σ (kᵢ mod r) • Pᵢ` in the curve group -/
theorem msum_spec {ps : List (Nat × G1)} (hv : ∀ t ∈ ps, t.2.Valid) :
    (G1.msum ps).Valid ∧ pt (G1.msum ps) = (ps.map fun t => (t.1 % R) • pt t.2).sum := by
  -- Straus' loop is the ladder whose digit at position `i` is `Σ bitᵢ(kₜ) • Pₜ`
  have h := ladder_rep_gen (Rep := J1.RepPt)
    (step := fun acc i => (ps.map fun t => (t.1 % R, J1.ofAffine t.2)).foldl
      (fun acc t => if (bit t.1 (254 - i) == 1) = true then acc.add t.2 else acc) acc.double)
    (val := fun i => (ps.map fun t => bit (t.1 % R) (254 - i) • pt t.2).sum)
    (fun i ha => msum_inner (254 - i) ps hv ha.double) (List.range 255) (acc := J1.inf)
    (A := (ps.map fun t => 0 • pt t.2).sum) (by simpa using J1.RepPt.inf)
  rw [horner_sum ps (fun t i => bit (t.1 % R) (254 - i)) (fun t => pt t.2)] at h
  have e : ∀ t : Nat × G1, (List.range 255).foldl (fun m i => 2 * m + bit (t.1 % R) (254 - i)) 0 =
      t.1 % R := fun t => by
    rw [msb_fold 255 (t.1 % R) 0, Nat.zero_mul, Nat.zero_add,
      Nat.mod_eq_of_lt (lt_trans (Nat.mod_lt _ (by decide +kernel)) (by decide +kernel))]
  simp only [e] at h
  rw [msum_eq]; exact h.toAffine

theorem nsmul_mod_R {Q : Pt} (h : R • Q = 0) (k : Nat) : (k % R) • Q = k • Q := by
  conv_rhs => rw [← Nat.mod_add_div k R, add_nsmul, mul_nsmul, h, nsmul_zero, add_zero]

/-- for points of the prime-order subgroup the reduction of the scalars is invisible -/
theorem msum_spec_torsionFree {ps : List (Nat × G1)} (hv : ∀ t ∈ ps, t.2.Valid)
    (ht : ∀ t ∈ ps, t.2.torsionFree = true) :
    pt (G1.msum ps) = (ps.map fun t => t.1 • pt t.2).sum := by
  rw [(msum_spec hv).2]
  congr 1
  apply List.map_congr_left
  intro t htm
  exact nsmul_mod_R ((torsionFree_iff (hv t htm)).mp (ht t htm)) t.1

end G1

end Plonk
