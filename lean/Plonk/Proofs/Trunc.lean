/-
  C11 glue, part 1: `assertCanonicalTruncation`, `bindTruncationSplit`, `componentTruncate`.

  A component is described once, as a `Block`: what it appends, and what its rows mean when read
  in any later state (soundness for every assignment, completeness for the model's own table).
  Blocks compose sequentially (`Block.trans`), so a straight-line program is a chain of the
  blocks of its steps; the states in between never get a name outside that one proof.
  A `PlainBlock` is a block all of whose gates are plain (this is `Appends` of Arith.lean plus the
  meaning of the rows): there the rows say exactly `S`, which is what Decomp.lean needs.
-/
import Plonk.Proofs.Arith
import Plonk.Proofs.Range
import Plonk.Proofs.TruncMath

namespace Plonk
open Plonk.Composer

namespace Composer

theorem split_total_bits : Generated.SPLIT_TOTAL_BITS = 255 := rfl

theorem toF_finv?_getD (a : Nat) : toF ((finv? a).getD 0) = (toF a)⁻¹ := by
  cases h : finv? a with
  | none => rw [(finv?_eq_none_iff a).mp h]; simp
  | some b => exact (finv?_some a b h).2

theorem R_lt_two_pow_256 : R < 2 ^ 256 := lt_trans R_lt_two_pow_255 (by norm_num)

theorem recomposeBits_high (v n : Nat) (hv : v < R) : recomposeBits v n 256 % R = v / 2 ^ n := by
  unfold recomposeBits
  have := R_lt_two_pow_256
  have h1 : v / 2 ^ n ≤ v := Nat.div_le_self _ _
  rw [Nat.mod_eq_of_lt (by omega : v < 2 ^ 256), Nat.mod_mod, Nat.mod_eq_of_lt (by omega)]

theorem recomposeBits_low (v n : Nat) (hv : v < R) : recomposeBits v 0 n % R = v % 2 ^ n := by
  unfold recomposeBits
  have h1 : v % 2 ^ n ≤ v := Nat.mod_le _ _
  rw [pow_zero, Nat.div_one, Nat.mod_mod, Nat.mod_eq_of_lt (by omega)]

theorem appendWitness_layout {c1 c2 : Composer} (h : SameLayout c1 c2) (v1 v2 : Nat) :
    SameLayout ((appendWitness v1).run c1).2 ((appendWitness v2).run c2).2 :=
  ⟨h.gates, by simp [h.wsize], h.pis⟩

theorem appendCustomGate_layout {c1 c2 : Composer} (h : SameLayout c1 c2) (s : Constraint) :
    SameLayout ((appendCustomGate s).run c1).2 ((appendCustomGate s).run c2).2 :=
  ⟨by simp [h.gates], h.wsize, by simp [h.pis, h.gates]⟩

theorem appendGate_layout {c1 c2 : Composer} (h : SameLayout c1 c2) (s : Constraint) :
    SameLayout ((appendGate s).run c1).2 ((appendGate s).run c2).2 :=
  appendCustomGate_layout h _

theorem gateAdd_layout {c1 c2 : Composer} (h : SameLayout c1 c2) (s : Constraint) :
    SameLayout ((gateAdd s).run c1).2 ((gateAdd s).run c2).2 := by
  rw [gateAdd_snd, gateAdd_snd]
  obtain ⟨cv1, -, hr1⟩ := appendEvaluatedOutput_some (gateAddC s) c1 (toF_gateAddC_qo s)
  obtain ⟨cv2, -, hr2⟩ := appendEvaluatedOutput_some (gateAddC s) c2 (toF_gateAddC_qo s)
  rw [hr1, hr2, h.wsize]
  exact appendGate_layout (appendWitness_layout h cv1 cv2) _

/-- `c'` is `c` after a component that appended `g` gates and `m` witnesses and kept `WF`.
    Its rows, read in any later state `c''`, force `S w` on every assignment `w`; the later
    table `c''.val` satisfies `V`, and it satisfies the rows as soon as it satisfies `H`. -/
structure Block (c c' : Composer) (g m : Nat) (S V H : (Nat → Nat) → Prop) : Prop where
  ext : Extends c c'
  gates : c'.gates.size = c.gates.size + g
  wit : c'.wit.size = c.wit.size + m
  wf : WF c → WF c'
  lastPlain : 0 < g → LastPlain c'
  sound : WF c → ∀ {c''}, Extends c' c'' → ∀ w,
    c''.rowsHoldW w c.gates.size c'.gates.size → S w
  vals : WF c → ∀ {c''}, Extends c' c'' → V c''.val
  complete : WF c → ∀ {c''}, Extends c' c'' → H c''.val →
    c''.rowsHoldW c''.val c.gates.size c'.gates.size

section block
variable {a b c : Composer} {g m g' m' : Nat} {S V H S' V' H' : (Nat → Nat) → Prop}

/-- Sequential composition. For completeness the second block may use what the rows of the
    first say about the table. -/
theorem Block.trans (h₁ : Block a b g m S V H) (h₂ : Block b c g' m' S' V' H') :
    Block a c (g + g') (m + m') (fun w => S w ∧ S' w) (fun v => V v ∧ V' v)
      (fun v => H v ∧ (S v → H' v)) where
  ext := h₁.ext.trans h₂.ext
  gates := by rw [h₂.gates, h₁.gates, Nat.add_assoc]
  wit := by rw [h₂.wit, h₁.wit, Nat.add_assoc]
  wf h := h₂.wf (h₁.wf h)
  lastPlain hp := by
    by_cases h : 0 < g'
    · exact h₂.lastPlain h
    · exact h₂.ext.lastPlain_of_gates (by rw [h₂.gates]; omega) (h₁.lastPlain (by omega))
  sound h _ hext w hr :=
    have hs := (rowsHoldW_split _ w h₁.ext.gates_size h₂.ext.gates_size).mp hr
    ⟨h₁.sound h (h₂.ext.trans hext) w hs.1, h₂.sound (h₁.wf h) hext w hs.2⟩
  vals h _ hext := ⟨h₁.vals h (h₂.ext.trans hext), h₂.vals (h₁.wf h) hext⟩
  complete h _ hext hH :=
    have r := h₁.complete h (h₂.ext.trans hext) hH.1
    (rowsHoldW_split _ _ h₁.ext.gates_size h₂.ext.gates_size).mpr
      ⟨r, h₂.complete (h₁.wf h) hext (hH.2 (h₁.sound h (h₂.ext.trans hext) _ r))⟩

/-- Weakening. The table `v` is a later one: it agrees with `a.val` on the witnesses of `a` and
    is reduced on those of `b`. -/
theorem Block.mono (h : Block a b g m S V H) (hg : g = g') (hm : m = m')
    (hS : WF a → ∀ w, S w → S' w)
    (hV : WF a → ∀ v, (∀ i < a.wit.size, v i = a.val i) → V v → V' v)
    (hH : WF a → ∀ v, (∀ i < a.wit.size, v i = a.val i) → (∀ i < a.wit.size + m, v i < R) →
      V v → H' v → H v) :
    Block a b g' m' S' V' H' where
  ext := h.ext
  gates := hg ▸ h.gates
  wit := hm ▸ h.wit
  wf := h.wf
  lastPlain hp := h.lastPlain (hg ▸ hp)
  sound ha _ hext w hr := hS ha w (h.sound ha hext w hr)
  vals ha _ hext := hV ha _ (fun _ hi => (h.ext.trans hext).val_eq hi) (h.vals ha hext)
  complete ha _ hext hH' :=
    h.complete ha hext (hH ha _ (fun _ hi => (h.ext.trans hext).val_eq hi)
      (fun i hi => by rw [hext.val_eq (h.wit ▸ hi)]; exact (h.wf ha).val_lt i) (h.vals ha hext) hH')

theorem Block.refl (a : Composer) : Block a a 0 0 (fun _ => True) (fun _ => True) (fun _ => True) where
  ext := Extends.refl a
  gates := rfl
  wit := rfl
  wf h := h
  lastPlain hp := absurd hp (Nat.lt_irrefl 0)
  sound _ _ _ _ _ := trivial
  vals _ _ _ := trivial
  complete _ _ _ _ := rowsHoldW_empty _ _ _

/-- A block all of whose gates are plain: its rows say exactly `S`, in the block's own state
    and hence in any later one. -/
structure PlainBlock (c c' : Composer) (g m : Nat) (S V H : (Nat → Nat) → Prop) : Prop
    extends Block c c' g m S V H where
  plain : ∀ i, c.gates.size ≤ i → i < c'.gates.size → Gate.plain (c'.gateAt i)
  conv : WF c → ∀ w, S w → c'.rowsHoldW w c.gates.size c'.gates.size

theorem PlainBlock.appends (h : PlainBlock a b g m S V H) : Appends a b g m :=
  ⟨h.ext, h.gates, h.wit, h.plain⟩

theorem PlainBlock.rows_iff (h : PlainBlock a b g m S V H) (ha : WF a) {c'' : Composer}
    (hext : Extends b c'') (w : Nat → Nat) :
    c''.rowsHoldW w a.gates.size b.gates.size ↔ S w :=
  ⟨h.sound ha hext w, fun hS =>
    (hext.rowsHoldW_of_plain w (Nat.le_refl _) h.plain).mpr (h.conv ha w hS)⟩

theorem PlainBlock.refl (a : Composer) :
    PlainBlock a a 0 0 (fun _ => True) (fun _ => True) (fun _ => True) where
  toBlock := Block.refl a
  plain _ h₁ h₂ := absurd h₂ (Nat.not_lt.mpr h₁)
  conv _ _ _ := rowsHoldW_empty _ _ _

theorem PlainBlock.trans (h₁ : PlainBlock a b g m S V H) (h₂ : PlainBlock b c g' m' S' V' H') :
    PlainBlock a c (g + g') (m + m') (fun w => S w ∧ S' w) (fun v => V v ∧ V' v)
      (fun v => H v ∧ (S v → H' v)) where
  toBlock := h₁.toBlock.trans h₂.toBlock
  plain := (h₁.appends.trans h₂.appends).plain
  conv ha w hS :=
    (h₁.appends.rows_split h₂.appends w).mpr ⟨h₁.conv ha w hS.1, h₂.conv (h₁.wf ha) w hS.2⟩

/-- `Block.mono` with an equivalent reading of the rows -/
theorem PlainBlock.mono (h : PlainBlock a b g m S V H) (hg : g = g') (hm : m = m')
    (hS : WF a → ∀ w, S w ↔ S' w)
    (hV : WF a → ∀ v, (∀ i < a.wit.size, v i = a.val i) → V v → V' v)
    (hH : WF a → ∀ v, (∀ i < a.wit.size, v i = a.val i) → (∀ i < a.wit.size + m, v i < R) →
      V v → H' v → H v) :
    PlainBlock a b g' m' S' V' H' where
  toBlock := h.toBlock.mono hg hm (fun ha w => (hS ha w).mp) hV hH
  plain := h.plain
  conv ha w hS' := h.conv ha w ((hS ha w).mpr hS')

/-- plain gates whose rows mean `P`, no value of their own -/
theorem PlainBlock.of_appends {P : (Nat → Nat) → Prop} (hA : Appends a b (g + 1) m)
    (hwf : WF a → WF b)
    (hrows : WF a → ∀ w, b.rowsHoldW w a.gates.size b.gates.size ↔ P w) :
    PlainBlock a b (g + 1) m P (fun _ => True) P where
  ext := hA.ext
  gates := hA.gates
  wit := hA.wit
  wf := hwf
  lastPlain _ := hA.lastPlain
  sound h _ hext w hr := (seg_iff hA hext w (hrows h w)).mp hr
  vals _ _ _ := trivial
  complete h _ hext hH := (seg_iff hA hext _ (hrows h _)).mpr hH
  plain := hA.plain
  conv ha w hP := (hrows ha w).mpr hP

end block

theorem getVal_bind_run {β : Type} (x : Nat) (f : Nat → CM β) (c : Composer) :
    (getVal x >>= f).run c = (f (c.val x)).run c := rfl

theorem pure_run_snd {α : Type} (a : α) (c : Composer) : ((pure a : CM α).run c).2 = c := rfl

theorem appendWitness_fst (v : Nat) (c : Composer) : ((appendWitness v).run c).1 = c.wit.size :=
  rfl

theorem appendWitness_block (val : Nat) (c : Composer) :
    Block c ((appendWitness val).run c).2 0 1 (fun _ => True)
      (fun v => v c.wit.size = val % R) (fun _ => True) where
  ext := extends_appendWitness _ c
  gates := rfl
  wit := appendWitness_wit_size _ c
  wf := appendWitness_wf _ c
  lastPlain hp := absurd hp (Nat.lt_irrefl 0)
  sound _ _ _ _ _ := trivial
  vals _ _ hext := by
    rw [hext.val_eq (by rw [appendWitness_wit_size]; omega)]
    exact appendWitness_val _ c
  complete _ _ _ _ := rowsHoldW_empty _ _ _

theorem appendWitness_plainBlock (val : Nat) (c : Composer) :
    PlainBlock c ((appendWitness val).run c).2 0 1 (fun _ => True)
      (fun v => v c.wit.size = val % R) (fun _ => True) where
  toBlock := appendWitness_block val c
  plain _ h₁ h₂ := absurd h₂ (Nat.not_lt.mpr h₁)
  conv _ _ _ := rowsHoldW_empty _ _ _

/-- a witness computed from the value of an allocated one -/
theorem getVal_appendWitness_block (x : Nat) (f : Nat → Nat) (c : Composer) :
    Block c ((appendWitness (f (c.val x))).run c).2 0 1 (fun _ => True)
      (fun v => x < c.wit.size → v c.wit.size = f (v x) % R) (fun _ => True) :=
  (appendWitness_block _ c).mono rfl rfl (fun _ _ h => h)
    (fun _ v hag hV hx => by rw [hV, hag x hx]) (fun _ _ _ _ _ h => h)

theorem gateAdd_block (s : Constraint) (c : Composer) :
    Block c ((gateAdd s).run c).2 1 1 (fun w => toF (w c.wit.size) = s.evalF w + s.piF)
      (fun _ => True)
      (fun _ => (s.hasPi = false → s.pi = 0) ∧ s.a < c.wit.size ∧ s.b < c.wit.size ∧
        s.d < c.wit.size) where
  ext := (gateAdd_appends s c).ext
  gates := gateAdd_gates_size s c
  wit := gateAdd_wit_size s c
  wf := gateAdd_wf s c
  lastPlain _ := (gateAdd_appends s c).lastPlain
  sound h _ hext w hr := (seg_iff (gateAdd_appends s c) hext w (gateAdd_rows_iff s c h w)).mp hr
  vals _ _ _ := trivial
  complete h _ hext hH :=
    (hext.rowsHoldW_iff _ _ (gateAdd_appends s c).lastPlain).mpr
      (gateAdd_honest_ext s c h hH.1 hH.2.1 hH.2.2.1 hH.2.2.2 hext)

/-- `o := k − a` -/
theorem gateSub_block (a k : Nat) (c : Composer) :
    Block c ((gateAdd { ql := R - 1, a := a, qc := k }).run c).2 1 1
      (fun w => toF (w c.wit.size) = toF k - toF (w a)) (fun _ => True)
      (fun _ => a < c.wit.size) :=
  (gateAdd_block _ c).mono rfl rfl
    (fun _ w h => by
      simpa only [Constraint.evalF, Constraint.piF, toF_zero, toF_R_sub_one, zero_mul, neg_one_mul,
        add_zero, zero_add, Bool.false_eq_true, if_false, neg_add_eq_sub] using h)
    (fun _ _ _ h => h) (fun _ _ _ _ _ h => ⟨fun _ => rfl, h, Nat.zero_lt_of_lt h, Nat.zero_lt_of_lt h⟩)

/-- `o := a · b` -/
theorem gateMul_block (a b : Nat) (c : Composer) :
    Block c ((gateAdd { qm := 1, a := a, b := b }).run c).2 1 1
      (fun w => toF (w c.wit.size) = toF (w a) * toF (w b)) (fun _ => True)
      (fun _ => a < c.wit.size ∧ b < c.wit.size) :=
  (gateAdd_block _ c).mono rfl rfl
    (fun _ w h => by
      simpa only [Constraint.evalF, Constraint.piF, toF_zero, toF_one, zero_mul, one_mul,
        add_zero, zero_add, Bool.false_eq_true, if_false] using h)
    (fun _ _ _ h => h) (fun _ _ _ _ _ h => ⟨fun _ => rfl, h.1, h.2, Nat.zero_lt_of_lt h.1⟩)

/-- `o := 2^k · a + b` -/
theorem gateShiftAdd_plainBlock (k a b : Nat) (c : Composer) :
    PlainBlock c ((gateAdd { ql := pow2 k, qr := 1, a := a, b := b }).run c).2 1 1
      (fun w => toF (w c.wit.size) = (2 : F) ^ k * toF (w a) + toF (w b)) (fun _ => True)
      (fun _ => a < c.wit.size ∧ b < c.wit.size) :=
  PlainBlock.mono
    { toBlock := gateAdd_block _ c, plain := (gateAdd_appends _ c).plain,
      conv := fun h w hS => (gateAdd_rows_iff _ c h w).mpr hS } rfl rfl
    (fun _ w => by
      simp only [Constraint.evalF, Constraint.piF, toF_zero, toF_one, toF_pow2, zero_mul, one_mul,
        add_zero, zero_add, Bool.false_eq_true, if_false])
    (fun _ _ _ h => h) (fun _ _ _ _ _ h => ⟨fun _ => rfl, h.1, h.2, Nat.zero_lt_of_lt h.1⟩)

theorem gateShiftAdd_block (k a b : Nat) (c : Composer) :
    Block c ((gateAdd { ql := pow2 k, qr := 1, a := a, b := b }).run c).2 1 1
      (fun w => toF (w c.wit.size) = (2 : F) ^ k * toF (w a) + toF (w b)) (fun _ => True)
      (fun _ => a < c.wit.size ∧ b < c.wit.size) :=
  (gateShiftAdd_plainBlock k a b c).toBlock

theorem appendGate_block (s : Constraint) (c : Composer) :
    Block c ((appendGate s).run c).2 1 0 (fun w => s.arithRel w) (fun _ => True)
      (fun v => s.arithRel v) :=
  (PlainBlock.of_appends (appendGate_appends s c) (appendGate_wf s c)
    (appendGate_rows_iff s c)).toBlock

theorem assertEqual_plainBlock (a b : Nat) (c : Composer) :
    PlainBlock c ((assertEqual a b).run c).2 1 0 (fun w => toF (w a) = toF (w b)) (fun _ => True)
      (fun v => toF (v a) = toF (v b)) :=
  .of_appends (assertEqual_appends a b c) (assertEqual_wf a b c) (assertEqual_rows_iff a b c)

theorem assertEqual_block (a b : Nat) (c : Composer) :
    Block c ((assertEqual a b).run c).2 1 0 (fun w => toF (w a) = toF (w b)) (fun _ => True)
      (fun v => toF (v a) = toF (v b)) :=
  (assertEqual_plainBlock a b c).toBlock

theorem rangeCheck_block (x n : Nat) (c : Composer) :
    Block c ((rangeCheck x n).run c).2 (rangeGateCount n) (rangeWitCount n)
      (fun w => n ≤ 254 → toF (w 0) = 0 → (toF (w x)).val < 2 ^ n) (fun _ => True)
      (fun v => x < c.wit.size ∧ v 0 = 0 ∧ v x < 2 ^ n) where
  ext := rangeCheck_extends c x n
  gates := rangeCheck_gates_size c x n
  wit := rangeCheck_wit_size c x n
  wf := rangeCheck_wf c x n
  lastPlain _ := rangeCheck_last_plain c x n
  sound h _ hext w hr hn h0 := rangeCheck_sound_ext c x n hn h.pis_zero _ hext w h0 hr
  vals _ _ _ := trivial
  complete h c'' hext hH := by
    have e := (rangeCheck_extends c x n).trans hext
    refine rangeCheck_complete_ext c x n h.pis_zero hH.1 ?_ ?_ c'' hext
    · rw [← e.val_eq (Nat.zero_lt_of_lt hH.1)]; exact hH.2.1
    · rw [← e.val_eq hH.1]; exact hH.2.2

/-- number of gates appended by `assert_canonical_truncation` -/
def actGateCount (n : Nat) : Nat :=
  6 + rangeGateCount (Generated.SPLIT_TOTAL_BITS - n) + rangeGateCount n
/-- number of witnesses allocated by `assert_canonical_truncation` -/
def actWitCount (n : Nat) : Nat :=
  6 + rangeWitCount (Generated.SPLIT_TOTAL_BITS - n) + rangeWitCount n

/-- `diff = rHigh − H` does not wrap and fits its range check when `H·2^N + L ≤ R − 1`
    (any `N ≤ 255`, including `N = 0`) -/
theorem diff_honest (N H L d : Nat) (hN : N ≤ 255) (hcanon : H * 2 ^ N + L ≤ R - 1) (hd : d < R)
    (hdF : toF d = toF (rHigh N) - toF H) : d = rHigh N - H ∧ d < 2 ^ (255 - N) := by
  have hle : H ≤ rHigh N := by have := canonical_lex N H L hcanon; omega
  have hdv : d = rHigh N - H := by
    rw [toF_sub_of_le hle] at hdF
    exact (toF_inj_of_lt hd (by have := rHigh_lt_R N; omega)).mp hdF
  exact ⟨hdv, by rw [hdv]; have := rHigh_lt N hN; omega⟩

/-- the honest `guard = isTop·(rLow − L)` fits its range check when `H·2^N + L ≤ R − 1` -/
theorem guard_honest (N H L d t g : Nat) (hN : N ≤ 255) (hcanon : H * 2 ^ N + L ≤ R - 1)
    (hd : d < R) (hg : g < R) (hdF : toF d = toF (rHigh N) - toF H)
    (htF : toF t = 1 - toF d * (toF d)⁻¹)
    (hgF : toF g = toF t * (toF (rLow N) - toF L)) : g < 2 ^ N := by
  have hdv := (diff_honest N H L d hN hcanon hd hdF).1
  rw [(isZero_gadget_complete (toF d)).2] at htF
  rcases canonical_lex N H L hcanon with hlt | ⟨heq, hle2⟩
  · have hd0 : toF d ≠ 0 := by rw [Ne, toF_eq_zero_of_lt hd]; omega
    rw [if_neg hd0] at htF
    rw [htF, zero_mul] at hgF
    rw [(toF_eq_zero_of_lt hg).mp hgF]; positivity
  · have hd0 : toF d = 0 := by rw [hdv, heq]; simp
    rw [if_pos hd0] at htF
    rw [htF, one_mul, toF_sub_of_le hle2] at hgF
    have := (toF_inj_of_lt hg (by have := rLow_lt_R N; omega)).mp hgF
    have := (rHigh_rLow N).2
    omega

/-- the guard exactly as `assert_canonical_truncation` wires it: the six arithmetic relations and
    the two range checks force `h·2^N + l ≤ R − 1` on range-bounded `h`, `l` -/
theorem canonical_of_wiring (N : Nat) (h l d inv prod t rl g : F) (hN1 : 1 ≤ N) (hN : N ≤ 254)
    (hH : h.val < 2 ^ (255 - N)) (hL : l.val < 2 ^ N) (r1 : d = toF (rHigh N) - h)
    (b1 : d.val < 2 ^ (255 - N)) (r4 : prod = d * inv) (r5 : t = 1 - prod) (r6 : d * t = 0)
    (r7 : rl = toF (rLow N) - l) (r8 : g = t * rl) (b2 : g.val < 2 ^ N) :
    h.val * 2 ^ N + l.val ≤ R - 1 := by
  subst r1 r4 r7 r8
  have := (canonical_guard_gadget_iff N h.val l.val hN1 hN hH hL).mp
  rw [Plonk.toF_val, Plonk.toF_val] at this
  exact this ⟨inv, t, b1, r5, r6, b2⟩

/-- `assert_canonical_truncation`. Soundness (`1 ≤ n ≤ 254`): for range-bounded
    `high`, `low` the rows force `high·2^n + low ≤ R − 1` as integers, whatever the prover puts
    into `diff`, `inverse`, `product`, `isTop`, `guard` and the accumulators. Completeness (every
    `n ≤ 255`): the model's table satisfies the rows when its `high`, `low` satisfy that bound. -/
theorem assertCanonicalTruncation_block (high low n : Nat) (c : Composer) :
    Block c ((assertCanonicalTruncation high low n).run c).2 (actGateCount n) (actWitCount n)
      (fun w => 1 ≤ n → n ≤ 254 → toF (w 0) = 0 → (toF (w high)).val < 2 ^ (255 - n) →
        (toF (w low)).val < 2 ^ n → (toF (w high)).val * 2 ^ n + (toF (w low)).val ≤ R - 1)
      (fun _ => True)
      (fun v => n ≤ 255 ∧ high < c.wit.size ∧ low < c.wit.size ∧ v 0 = 0 ∧
        v high * 2 ^ n + v low ≤ R - 1) := by
  simp only [assertCanonicalTruncation, split_total_bits]
  apply Block.mono
  · -- the chain of the steps (numbered; `r₁ … r₉` below are what their rows say): peel one bind,
    -- compose with the block of that step
    rw [run_bind_of_fst (gateAdd_fst _ _)]
    apply (gateSub_block _ _ _).trans                       -- 1: diff := rHigh − high
    rw [run_bind']
    apply (rangeCheck_block _ _ _).trans                    -- 2: diff < 2^(255−n)
    rw [getVal_bind_run, run_bind_of_fst (appendWitness_fst _ _)]
    apply (getVal_appendWitness_block c.wit.size (fun dv => (finv? dv).getD 0) _).trans  -- 3: inverse
    rw [gateMul_eq, run_bind_of_fst (gateAdd_fst _ _)]
    apply (gateMul_block _ _ _).trans                       -- 4: product := diff · inverse
    rw [run_bind_of_fst (gateAdd_fst _ _)]
    apply (gateSub_block _ _ _).trans                       -- 5: isTop := 1 − product
    rw [run_bind']
    apply (appendGate_block _ _).trans                      -- 6: diff · isTop = 0
    rw [run_bind_of_fst (gateAdd_fst _ _)]
    apply (gateSub_block _ _ _).trans                       -- 7: rLow − low
    rw [gateMul_eq, run_bind_of_fst (gateAdd_fst _ _)]
    apply (gateMul_block _ _ _).trans                       -- 8: guard := isTop · (rLow − low)
    exact rangeCheck_block _ _ _                            -- 9: guard < 2^n
  · rw [actGateCount, split_total_bits]; omega
  · rw [actWitCount, split_total_bits]; omega
  · rintro - w ⟨r₁, r₂, -, r₄, r₅, r₆, r₇, r₈, r₉⟩ hn1 hn h0 hH hL
    simp only [Constraint.arithRel, Constraint.piF, toF_zero, toF_one, Bool.false_eq_true,
      if_false] at r₅ r₆
    exact canonical_of_wiring n _ _ _ _ _ _ _ _ hn1 hn hH hL r₁
      (r₂ (by omega) h0) r₄ r₅ (by linear_combination r₆) r₇ r₈ (r₉ hn h0)
  · intros; trivial
  · -- completeness: the hypothesis of each step in turn, in program order; `r₁`, `r₄`, … are
    -- what the rows of the earlier steps say about the table `v`
    rintro - v - hred ⟨-, -, hinv, -⟩ ⟨hn, hhigh, hlow, hz, hcanon⟩
    simp only [gateAdd_wit_size, rangeCheck_wit_size, appendWitness_wit_size,
      appendGate_wit_size] at hred hinv ⊢
    have hinv := hinv (by omega)
    refine ⟨hhigh, fun r₁ => ?_⟩
    have r₁ : toF (v c.wit.size) = toF (rHigh n) - toF (v high) := r₁
    have hdlt := (diff_honest n _ _ _ hn hcanon (hred _ (by omega)) r₁).2
    refine ⟨⟨by omega, hz, hdlt⟩, fun _r₂ => ⟨trivial, fun _r₃ =>
      ⟨⟨by omega, by omega⟩, fun r₄ => ⟨by omega, fun r₅ => ?_⟩⟩⟩⟩
    rw [r₄, hinv, toF_mod, toF_finv?_getD, toF_one] at r₅
    refine ⟨?_, fun _r₆ => ⟨by omega, fun r₇ => ⟨⟨by omega, by omega⟩, fun r₈ =>
      ⟨by omega, hz, ?_⟩⟩⟩⟩
    · simp only [Constraint.arithRel, Constraint.piF, toF_zero, toF_one, Bool.false_eq_true,
        if_false]
      rw [r₅]; linear_combination (isZero_gadget_complete (toF (v c.wit.size))).1
    · exact guard_honest n _ _ _ _ _ hn hcanon (hred _ (by omega)) (hred _ (by omega)) r₁ r₅
        (by rw [r₈, r₇]; rfl)

/-- number of gates appended by `bind_truncation_split` (a function of `n` only) -/
def btsGateCount (n : Nat) : Nat :=
  2 + rangeGateCount (Generated.SPLIT_TOTAL_BITS - n) + actGateCount n
/-- number of witnesses allocated by `bind_truncation_split` (a function of `n` only) -/
def btsWitCount (n : Nat) : Nat :=
  2 + rangeWitCount (Generated.SPLIT_TOTAL_BITS - n) + actWitCount n

/-- `bind_truncation_split`; `high` is the witness `c.wit.size`. Soundness
    (`n ≤ 254`): `low` is *not* range-checked by the component (its doc says so); under the
    precondition `(w low) < 2^n` the rows force `low = input mod 2^n` and `high = input / 2^n` on
    canonical values. Completeness (every `n ≤ 255`): the model's table satisfies
    the rows when its `low` is `input mod 2^n`. -/
theorem bindTruncationSplit_block (input low n : Nat) (c : Composer) :
    Block c ((bindTruncationSplit input low n).run c).2 (btsGateCount n) (btsWitCount n)
      (fun w => n ≤ 254 → toF (w 0) = 0 → (toF (w low)).val < 2 ^ n →
        (toF (w low)).val = (toF (w input)).val % 2 ^ n ∧
        (toF (w c.wit.size)).val = (toF (w input)).val / 2 ^ n)
      (fun _ => True)
      (fun v => n ≤ 255 ∧ input < c.wit.size ∧ low < c.wit.size ∧ v 0 = 0 ∧
        v low = v input % 2 ^ n) := by
  simp only [bindTruncationSplit, split_total_bits]
  apply Block.mono
  · rw [getVal_bind_run, run_bind_of_fst (appendWitness_fst _ _)]
    apply (getVal_appendWitness_block input (fun v => recomposeBits v n 256) _).trans  -- 1: high
    rw [run_bind']
    apply (rangeCheck_block _ _ _).trans                    -- 2: high < 2^(255−n)
    rw [run_bind_of_fst (gateAdd_fst _ _)]
    apply (gateShiftAdd_block _ _ _ _).trans                -- 3: recomposed := 2^n·high + low
    rw [run_bind']
    apply (assertEqual_block _ _ _).trans                   -- 4: recomposed = input
    exact assertCanonicalTruncation_block _ _ _ _           -- 5: the guard
  · rw [btsGateCount, split_total_bits]; omega
  · rw [btsWitCount, split_total_bits]; omega
  · rintro - w ⟨-, r₂, r₃, r₄, r₅⟩ hn h0 hL
    by_cases hz : n = 0
    · -- no guard is needed here: `low = 0`, so the linear relation alone gives `high = input`
      subst hz
      simp only [pow_zero, Nat.lt_one_iff] at hL
      rw [(ZMod.val_eq_zero _).mp hL, pow_zero, one_mul, add_zero] at r₃
      rw [hL, pow_zero, Nat.mod_one, Nat.div_one, ← r₃, r₄]
      exact ⟨rfl, rfl⟩
    have bH := r₂ (by omega) h0
    have := split_unique n (toF (w c.wit.size)).val (toF (w low)).val (toF (w input)).val hL
      (ZMod.val_lt _) (by rw [Plonk.toF_val, Plonk.toF_val, Plonk.toF_val, ← r₄, r₃]; ring)
      (r₅ (by omega) hn h0 bH hL)
    exact ⟨this.2, this.1⟩
  · intros; trivial
  · rintro - v - hred ⟨hhigh, -⟩ ⟨hn, hinput, hlow, hz, hval⟩
    simp only [gateAdd_wit_size, rangeCheck_wit_size, appendWitness_wit_size,
      assertEqual_wit_size] at hred ⊢
    have hv : v input < R := hred _ (by omega)
    obtain ⟨sc1, -, sc3, sc4⟩ := split_complete n (v input) hn hv
    have hhigh : v c.wit.size = v input / 2 ^ n := by
      rw [hhigh hinput, recomposeBits_high _ _ hv]
    refine ⟨trivial, fun _ => ⟨⟨by omega, hz, by rw [hhigh]; exact sc1⟩, fun _r₂ =>
      ⟨⟨by omega, by omega⟩, fun r₃ => ⟨?_, fun _r₄ => ⟨hn, by omega, by omega, hz, ?_⟩⟩⟩⟩⟩
    · rw [r₃, hhigh, hval, ← sc3]; ring
    · rw [hhigh, hval]; exact sc4

/-- soundness of `bind_truncation_split` for `n ≤ 254`, rows read in any later state: the
    `high` witness (index `c.wit.size`) is `input / 2^n`. The hypothesis `1 ≤ n` is not used: for
    `n = 0` the linear relation alone gives `high = input`. -/
theorem bindTruncationSplit_sound_high (input low n : Nat) (c : Composer) (hn1 : 1 ≤ n)
    (hn : n ≤ Generated.TRUNCATE_MAX_BITS) (h : WF c) (c'' : Composer)
    (hext : Extends ((bindTruncationSplit input low n).run c).2 c'') (w : Nat → Nat)
    (h0 : toF (w 0) = 0) (hL : (toF (w low)).val < 2 ^ n)
    (hrows : c''.rowsHoldW w c.gates.size ((bindTruncationSplit input low n).run c).2.gates.size) :
    (toF (w c.wit.size)).val = (toF (w input)).val / 2 ^ n :=
  have _ := hn1
  ((bindTruncationSplit_block input low n c).sound h hext w hrows hn h0 hL).2

/-- number of gates appended by `component_truncate::<n>` -/
def ctGateCount (n : Nat) : Nat := rangeGateCount n + btsGateCount n
/-- number of witnesses allocated by `component_truncate::<n>` -/
def ctWitCount (n : Nat) : Nat := 1 + rangeWitCount n + btsWitCount n

theorem componentTruncate_fst (n x : Nat) (c : Composer) :
    ((componentTruncate n x).run c).1 = c.wit.size := by
  simp only [componentTruncate]
  rw [getVal_bind_run, run_bind_of_fst (appendWitness_fst _ _), run_bind', run_bind']
  rfl

/-- `component_truncate::<n>`; the returned witness is `c.wit.size`. -/
theorem componentTruncate_block (n x : Nat) (c : Composer) :
    Block c ((componentTruncate n x).run c).2 (ctGateCount n) (ctWitCount n)
      (fun w => n ≤ 254 → toF (w 0) = 0 →
        (toF (w c.wit.size)).val = (toF (w x)).val % 2 ^ n)
      (fun v => x < c.wit.size → v c.wit.size = recomposeBits (v x) 0 n % R)
      (fun v => n ≤ 255 ∧ x < c.wit.size ∧ v 0 = 0) := by
  simp only [componentTruncate]
  apply Block.mono
  · rw [getVal_bind_run, run_bind_of_fst (appendWitness_fst _ _)]
    apply (getVal_appendWitness_block x (fun v => recomposeBits v 0 n) _).trans
    rw [run_bind']
    apply (rangeCheck_block _ _ _).trans
    rw [run_bind', pure_run_snd]
    exact bindTruncationSplit_block _ _ _ _
  · unfold ctGateCount; omega
  · unfold ctWitCount; omega
  · rintro - w ⟨-, bL, r⟩ hn h0
    exact (r hn h0 (bL hn h0)).1
  · rintro - v - ⟨h, -⟩; exact h
  · rintro - v - hred ⟨hlow, -⟩ ⟨hn, hx, hz⟩
    simp only [rangeCheck_wit_size, appendWitness_wit_size] at hred ⊢
    have hlow : v c.wit.size = v x % 2 ^ n := by
      rw [hlow hx, recomposeBits_low _ _ (hred _ (by omega))]
    exact ⟨trivial, fun _ => ⟨⟨by omega, hz, by rw [hlow]; exact Nat.mod_lt _ (by positivity)⟩,
      fun _ => ⟨hn, by omega, by omega, hz, hlow⟩⟩⟩

/-- Two runs whose first steps agree on the layout and on the result. `SameLayout` also asks for
    equal public-input values, which the shape relation of the components (`SameShape`) forgets;
    the exactness proofs transfer `rowsHoldW`, which reads them. -/
theorem SameLayout.bind {α β : Type} {m₁ m₂ : CM α} {f : α → CM β} {c₁ c₂ : Composer} {a : α}
    (h₁ : (m₁.run c₁).1 = a) (h₂ : (m₂.run c₂).1 = a)
    (hm : SameLayout (m₁.run c₁).2 (m₂.run c₂).2)
    (hf : ∀ d₁ d₂, SameLayout d₁ d₂ → SameLayout ((f a).run d₁).2 ((f a).run d₂).2) :
    SameLayout ((m₁ >>= f).run c₁).2 ((m₂ >>= f).run c₂).2 := by
  rw [run_bind_of_fst h₁, run_bind_of_fst h₂]; exact hf _ _ hm

theorem assertCanonicalTruncation_layout {c₁ c₂ : Composer} (h : SameLayout c₁ c₂)
    (high low n : Nat) :
    SameLayout ((assertCanonicalTruncation high low n).run c₁).2
      ((assertCanonicalTruncation high low n).run c₂).2 := by
  simp only [assertCanonicalTruncation, gateMul_eq]
  refine .bind (gateAdd_fst _ _) (by rw [gateAdd_fst, h.wsize]) (gateAdd_layout h _) fun c₁ c₂ h => ?_
  refine .bind rfl rfl (rangeCheck_layout h _ _) fun c₁ c₂ h => ?_
  rw [getVal_bind_run, getVal_bind_run]
  refine .bind rfl h.wsize.symm (appendWitness_layout h _ _) fun c₁ c₂ h => ?_
  refine .bind (gateAdd_fst _ _) (by rw [gateAdd_fst, h.wsize]) (gateAdd_layout h _) fun c₁ c₂ h => ?_
  refine .bind (gateAdd_fst _ _) (by rw [gateAdd_fst, h.wsize]) (gateAdd_layout h _) fun c₁ c₂ h => ?_
  refine .bind rfl rfl (appendGate_layout h _) fun c₁ c₂ h => ?_
  refine .bind (gateAdd_fst _ _) (by rw [gateAdd_fst, h.wsize]) (gateAdd_layout h _) fun c₁ c₂ h => ?_
  refine .bind (gateAdd_fst _ _) (by rw [gateAdd_fst, h.wsize]) (gateAdd_layout h _) fun c₁ c₂ h => ?_
  exact rangeCheck_layout h _ _

theorem bindTruncationSplit_layout {c1 c2 : Composer} (h : SameLayout c1 c2) (input low n : Nat) :
    SameLayout ((bindTruncationSplit input low n).run c1).2
      ((bindTruncationSplit input low n).run c2).2 := by
  simp only [bindTruncationSplit]
  rw [getVal_bind_run, getVal_bind_run]
  refine .bind rfl h.wsize.symm (appendWitness_layout h _ _) fun c₁ c₂ h => ?_
  refine .bind rfl rfl (rangeCheck_layout h _ _) fun c₁ c₂ h => ?_
  refine .bind (gateAdd_fst _ _) (by rw [gateAdd_fst, h.wsize]) (gateAdd_layout h _) fun c₁ c₂ h => ?_
  refine .bind rfl rfl (appendGate_layout h _) fun c₁ c₂ h => ?_
  exact assertCanonicalTruncation_layout h _ _ _

theorem componentTruncate_layout {c1 c2 : Composer} (h : SameLayout c1 c2) (n x : Nat) :
    SameLayout ((componentTruncate n x).run c1).2 ((componentTruncate n x).run c2).2 := by
  simp only [componentTruncate]
  rw [getVal_bind_run, getVal_bind_run]
  refine .bind rfl h.wsize.symm (appendWitness_layout h _ _) fun c₁ c₂ h => ?_
  refine .bind rfl rfl (rangeCheck_layout h _ _) fun c₁ c₂ h => ?_
  rw [run_bind', run_bind', pure_run_snd, pure_run_snd]
  exact bindTruncationSplit_layout h _ _ _

theorem withValue_wf (c : Composer) (x v : Nat) (h : WF c) (hv : v < R) : WF (withValue c x v) := by
  refine ⟨fun i => ?_, fun i hi => h.pis_zero i hi⟩
  have hi := h.val_lt i
  unfold withValue val at *
  simp only [Array.getD_eq_getD_getElem?, Array.getElem?_setIfInBounds] at hi ⊢
  split
  · split
    · exact hv
    · exact R_pos
  · split
    · split
      · exact R_pos
      · exact R_pos
    · exact hi

/-- a well-formed state with the same layout in which witness `x` holds `v` -/
theorem exists_sameLayout_val (c : Composer) (x v : Nat) (h : WF c) (hv : v < R)
    (hx : x < c.wit.size) (hx0 : x = 0 → v = 0) :
    ∃ c₂, SameLayout c c₂ ∧ WF c₂ ∧ c₂.val x = v ∧ c₂.val 0 = 0 ∧
      ∀ i, i ≠ x → i ≠ 0 → c₂.val i = c.val i :=
  ⟨withValue c x v, withValue_layout c x v, withValue_wf c x v h hv, withValue_val_self c x v hx,
    withValue_val_zero c x v hx0, fun i hix hi0 => by
      simp only [withValue, val, Array.getD_eq_getD_getElem?, Array.getElem?_setIfInBounds]
      rw [if_neg (Ne.symm hix), if_neg (Ne.symm hi0)]⟩

end Composer
end Plonk
