/-
  C18 — determinism: helper lemmas (three parts).

  C18, part 1 — public-input rows.

  * `Built m` : the composer computation `m` is built from the four primitive state transformers
    (`appendWitness`, `appendCustomGate`, `getVal`, `get`) by `pure` / `>>=` (and any host-side
    branching).  Every gadget of `Plonk/Model/Composer.lean` is `Built`: a `ValueFree` computation
    is (`ValueFree.built`).
  * `Composer.PisSorted c` : the recorded public-input rows are strictly increasing and smaller
    than the number of gates.  It holds for the empty composer and is preserved by every `Built`
    computation.
  * hence sorting the (row, value) pairs is the identity, and feeding ANY permutation of them to
    the model's sorted insertion (`sortedPis'`, `sortedRows`) or to `mergeSort` gives back the
    insertion-ordered list.

  C18, part 2 — FFT: butterfly ranges with disjoint index windows commute (`butterflyRange_comm`,
  FftPass: a range is local to its two windows), so the chunks of one
  stage (`par_chunks_mut(..).for_each`) and the pieces of one chunk may be processed in any order;
  every transform of a domain equals the one computed through `serialFft`.

  C18, part 3 — the prover's loops and the compiler.

  * generic facts: a `map` over any chunking of the index range, with the chunks computed under any
    schedule, is the plain `map`; a tree reduction (`par_iter().sum()`) of field additions is the
    sequential fold;
  * the bodies of the quotient loop and of the numerators / denominators of `permVec`
    (`quotientAt`, `permNumAt`, `permDenAt`, `permStep`);
  * `compileWith threads order` (explicit thread count in every transform, explicit visiting order
    of the witness map) equals `compile`; `proveWith threads` equals `prove`.
-/
import Plonk.Proofs.ShapeProg
import Plonk.Proofs.CompressModel
import Mathlib.Data.List.Sort
import Plonk.Proofs.FftDomain
import Plonk.Proofs.PermutationRelabel
import Plonk.Proofs.QuotientModel

namespace Plonk
namespace Det

section DetPi
open Plonk.Composer

/-- `m` only uses `appendWitness`, `appendCustomGate`, `getVal` and `get` on the composer state -/
inductive Built : {α : Type} → CM α → Prop
  | pure {α : Type} (a : α) : Built (Pure.pure a : CM α)
  | bind {α β : Type} {m : CM α} {k : α → CM β} : Built m → (∀ a, Built (k a)) → Built (m >>= k)
  | appendWitness (v : Nat) : Built (Composer.appendWitness v)
  | appendCustomGate (s : Constraint) : Built (Composer.appendCustomGate s)
  | getVal (w : Nat) : Built (Composer.getVal w)
  | get : Built (MonadState.get : CM Composer)

/-- an invariant of the two writing primitives is an invariant of every `Built` computation -/
theorem Built.preserves {P : Composer → Prop}
    (hw : ∀ v c, P c → P ((Composer.appendWitness v).run c).2)
    (hg : ∀ s c, P c → P ((Composer.appendCustomGate s).run c).2)
    {α : Type} {m : CM α} (h : Built m) : ∀ c, P c → P (m.run c).2 := by
  induction h with
  | pure a => exact fun _ hc => hc
  | bind _ _ ih1 ih2 => exact fun c hc => ih2 _ _ (ih1 c hc)
  | appendWitness v => exact hw v
  | appendCustomGate s => exact hg s
  | getVal w => exact fun _ hc => hc
  | get => exact fun _ hc => hc

theorem _root_.Plonk.ValueFree.built {α : Type} {m₁ m₂ : CM α} (h : ValueFree AnyPi m₁ m₂) :
    Built m₁ := by
  induction h with
  | pure a => exact .pure a
  | bind _ _ ihm ihk => exact .bind ihm ihk
  | appendWitness v₁ _ => exact .appendWitness v₁
  | appendCustomGate _ => exact .appendCustomGate _
  | getVal_bind _ ih => exact .bind (.getVal _) fun v => ih v v
  | get_bind _ ih => exact .bind .get fun s => ih s s (SameShape.refl s)

/-- `component_mul_generator` branches on the value of the scalar, so it is not value-free; it is
    still built from the primitives -/
theorem built_componentMulGenerator (jubjub : Nat) (gen : Ext) :
    Built (componentMulGenerator jubjub gen) := by
  unfold componentMulGenerator
  split
  · exact .pure _
  · refine .bind (.getVal _) fun s => ?_
    split
    · exact .pure _
    · exact (appendFixedBaseSignedDigits_valueFree _ _ rfl fun _ => rfl).built

/-- a program in the error monad is built from the primitives -/
def BuiltE {α : Type} (m : CME α) : Prop := Built m.run

theorem BuiltE.pure {α : Type} (a : α) : BuiltE (Pure.pure a : CME α) := Built.pure _

theorem BuiltE.lift {α : Type} {m : CM α} (h : Built m) : BuiltE (liftM m : CME α) :=
  Built.bind h fun _ => Built.pure _

theorem BuiltE.mk {α : Type} {m : CM (Except CErr α)} (h : Built m) : BuiltE (ExceptT.mk m) := h

theorem BuiltE.bind {α β : Type} {m : CME α} {k : α → CME β} (hm : BuiltE m)
    (hk : ∀ a, BuiltE (k a)) : BuiltE (m >>= k) := by
  show Built (m.run >>= ExceptT.bindCont k)
  refine Built.bind hm fun r => ?_
  cases r with
  | ok a => exact hk a
  | error e => exact Built.pure _

theorem built_runSteps : ∀ {fs : List Step}, (∀ f ∈ fs, ∀ regs, BuiltE (f regs)) →
    ∀ regs, BuiltE (runSteps fs regs)
  | [], _, regs => BuiltE.pure _
  | f :: fs, h, regs => by
    unfold runSteps
    exact BuiltE.bind (h f List.mem_cons_self regs) fun out =>
      built_runSteps (fun g hg => h g (List.mem_cons_of_mem _ hg)) _

/-- the recorded public-input rows are strictly increasing and point at existing gates -/
def PisSorted (c : Composer) : Prop :=
  (c.pis.toList.map (·.1)).Pairwise (· < ·) ∧ ∀ r ∈ c.pis.toList.map (·.1), r < c.gates.size

theorem pisSorted_empty : PisSorted {} := by
  constructor <;> simp

theorem pisSorted_appendCustomGate (s : Constraint) (c : Composer) (h : PisSorted c) :
    PisSorted ((Composer.appendCustomGate s).run c).2 := by
  obtain ⟨h1, h2⟩ := h
  show PisSorted { c with gates := c.gates.push s.toGate,
                          pis := if s.hasPi then c.pis.push (c.gates.size, s.pi) else c.pis }
  unfold PisSorted
  rw [Array.size_push]
  split
  · rw [Array.toList_push, List.map_append, List.pairwise_append]
    refine ⟨⟨h1, List.pairwise_singleton _ _, fun a ha b hb => ?_⟩, fun r hr => ?_⟩
    · rw [List.mem_singleton.1 hb]
      exact h2 a ha
    · rcases List.mem_append.1 hr with h | h
      · exact Nat.lt_succ_of_lt (h2 r h)
      · rw [List.mem_singleton.1 h]
        exact Nat.lt_succ_self _
  · exact ⟨h1, fun r hr => Nat.lt_succ_of_lt (h2 r hr)⟩

theorem Built.pisSorted {α : Type} {m : CM α} (h : Built m) (c : Composer) (hc : PisSorted c) :
    PisSorted (m.run c).2 :=
  h.preserves (fun _ _ h => h) pisSorted_appendCustomGate c hc

/-- the starting state of every circuit (`Composer::initialized()`) -/
theorem pisSorted_initialized : PisSorted Composer.initialized := by
  unfold Composer.initialized
  refine Built.pisSorted ?_ _ pisSorted_empty
  exact .bind (.appendWitness _) fun _ => .bind (.appendWitness _) fun _ =>
    .bind (assertEqualConstant_valueFree _ _ rfl).built fun _ =>
    .bind (assertEqualConstant_valueFree _ _ rfl).built fun _ => appendDummyGates_valueFree.built

theorem PisSorted.nodup_rows {c : Composer} (h : PisSorted c) : (c.pis.toList.map (·.1)).Nodup :=
  h.1.imp (fun h => Nat.ne_of_lt h)

/-- the loop body of `sortedPis'` (`BTreeMap`-like insertion keyed by the row) -/
def insPair (acc : List (Nat × Nat)) (p : Nat × Nat) : List (Nat × Nat) :=
  let (lo, hi) := acc.partition (fun q => q.1 < p.1)
  lo ++ [p] ++ hi.filter (fun q => q.1 != p.1)

theorem sortedPis'_eq (c : Composer) :
    prove.Plonk.Driver.sortedPis' c = c.pis.toList.foldl insPair [] := rfl

theorem insPair_eq (acc : List (Nat × Nat)) (p : Nat × Nat) :
    insPair acc p = acc.filter (fun q => q.1 < p.1) ++ [p] ++
      (acc.filter (fun q => !decide (q.1 < p.1))).filter (fun q => q.1 != p.1) := by
  unfold insPair
  rw [List.partition_eq_filter_filter]
  rfl

/-- strict order of the rows -/
def RowLt (p q : Nat × Nat) : Prop := p.1 < q.1

/-- on the rows, inserting a pair is `CompressModel.insRow` -/
theorem map_fst_insPair (acc : List (Nat × Nat)) (p : Nat × Nat) :
    (insPair acc p).map (·.1) = CompressModel.insRow (acc.map (·.1)) p.1 := by
  rw [insPair_eq, CompressModel.insRow_eq]
  simp only [List.map_append, List.filter_map, List.map_cons, List.map_nil]
  rfl

theorem insPair_pairwise {acc : List (Nat × Nat)} (h : acc.Pairwise RowLt) (p : Nat × Nat) :
    (insPair acc p).Pairwise RowLt := by
  have := CompressModel.insRow_pairwise
    ((List.pairwise_map (f := fun q : Nat × Nat => q.1) (R := (· < ·))).2 h) p.1
  rw [← map_fst_insPair] at this
  exact (List.pairwise_map (f := fun q : Nat × Nat => q.1) (R := (· < ·))).1 this

theorem insPair_perm {acc : List (Nat × Nat)} {p : Nat × Nat} (hp : p.1 ∉ acc.map (·.1)) :
    (insPair acc p).Perm (p :: acc) := by
  have e : ∀ a ∈ acc.filter (fun q => !decide (q.1 < p.1)), (a.1 != p.1) = true := fun a ha => by
    simpa using fun he : a.1 = p.1 => hp (he ▸ List.mem_map_of_mem (List.mem_filter.1 ha).1)
  rw [insPair_eq, List.filter_eq_self.2 e, List.append_assoc]
  exact List.perm_middle.trans (.cons _ (List.filter_append_perm _ _))

theorem insFoldPair_spec (l : List (Nat × Nat)) : ∀ acc : List (Nat × Nat), acc.Pairwise RowLt →
    ((acc ++ l).map (·.1)).Nodup →
    (l.foldl insPair acc).Pairwise RowLt ∧ (l.foldl insPair acc).Perm (acc ++ l) := by
  induction l with
  | nil => intro acc h _; simpa using h
  | cons p rest ih =>
    intro acc h hnd
    have hp : p.1 ∉ acc.map (·.1) := by
      rw [List.map_append, List.map_cons] at hnd
      have := (List.nodup_append.1 hnd).2.2
      intro hmem
      exact this _ hmem _ List.mem_cons_self rfl
    have hq : (insPair acc p ++ rest).Perm (acc ++ p :: rest) :=
      ((insPair_perm hp).append_right rest).trans
        (by simpa using (List.perm_middle (a := p) (l₁ := acc) (l₂ := rest)).symm)
    obtain ⟨h1, h2⟩ := ih (insPair acc p) (insPair_pairwise h p) ((hq.map _).nodup_iff.2 hnd)
    exact ⟨h1, h2.trans hq⟩

theorem rowLt_nodup {L : List (Nat × Nat)} (hL : L.Pairwise RowLt) : (L.map (·.1)).Nodup := by
  rw [List.Nodup, List.pairwise_map]
  exact hL.imp (fun {a b : Nat × Nat} (h : RowLt a b) => Nat.ne_of_lt h)

/-- inserting any permutation of a row-sorted list gives the row-sorted list -/
theorem insFoldPair_perm_sorted {L l' : List (Nat × Nat)} (hL : L.Pairwise RowLt) (hp : l'.Perm L) :
    l'.foldl insPair [] = L := by
  have hnd : (L.map (·.1)).Nodup := rowLt_nodup hL
  have hnd' : (([] ++ l').map (fun q : Nat × Nat => q.1)).Nodup := by
    simpa using (hp.map (fun q : Nat × Nat => q.1)).nodup_iff.2 hnd
  obtain ⟨h1, h2⟩ := insFoldPair_spec l' [] List.Pairwise.nil hnd'
  exact List.Perm.eq_of_pairwise (fun a b _ _ h h' => absurd h (Nat.lt_asymm h')) h1 hL
    ((by simpa using h2 : (l'.foldl insPair []).Perm l').trans hp)

/-- the same for the bare row indices (`sortedRows`) -/
theorem insFold_perm_sorted {L l' : List Nat} (hL : L.Pairwise (· < ·)) (hp : l'.Perm L) :
    l'.foldl CompressModel.insRow [] = L := by
  obtain ⟨h1, h2⟩ := CompressModel.insFold_spec l' [] List.Pairwise.nil
  refine List.Pairwise.eq_of_mem_iff h1 hL fun a => ?_
  rw [h2, hp.mem_iff]; simp

/-- `mergeSort` by row of any permutation gives the row-sorted list -/
theorem mergeSort_perm_sorted {L l' : List (Nat × Nat)} (hL : L.Pairwise RowLt) (hp : l'.Perm L) :
    l'.mergeSort (fun p q => decide (p.1 ≤ q.1)) = L := by
  have hs : (l'.mergeSort (fun p q => decide (p.1 ≤ q.1))).Pairwise
      (fun p q => decide (p.1 ≤ q.1) = true) :=
    List.pairwise_mergeSort (le := fun p q => decide (p.1 ≤ q.1))
      (fun a b c hab hbc => by simp only [decide_eq_true_eq] at *; omega)
      (fun a b => by simp only [Bool.or_eq_true, decide_eq_true_eq]; omega) l'
  have hL' : L.Pairwise (fun p q => decide (p.1 ≤ q.1) = true) :=
    hL.imp (fun {a b} h => by unfold RowLt at h; simp only [decide_eq_true_eq]; omega)
  have hnd : (L.map (·.1)).Nodup := rowLt_nodup hL
  refine List.Perm.eq_of_pairwise ?_ hs hL' ((List.mergeSort_perm l' _).trans hp)
  intro a b _ hb h1 h2
  simp only [decide_eq_true_eq] at h1 h2
  have hab : a.1 = b.1 := by omega
  have ha : a ∈ L := hp.mem_iff.1 ((List.mergeSort_perm l' _).mem_iff.1 ‹_›)
  exact List.inj_on_of_nodup_map hnd ha hb hab

end DetPi

section DetFft
open List

/-- if the steps for two items commute (by symmetry it is enough to look at `x < y`), the fold
    does not depend on the order in which the (same) items are visited -/
theorem foldl_perm_of_comm {β : Type} {f : β → Nat → β} {l₁ l₂ : List Nat} (p : l₁.Perm l₂)
    (comm : ∀ x y, x < y → ∀ z, f (f z x) y = f (f z y) x) (init : β) :
    l₁.foldl f init = l₂.foldl f init := by
  refine p.foldl_eq' (fun x _ y _ z => ?_) init
  rcases Nat.lt_trichotomy x y with h | rfl | h
  · exact comm x y h z
  · rfl
  · exact (comm y x h z).symm

theorem inWin_disjoint_of_lo {lo₁ lo₂ m : Nat} (h : lo₁ + 2 * m ≤ lo₂) (j : Nat) :
    InWin lo₁ m 0 m j → ¬ InWin lo₂ m 0 m j := by
  unfold InWin; omega

/-- the windows of two pieces of one chunk (an empty piece may start beyond the half) -/
theorem inWin_disjoint_of_off {lo m o₁ l₁ o₂ l₂ : Nat} (h₂ : o₂ + l₂ ≤ m ∨ l₂ = 0)
    (hd : o₁ + l₁ ≤ o₂) (j : Nat) :
    InWin lo m o₁ l₁ j → ¬ InWin lo m o₂ l₂ j := by
  unfold InWin; omega

/-- a piece cut off at the end of the half fits into it, or is empty -/
theorem piece_fits (m L o : Nat) : o + min L (m - o) ≤ m ∨ min L (m - o) = 0 := by omega

/-- consecutive blocks of the same length: the earlier one ends before the later one starts -/
theorem block_le {x y : Nat} (q : Nat) (h : x < y) : x * q + q ≤ y * q := by
  rw [← Nat.succ_mul]; exact Nat.mul_le_mul_right _ h

/-- the seed of piece `r`, as the code computes the seed vector (sequentially, before the parallel loop) -/
def pieceSeed (wm L : Nat) (r : Nat) : Nat :=
  (List.range r).foldl (fun s _ => fmul s (fpow wm L)) (1 % R)

theorem pieceSeed_succ (wm L r : Nat) :
    pieceSeed wm L (r + 1) = fmul (pieceSeed wm L r) (fpow wm L) := by
  unfold pieceSeed; rw [List.range_succ, List.foldl_append]; rfl

/-- the model's loop over the pieces is the loop that reads the precomputed seeds -/
theorem pb_fold_seeds (a : Array Nat) (lo m wm L c : Nat) :
    (List.range c).foldl (pbStep lo m wm L) (a, 1 % R)
      = ((List.range c).foldl (fun a r =>
          butterflyRange a lo m (r * L) (min L (m - r * L)) wm (pieceSeed wm L r)) a,
         pieceSeed wm L c) :=
  foldl_range_beside (fun a seed r => butterflyRange a lo m (r * L) (min L (m - r * L)) wm seed)
    (fmul · (fpow wm L)) (pieceSeed wm L) (pieceSeed_succ wm L) a c

theorem Domain.fft_eq_serial (d : Domain) (hlog : d.logSize ≤ 256) (v : List Nat) (threads : Nat)
    (ht : 1 ≤ threads) :
    d.fft v threads
      = (serialFft (foldMod (v.map (· % R)) d.size).toArray d.groupGen d.logSize).toList := by
  unfold Domain.fft
  rw [bestFft_eq_serialFft _ _ _ _ ht hlog]

theorem Domain.ifft_eq_serial (d : Domain) (hlog : d.logSize ≤ 256) (v : List Nat) (threads : Nat)
    (ht : 1 ≤ threads) :
    d.ifft v threads
      = ((serialFft (resize (v.map (· % R)) d.size).toArray d.groupGenInv d.logSize).toList).map
          (fmul · d.sizeInv) := by
  unfold Domain.ifft
  rw [bestFft_eq_serialFft _ _ _ _ ht hlog]

end DetFft

section DetProver
open List

/-- consecutive chunks of `0..n` with the given sizes -/
def chunksFrom : Nat → List Nat → List (List Nat)
  | _, [] => []
  | start, s :: ss => List.range' start s :: chunksFrom (start + s) ss

theorem chunksFrom_flatten : ∀ (start : Nat) (sizes : List Nat),
    (chunksFrom start sizes).flatten = List.range' start sizes.sum
  | _, [] => rfl
  | start, s :: ss => by
    rw [chunksFrom, List.flatten_cons, List.sum_cons, chunksFrom_flatten (start + s) ss,
      List.range'_append_1]

/-- the slots written under a schedule: slot `j` receives the result of chunk `j` when the
    scheduler gets to it -/
def runSchedule {β : Type} (k : Nat) (g : Nat → β) (d : β) (sched : List Nat) : Array β :=
  sched.foldl (fun slots j => slots.setIfInBounds j (g j)) (Array.replicate k d)

theorem foldl_set_size {β : Type} (g : Nat → β) (sched : List Nat) : ∀ init : Array β,
    (sched.foldl (fun slots j => slots.setIfInBounds j (g j)) init).size = init.size := by
  induction sched with
  | nil => intro init; rfl
  | cons j rest ih => intro init; rw [List.foldl_cons, ih]; simp

theorem foldl_set_getElem? {β : Type} (g : Nat → β) (sched : List Nat) (j : Nat) :
    ∀ init : Array β, j < init.size → (j ∈ sched ∨ init[j]? = some (g j)) →
      (sched.foldl (fun slots j => slots.setIfInBounds j (g j)) init)[j]? = some (g j) := by
  induction sched with
  | nil => exact fun init _ h => h.resolve_left (List.not_mem_nil)
  | cons x rest ih =>
    intro init hs h
    refine ih _ (by simpa using hs) ?_
    by_cases hx : x = j
    · subst hx
      exact .inr (by simp [hs])
    · exact h.imp (fun h => (List.mem_cons.1 h).resolve_left fun e => hx e.symm)
        fun h => by rw [Array.getElem?_setIfInBounds, if_neg hx]; exact h

/-- when every chunk index is executed (at least) once — in any order —, reading
    the slots in index order gives the per-chunk results in index order -/
theorem runSchedule_eq {β : Type} (k : Nat) (g : Nat → β) (d : β) (sched : List Nat)
    (hall : ∀ j, j < k → j ∈ sched) :
    (runSchedule k g d sched).toList = (List.range k).map g := by
  apply List.ext_getElem?
  intro j
  by_cases hj : j < k
  · rw [Array.getElem?_toList]
    unfold runSchedule
    rw [foldl_set_getElem? g sched j _ (by simpa using hj) (Or.inl (hall j hj))]
    simp [hj]
  · have h1 : (runSchedule k g d sched).toList.length ≤ j := by
      rw [Array.length_toList, runSchedule, foldl_set_size, Array.size_replicate]; omega
    rw [List.getElem?_eq_none h1, List.getElem?_eq_none (by simp; omega)]

/-- cut `0..n` into consecutive chunks of arbitrary sizes, let the
    chunks be computed in any order (each at least once) into their slots, concatenate the slots:
    the result is `(List.range n).map f` -/
theorem chunked_scheduled_map {β : Type} (f : Nat → β) (sizes : List Nat) (sched : List Nat)
    (hall : ∀ j, j < sizes.length → j ∈ sched) :
    (runSchedule sizes.length (fun j => ((chunksFrom 0 sizes).getD j []).map f) [] sched).toList.flatten
      = (List.range sizes.sum).map f := by
  rw [runSchedule_eq _ _ _ _ hall]
  have hlen : ∀ (start : Nat) (sizes : List Nat), (chunksFrom start sizes).length = sizes.length := by
    intro start sizes
    induction sizes generalizing start with
    | nil => rfl
    | cons s ss ih => simp [chunksFrom, ih]
  have e : (List.range sizes.length).map (fun j => ((chunksFrom 0 sizes).getD j []).map f)
      = (chunksFrom 0 sizes).map (fun ch => ch.map f) := by
    apply List.ext_getElem
    · simp [hlen]
    · intro j h1 h2
      have hj : j < (chunksFrom 0 sizes).length := by simpa using h2
      simp [List.getD_eq_getElem?_getD, hj]
  rw [e, ← List.map_flatten, chunksFrom_flatten, List.range_eq_range']

theorem fadd_assoc (a b c : Nat) : fadd (fadd a b) c = fadd a (fadd b c) := by
  unfold fadd
  rw [Nat.mod_add_mod, Nat.add_mod_mod, Nat.add_assoc]

/-- the sequential sum, as the model writes it -/
def seqSum (l : List Nat) : Nat := l.foldl fadd 0

theorem seqSum_lt (l : List Nat) : seqSum l < R := by
  unfold seqSum
  induction l using List.reverseRecOn with
  | nil => exact R_pos
  | append_singleton l x _ => rw [List.foldl_append]; exact fadd_lt _ _

theorem foldl_fadd_eq (l : List Nat) {a : Nat} (ha : a < R) :
    l.foldl fadd a = fadd a (seqSum l) := by
  induction l using List.reverseRecOn with
  | nil => exact (Nat.mod_eq_of_lt ha).symm
  | append_singleton l x ih =>
    rw [List.foldl_append, ih]
    unfold seqSum
    rw [List.foldl_append]
    exact fadd_assoc ..

theorem seqSum_append (l1 l2 : List Nat) : seqSum (l1 ++ l2) = fadd (seqSum l1) (seqSum l2) := by
  unfold seqSum
  rw [List.foldl_append]
  exact foldl_fadd_eq l2 (seqSum_lt l1)

/-- a reduction tree: the leaves are consecutive pieces summed sequentially from zero, inner nodes
    add the results of their sub-trees (rayon's `sum` / `reduce` under any splitting) -/
inductive RTree where
  | leaf (piece : List Nat)
  | node (l r : RTree)

def RTree.items : RTree → List Nat
  | .leaf p => p
  | .node l r => l.items ++ r.items

def RTree.sum : RTree → Nat
  | .leaf p => seqSum p
  | .node l r => fadd l.sum r.sum

/-- `par_iter().map(..).sum()`: every reduction tree gives the sequential sum of its items -/
theorem RTree.sum_eq (t : RTree) : t.sum = seqSum t.items := by
  induction t with
  | leaf p => rfl
  | node l r ihl ihr => simp only [RTree.sum, RTree.items, seqSum_append, ihl, ihr]

/-- entry `i` of `quotientEvals` (the body of the loop, same text) -/
def quotientAt (selE sigE8 : Array (Array Nat)) (linE aE bE cE dE zE piE vh vhInv8 l1Den : Array Nat)
    (nInv8 beta gamma alpha rSep lSep fSep vSep : Nat) (i : Nat) : Nat :=
  let alphaSq := fsq alpha
  let q (j i : Nat) : Nat := (selE.getD j #[]).getD i 0
  let a := aE.getD i 0; let b := bE.getD i 0; let cc := cE.getD i 0; let dd := dE.getD i 0
  let aw := aE.getD (i + 8) 0; let bw := bE.getD (i + 8) 0; let dw := dE.getD (i + 8) 0
  let z := zE.getD i 0; let zw := zE.getD (i + 8) 0
  let g : Gate := { qm := q 0 i, ql := q 1 i, qr := q 2 i, qo := q 3 i, qf := q 4 i, qc := q 5 i, qarith := q 6 i }
  let ev : Evals := { a := a, b := b, c := cc, d := dd, aw := aw, bw := bw, dw := dw, qarith := 0, qc := q 5 i,
                      ql := q 1 i, qr := q 2 i, s1 := 0, s2 := 0, s3 := 0, z := 0 }
  let t1 := fadd (fadd (fadd (fadd (fadd (arithVal g a b cc dd 0) (fmul (q 7 i) (rangeScalar rSep ev)))
                (fmul (q 8 i) (logicScalar lSep ev))) (fmul (q 9 i) (fixedScalar fSep ev)))
                (fmul (q 10 i) (varScalar vSep ev))) (piE.getD i 0)
  let xx := linE.getD i 0
  let s (j : Nat) := (sigE8.getD j #[]).getD i 0
  let idp := fmul (fmul (fmul (fmul (fmul (fadd (fadd a (fmul beta xx)) gamma)
                (fadd (fadd b (fmul (fmul beta Generated.K1) xx)) gamma))
                (fadd (fadd cc (fmul (fmul beta Generated.K2) xx)) gamma))
                (fadd (fadd dd (fmul (fmul beta Generated.K3) xx)) gamma)) z) alpha
  let cpp := fneg (fmul (fmul (fmul (fmul (fmul (fadd (fadd a (fmul beta (s 0))) gamma)
                (fadd (fadd b (fmul beta (s 1))) gamma)) (fadd (fadd cc (fmul beta (s 2))) gamma))
                (fadd (fadd dd (fmul beta (s 3))) gamma)) zw) alpha)
  let l1 := fmul (fmul (l1Den.getD i 0) (fmul (vh.getD i 0) nInv8)) alphaSq
  let t2 := fadd (fadd idp cpp) (fmul (fsub z 1) l1)
  fmul (fadd t1 t2) (vhInv8.getD (i % 8) 0)

theorem quotientEvals_eq_map (size8 : Nat) (selE sigE8 : Array (Array Nat))
    (linE aE bE cE dE zE piE vh vhInv8 l1Den : Array Nat)
    (nInv8 beta gamma alpha rSep lSep fSep vSep : Nat) :
    quotientEvals size8 selE sigE8 linE aE bE cE dE zE piE vh vhInv8 l1Den nInv8 beta gamma alpha
        rSep lSep fSep vSep
      = (List.range size8).map (quotientAt selE sigE8 linE aE bE cE dE zE piE vh vhInv8 l1Den nInv8
          beta gamma alpha rSep lSep fSep vSep) := rfl

/-- numerator / denominator of row `i` (the bodies of the two parallel maps, same text) -/
def permNumAt (roots aS bS cS dS : List Nat) (beta gamma : Nat) (i : Nat) : Nat :=
  let br := fmul beta (roots.getD i 0)
  fmul (fmul (fmul (fadd (fadd (aS.getD i 0) br) gamma) (fadd (fadd (bS.getD i 0) (fmul br Generated.K1)) gamma))
             (fadd (fadd (cS.getD i 0) (fmul br Generated.K2)) gamma))
       (fadd (fadd (dS.getD i 0) (fmul br Generated.K3)) gamma)

def permDenAt (aS bS cS dS : List Nat) (sigE : List (List Nat)) (beta gamma : Nat) (i : Nat) : Nat :=
  let s (j : Nat) := (sigE.getD j []).getD i 0
  fmul (fmul (fmul (fadd (fadd (aS.getD i 0) (fmul beta (s 0))) gamma) (fadd (fadd (bS.getD i 0) (fmul beta (s 1))) gamma))
             (fadd (fadd (cS.getD i 0) (fmul beta (s 2))) gamma))
       (fadd (fadd (dS.getD i 0) (fmul beta (s 3))) gamma)

theorem permNums_eq_map (n : Nat) (roots aS bS cS dS : List Nat) (beta gamma : Nat) :
    Quot.permNums n roots aS bS cS dS beta gamma
      = (List.range n).map (permNumAt roots aS bS cS dS beta gamma) := rfl

theorem permDens_eq_map (n : Nat) (aS bS cS dS : List Nat) (sigE : List (List Nat))
    (beta gamma : Nat) :
    Quot.permDens n aS bS cS dS sigE beta gamma
      = (List.range n).map (permDenAt aS bS cS dS sigE beta gamma) := rfl

/-- the accumulator step of `compute_permutation_vec` -/
def permStep (n : Nat) (nums densInv : List Nat) (i cur : Nat) : Nat :=
  if i + 1 < n then fmul cur (fmul (nums.getD i 0) (densInv.getD i 0)) else cur

/-- `compile` (same text) where every transform receives the thread count `threads` and
    `compute_sigma_permutations` visits the witness map in the order `order` -/
def compileWith (threads : Nat) (order : List Nat) (srs : SRS) (srsLen : Nat) (label : List Nat)
    (c : Composer) : Except PErr PKey :=
  let constraints := c.gates.size
  let nTrim := nextPow2 (constraints + Generated.CIRCUIT_SIZE_PADDING)
  match truncateLen srsLen (nTrim + Generated.ADDED_BLINDING_DEGREE) with
  | .error e => .error (.compile e)
  | .ok ckLen =>
    let size := nextPow2 constraints
    match Domain.new? (size - 1) with
    | none => .error (.compile .degreeIsZero)
    | some d =>
      let col (f : Gate → Nat) : Poly :=
        Poly.ofCoeffs (d.ifft ((List.range size).map fun i => f (c.gateAt i)) threads)
      let sel : Array Poly := #[col (·.qm), col (·.ql), col (·.qr), col (·.qo), col (·.qf), col (·.qc), col (·.qarith),
                                col (·.qrange), col (·.qlogic), col (·.qfixed), col (·.qvar)]
      let roots := d.elements.toArray
      let sm := Perm.sigmaMapsOrder c size order
      let sigma : Array Poly := (Array.range 4).map fun colI =>
        Poly.ofCoeffs (d.ifft ((sm.getD colI #[]).toList.map fun (cc, i) => fmul (kOf cc) (roots.getD i 0)) threads)
      let k0 : PKey := { n := d.size, constraints := constraints, label := label, sel := sel, sigma := sigma,
                         vk := default, piIndexes := [], x := srs.x, g := srs.g, ckLen := ckLen, lay := c }
      let cs (i : Nat) : G1 := match commitT k0 (sel.getD i []) with | .ok p => p | .error _ => .inf
      match commit4 k0 (sigma.getD 0 []) (sigma.getD 1 []) (sigma.getD 2 []) (sigma.getD 3 []) with
      | .error (.commit e) => .error (.compile e)
      | .error e => .error e
      | .ok (s1, s2, s3, s4) =>
        let vk : VKey := { n := constraints, qm := cs 0, ql := cs 1, qr := cs 2, qo := cs 3, qf := cs 4, qc := cs 5,
                           qarith := cs 6, qrange := cs 7, qlogic := cs 8, qfixed := cs 9, qvar := cs 10,
                           s1 := s1, s2 := s2, s3 := s3, s4 := s4 }
        let piIdx := (compile.Plonk.Driver.sortedRows c)
        match Domain.new? (8 * d.size) with
        | none => .error (.compile .degreeIsZero)
        | some d8 =>
          .ok { k0 with vk := vk, piIndexes := piIdx,
                        selE := sel.map fun p => (d8.cosetFft p threads).toArray,
                        sigE8 := sigma.map fun p => (d8.cosetFft p threads).toArray,
                        linE := (d8.cosetFft [0, 1] threads).toArray,
                        vh := (d8.vanishingOverCoset d.size).toArray }

theorem transforms_threads (m : Nat) (d : Domain) (hd : Domain.new? m = some d) (threads : Nat)
    (ht : 1 ≤ threads) (v : List Nat) :
    d.fft v threads = d.fft v ∧ d.ifft v threads = d.ifft v ∧
    d.cosetFft v threads = d.cosetFft v ∧ d.cosetIfft v threads = d.cosetIfft v :=
  Domain.threads_irrelevant d (by have := (Domain.new?_wf m d hd).2; omega) v threads ht

set_option linter.auxLemma false in
/-- the two copies of the `unwrap_or_default` match of `compile` (auto-generated matchers of the two
    definitions) are the same function.  The numbers follow the order of the `match`es in the two
    definitions: after an edit of `compile` read them off `#print compileWith` / `#print compile`. -/
theorem cs_matcher_eq : @compileWith.match_3.{1} = @compile.match_1.{1} := rfl

theorem compileWith_eq (threads : Nat) (ht : 1 ≤ threads) (order : List Nat) (srs : SRS)
    (srsLen : Nat) (label : List Nat) (c : Composer) (ho : order.Perm (List.range c.wit.size)) :
    compileWith threads order srs srsLen label c = compile srs srsLen label c := by
  unfold compileWith compile
  dsimp only
  cases truncateLen srsLen (nextPow2 (c.gates.size + Generated.CIRCUIT_SIZE_PADDING) + Generated.ADDED_BLINDING_DEGREE) with
  | error e => rfl
  | ok ckLen =>
    dsimp only
    cases hd : Domain.new? (nextPow2 c.gates.size - 1) with
    | none => rfl
    | some d =>
      simp only [fun v => (transforms_threads _ d hd threads ht v).2.1,
        Perm.sigma_order_independent c _ order ho, cs_matcher_eq]
      generalize commit4 _ _ _ _ _ = x
      rcases x with e | ⟨s1, s2, s3, s4⟩
      · cases e <;> rfl
      · dsimp only
        cases hd8 : Domain.new? (8 * d.size) with
        | none => rfl
        | some d8 =>
          simp only [fun v => (transforms_threads _ d8 hd8 threads ht v).2.2.1]

theorem compileWith_default (srs : SRS) (srsLen : Nat) (label : List Nat) (c : Composer) :
    compileWith 1 (List.range c.wit.size) srs srsLen label c = compile srs srsLen label c :=
  compileWith_eq 1 (Nat.le_refl 1) _ srs srsLen label c (List.Perm.refl _)

/-- `blindPoly` with the thread count passed to the inverse transform -/
def blindPolyWith (threads : Nat) (d : Domain) (w : List Nat) (blinders : List Nat) : Poly :=
  let coeffs := d.ifft w threads
  let coeffs := (blinders.zipIdx).foldl (fun (cs : List Nat) (b, i) =>
      (cs.set i (fsub (cs.getD i 0) b)) ++ [b % R]) coeffs
  Poly.ofCoeffs coeffs

/-- `cosetEvals` with the thread count passed to the coset transform -/
def cosetEvalsWith (threads : Nat) (d8 : Domain) (p : Poly) : Array Nat :=
  let e := d8.cosetFft p threads
  (e ++ e.take 8).toArray

/-- `prove` (same text) where every transform receives the thread count `threads` -/
def proveWith (threads : Nat) (k : PKey) (c : Composer) (draws : List Nat) (v3 : Bool := true) : Except PErr ProveTrace :=
  if c.gates.size != k.constraints then .error .invalidCircuitSize else
  match Domain.new? k.constraints, Domain.new? (8 * k.n) with
  | some d, some d8 =>
    let n := d.size
    let size := k.n
    let pisSorted := prove.Plonk.Driver.sortedPis' c
    let pis := pisSorted.map (·.2)
    let dense : List Nat := (List.range size).map fun i => (pisSorted.find? (·.1 == i)).map (·.2) |>.getD 0
    let wcol (f : RowVals → Nat) : List Nat := (List.range size).map fun i => f (c.rowVals i)
    let aS := wcol (·.a); let bS := wcol (·.b); let cS := wcol (·.c); let dS := wcol (·.d)
    match takeDraws 8 draws with
    | none => .error .notEnoughDraws
    | some (wb, draws) =>
    let aP := blindPolyWith threads d aS (wb.take 2)
    let bP := blindPolyWith threads d bS ((wb.drop 2).take 2)
    let cP := blindPolyWith threads d cS ((wb.drop 4).take 2)
    let dP := blindPolyWith threads d dS ((wb.drop 6).take 2)
    match commit4 k aP bP cP dP with
    | .error e => .error e
    | .ok (aC, bC, cC, dC) =>
    -- transcript: base, public inputs, wire commitments
    let ops0 := baseOps k.label k.vk k.constraints v3 ++ pis.map (fun pi => TOp.msg "pi" (Transcript.scalarBytes pi)) ++
      [.msg "a_comm" aC.toCompressed, .msg "b_comm" bC.toCompressed, .msg "c_comm" cC.toCompressed,
       .msg "d_comm" dC.toCompressed, .chal "beta", .echo "beta" "beta", .chal "gamma"]
    let (t, chs) := runOps ops0 merlinInit
    let get (chs : List (String × Nat)) (l : String) : Nat := (chs.find? (·.1 == l)).map (·.2) |>.getD 0
    let beta := get chs "beta"; let gamma := get chs "gamma"
    -- round 2: permutation vector
    let roots := d.elements
    let sigE : List (List Nat) := (List.range 4).map fun i => d.fft (k.sigma.getD i []) threads
    match permVec n roots aS bS cS dS sigE beta gamma with
    | none => .error .panicDenominator
    | some perm =>
    match takeDraws 3 draws with
    | none => .error .notEnoughDraws
    | some (zb, draws) =>
    let zP := blindPolyWith threads d perm zb
    match commitT k zP with
    | .error e => .error (.commit e)
    | .ok zC =>
    let (t, chs3) := runOps [.msg "z_comm" zC.toCompressed, .chal "alpha", .chal "range separation challenge",
        .chal "logic separation challenge", .chal "fixed base separation challenge",
        .chal "variable base separation challenge"] t
    let alpha := get chs3 "alpha"; let rSep := get chs3 "range separation challenge"
    let lSep := get chs3 "logic separation challenge"; let fSep := get chs3 "fixed base separation challenge"
    let vSep := get chs3 "variable base separation challenge"
    -- round 3: quotient on the coset of size 8n
    let piPoly := Poly.ofCoeffs (d.ifft dense threads)
    let zE := cosetEvalsWith threads d8 zP; let aE := cosetEvalsWith threads d8 aP; let bE := cosetEvalsWith threads d8 bP
    let cE := cosetEvalsWith threads d8 cP; let dE := cosetEvalsWith threads d8 dP
    let piE := (d8.cosetFft piPoly threads).toArray
    let selE := k.selE
    let sigE8 := k.sigE8
    let linE := k.linE
    let vh := k.vh
    let vhInv8 := (batchInversion ((vh.toList).take 8)).toArray
    let l1Den := (batchInversion (linE.toList.map fun e => fsub e 1)).toArray
    let nInv8 := fmul d8.sizeInv 8
    let quot := quotientEvals d8.size selE sigE8 linE aE bE cE dE zE piE vh vhInv8 l1Den nInv8
                  beta gamma alpha rSep lSep fSep vSep
    let tPoly := Poly.ofCoeffs (d8.cosetIfft quot threads)
    if tPoly.length > 7 * n then .error .circuitUnsatisfied else
    match takeDraws 3 draws with
    | none => .error .notEnoughDraws
    | some (tb, _) =>
    match splitQuotient n tPoly (tb.getD 0 0) (tb.getD 1 0) (tb.getD 2 0) with
    | none => .error .panicSlice
    | some (tLowP, tMidP, tHighP, tFourthP) =>
    match commit4 k tLowP tMidP tHighP tFourthP with
    | .error e => .error e
    | .ok (tlC, tmC, thC, tfC) =>
    let (t, chs4) := runOps [.msg "t_low_comm" tlC.toCompressed, .msg "t_mid_comm" tmC.toCompressed,
        .msg "t_high_comm" thC.toCompressed, .msg "t_fourth_comm" tfC.toCompressed, .chal "z_challenge"] t
    let zc := get chs4 "z_challenge"
    let zw := fmul zc d.groupGen
    let ev : Evals := {
      a := Poly.evaluate aP zc, b := Poly.evaluate bP zc, c := Poly.evaluate cP zc, d := Poly.evaluate dP zc,
      aw := Poly.evaluate aP zw, bw := Poly.evaluate bP zw, dw := Poly.evaluate dP zw,
      qarith := Poly.evaluate (k.sel.getD 6 []) zc, qc := Poly.evaluate (k.sel.getD 5 []) zc,
      ql := Poly.evaluate (k.sel.getD 1 []) zc, qr := Poly.evaluate (k.sel.getD 2 []) zc,
      s1 := Poly.evaluate (k.sigma.getD 0 []) zc, s2 := Poly.evaluate (k.sigma.getD 1 []) zc,
      s3 := Poly.evaluate (k.sigma.getD 2 []) zc, z := Poly.evaluate zP zw }
    let sc (l : String) (v : Nat) : TOp := .msg l (Transcript.scalarBytes v)
    let (t, chs5) := runOps [sc "a_eval" ev.a, sc "b_eval" ev.b, sc "c_eval" ev.c, sc "d_eval" ev.d,
        sc "s_sigma_1_eval" ev.s1, sc "s_sigma_2_eval" ev.s2, sc "s_sigma_3_eval" ev.s3, sc "z_eval" ev.z,
        sc "a_w_eval" ev.aw, sc "b_w_eval" ev.bw, sc "d_w_eval" ev.dw, sc "q_arith_eval" ev.qarith,
        sc "q_c_eval" ev.qc, sc "q_l_eval" ev.ql, sc "q_r_eval" ev.qr, .chal "v_challenge"] t
    let v := get chs5 "v_challenge"
    -- round 5: linearisation polynomial
    let padd := Poly.add
    let sp (j : Nat) := k.sel.getD j []
    let arithL := Poly.scale (padd (padd (padd (padd (padd (Poly.scale (sp 0) (fmul ev.a ev.b)) (Poly.scale (sp 1) ev.a))
                    (Poly.scale (sp 2) ev.b)) (Poly.scale (sp 3) ev.c)) (Poly.scale (sp 4) ev.d)) (sp 5)) ev.qarith
    let lin0 := padd arithL (Poly.scale (sp 7) (rangeScalar rSep ev))
    let lin1 := Poly.addAssign lin0 (Poly.scale (sp 8) (logicScalar lSep ev))
    let lin2 := Poly.addAssign lin1 (Poly.scale (sp 9) (fixedScalar fSep ev))
    let lin3 := Poly.addAssign lin2 (Poly.scale (sp 10) (varScalar vSep ev))
    let piEvalSparse := d.barycentric pis zc      -- the prover passes the *sparse* list here (see DESIGN §9.2)
    let f1 := Poly.addConst lin3 piEvalSparse
    let bz := fmul beta zc
    let idL := Poly.scale zP (fmul (fmul (fmul (fmul (fadd (fadd ev.a bz) gamma) (fadd (fadd ev.b (fmul Generated.K1 bz)) gamma))
                  (fadd (fadd ev.c (fmul Generated.K2 bz)) gamma)) (fadd (fadd ev.d (fmul Generated.K3 bz)) gamma)) alpha)
    let cpL := Poly.scale (k.sigma.getD 3 []) (fneg (fmul (fmul (fmul (fmul (fadd (fadd ev.a (fmul beta ev.s1)) gamma)
                  (fadd (fadd ev.b (fmul beta ev.s2)) gamma)) (fadd (fadd ev.c (fmul beta ev.s3)) gamma)) (fmul beta ev.z)) alpha))
    let l1Dom := (Domain.new? (Poly.degree zP - 2)).getD d
    let l1z := (l1Dom.lagrangeCoeffs zc).headD 0
    let oneL := Poly.scale zP (fmul l1z (fsq alpha))
    let f2 := padd (padd idL cpL) oneL
    let zn := fpow zc n; let z2n := fpow zc (2 * n); let z3n := fpow zc (3 * n)
    let quotL := padd (padd (padd tLowP (Poly.scale tMidP zn)) (Poly.scale tHighP z2n)) (Poly.scale tFourthP z3n)
    let zhNeg := fneg (d.evaluateVanishing zc)
    let rP := padd (padd f1 f2) (Poly.scale quotL zhNeg)
    let wzP := aggregateWitness [rP, aP, bP, cP, dP, k.sigma.getD 0 [], k.sigma.getD 1 [], k.sigma.getD 2 [],
                                 sp 6, sp 5, sp 1, sp 2] zc v
    match commitT k wzP with
    | .error e => .error (.commit e)
    | .ok wzC =>
    let (_, chs6) := runOps [.chal "v_w_challenge"] t
    let vw := get chs6 "v_w_challenge"
    let wzwP := aggregateWitness [zP, aP, bP, dP] zw vw
    match commitT k wzwP with
    | .error e => .error (.commit e)
    | .ok wzwC =>
      .ok { proof := { aC := aC, bC := bC, cC := cC, dC := dC, zC := zC, tLow := tlC, tMid := tmC, tHigh := thC,
                       tFourth := tfC, wz := wzC, wzw := wzwC, ev := ev },
            pis := pis,
            ch := { beta := beta, gamma := gamma, alpha := alpha, rangeSep := rSep, logicSep := lSep, fixedSep := fSep,
                    varSep := vSep, z := zc, v := v, vw := vw, u := 0 },
            drawsUsed := 14 }
  | _, _ => .error (.compile .degreeIsZero)

theorem blindPolyWith_eq (m : Nat) (d : Domain) (hd : Domain.new? m = some d) (threads : Nat)
    (ht : 1 ≤ threads) (w bs : List Nat) : blindPolyWith threads d w bs = blindPoly d w bs := by
  unfold blindPolyWith blindPoly
  rw [(transforms_threads m d hd threads ht w).2.1]

theorem cosetEvalsWith_eq (m : Nat) (d : Domain) (hd : Domain.new? m = some d) (threads : Nat)
    (ht : 1 ≤ threads) (p : Poly) : cosetEvalsWith threads d p = cosetEvals d p := by
  unfold cosetEvalsWith cosetEvals
  rw [(transforms_threads m d hd threads ht p).2.2.1]

set_option linter.auxLemma false in
/-- the auto-generated matchers of the two copies are the same functions.  The numbers follow the
    order of the `match`es in `prove`: after an edit of the model read them off `#print proveWith`
    / `#print prove`. -/
theorem prove_matchers_eq :
    @proveWith.match_13.{1} = @prove.match_13.{1} ∧ @proveWith.match_9.{1} = @prove.match_9.{1} ∧
    @proveWith.match_5.{1} = @prove.match_5.{1} ∧ @proveWith.match_3.{1} = @prove.match_3.{1} ∧
    @proveWith.match_11.{1} = @prove.match_11.{1} ∧ @proveWith.match_1.{1} = @prove.match_1.{1} ∧
    @proveWith.match_7.{1} = @prove.match_7.{1} :=
  ⟨rfl, rfl, rfl, rfl, rfl, rfl, rfl⟩

theorem proveWith_eq (threads : Nat) (ht : 1 ≤ threads) (k : PKey) (c : Composer) (ds : List Nat)
    (v3 : Bool) : proveWith threads k c ds v3 = prove k c ds v3 := by
  unfold proveWith prove
  obtain ⟨-, m9, m5, -, m11, m1, m7⟩ := prove_matchers_eq
  refine ite_congr rfl (fun _ => rfl) (fun _ => ?_)
  cases hd : Domain.new? k.constraints with
  | none => rfl
  | some d =>
    cases hd8 : Domain.new? (8 * k.n) with
    | none => rfl
    | some d8 =>
      have e1 := blindPolyWith_eq _ d hd threads ht
      have e2 := cosetEvalsWith_eq _ d8 hd8 threads ht
      have e3 : ∀ v, d.fft v threads = d.fft v := fun v => (transforms_threads _ d hd threads ht v).1
      have e4 : ∀ v, d.ifft v threads = d.ifft v := fun v => (transforms_threads _ d hd threads ht v).2.1
      have e5 : ∀ v, d8.cosetFft v threads = d8.cosetFft v :=
        fun v => (transforms_threads _ d8 hd8 threads ht v).2.2.1
      have e6 : ∀ v, d8.cosetIfft v threads = d8.cosetIfft v :=
        fun v => (transforms_threads _ d8 hd8 threads ht v).2.2.2
      -- the `let`s are kept: each transform is then rewritten where it is bound, not at every use
      dsimp -zeta only
      simp -zeta only [e1, e2, e3, e4, e5, e6, m9, m5, m11, m1, m7]

theorem proveWith_default (k : PKey) (c : Composer) (ds : List Nat) (v3 : Bool) :
    proveWith 1 k c ds v3 = prove k c ds v3 := proveWith_eq 1 (Nat.le_refl 1) k c ds v3

end DetProver

end Det
end Plonk
