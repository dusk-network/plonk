/-
  C11 (truncation / decomposition), math level: facts about naturals and `F = ZMod R` only,
  no composer glue.  `R − 1 = rHigh N · 2^N + rLow N`; a split `H·2^N + L ≡ x (mod R)` with
  range-checked parts has the two solutions `x` and `x + R`, and the canonical one
  (`H·2^N + L ≤ R − 1`, i.e. `(H, L) ≤ (rHigh, rLow)` lexicographically) is the integer
  `div/mod` split; the `diff / isTop / guard` checks of `assert_canonical_truncation` say exactly
  that; bit decomposition chains (`DecompChain`) determine the bits for `N ≤ 254` and alias for `N ≥ 255`.
-/
import Mathlib.Tactic.Ring
import Mathlib.Tactic.LinearCombination
import Mathlib.Algebra.BigOperators.Intervals
import Plonk.Proofs.FieldBridge

namespace Plonk

theorem R_sub_one_lt_two_pow_256 : R - 1 < 2 ^ 256 := by decide +kernel

/-- `r_low` of `assert_canonical_truncation` (the model's own expression) -/
def rLow (N : Nat) : Nat := recomposeBits (R - 1) 0 N
/-- `r_high` of `assert_canonical_truncation` (the model's own expression) -/
def rHigh (N : Nat) : Nat := recomposeBits (R - 1) N 256

theorem rLow_eq (N : Nat) : rLow N = (R - 1) % 2 ^ N := by
  unfold rLow recomposeBits
  have h1 : (R - 1) % 2 ^ N ≤ R - 1 := Nat.mod_le _ _
  have := R_pos
  rw [pow_zero, Nat.div_one, Nat.mod_eq_of_lt (by omega)]

theorem rHigh_eq (N : Nat) : rHigh N = (R - 1) / 2 ^ N := by
  unfold rHigh recomposeBits
  have h1 : (R - 1) / 2 ^ N ≤ R - 1 := Nat.div_le_self _ _
  have := R_pos
  rw [Nat.mod_eq_of_lt R_sub_one_lt_two_pow_256, Nat.mod_eq_of_lt (by omega)]

/-- `R - 1 = rHigh · 2^N + rLow` with `rLow < 2^N` -/
theorem rHigh_rLow (N : Nat) : rHigh N * 2 ^ N + rLow N = R - 1 ∧ rLow N < 2 ^ N := by
  rw [rLow_eq, rHigh_eq]
  exact ⟨by rw [Nat.mul_comm]; exact Nat.div_add_mod _ _, Nat.mod_lt _ (by positivity)⟩

theorem rLow_lt_R (N : Nat) : rLow N < R := by
  have := (rHigh_rLow N).1; have := R_pos; omega

theorem rHigh_lt_R (N : Nat) : rHigh N < R := by
  rw [rHigh_eq]; have := Nat.div_le_self (R - 1) (2 ^ N); have := R_pos; omega

theorem rHigh_lt (N : Nat) (hN : N ≤ 255) : rHigh N < 2 ^ (255 - N) := by
  rw [rHigh_eq, Nat.div_lt_iff_lt_mul (by positivity), ← pow_add]
  have : 255 - N + N = 255 := by omega
  rw [this]; have := R_lt_two_pow_255; omega

/-- `H·2^N + L ≤ R − 1` compares `(H, L)` with `(rHigh, rLow)` lexicographically -/
theorem canonical_lex (N H L : Nat) (h : H * 2 ^ N + L ≤ R - 1) :
    H < rHigh N ∨ (H = rHigh N ∧ L ≤ rLow N) := by
  obtain ⟨hsum, hrl⟩ := rHigh_rLow N
  by_cases hgt : rHigh N + 1 ≤ H
  · have := Nat.mul_le_mul_right (2 ^ N) hgt
    rw [Nat.add_mul, Nat.one_mul] at this
    omega
  · by_cases heq : H = rHigh N
    · subst heq; right; exact ⟨rfl, by omega⟩
    · left; omega

theorem canonical_iff_lex (N H L : Nat) (hL : L < 2 ^ N) :
    H * 2 ^ N + L ≤ R - 1 ↔ H < rHigh N ∨ (H = rHigh N ∧ L ≤ rLow N) := by
  refine ⟨canonical_lex N H L, fun h => ?_⟩
  obtain ⟨hsum, -⟩ := rHigh_rLow N
  rcases h with hlt | ⟨rfl, hle⟩
  · have := Nat.mul_le_mul_right (2 ^ N) (Nat.succ_le_of_lt hlt)
    rw [Nat.succ_mul] at this
    omega
  · omega

theorem toF_sub_of_le {a b : Nat} (h : b ≤ a) : toF a - toF b = toF (a - b) := by
  unfold toF; rw [Nat.cast_sub h]

theorem toF_sub_of_lt {a b : Nat} (hb : b ≤ R) (h : a < b) : toF a - toF b = toF (R - (b - a)) := by
  have e : R - (b - a) + b = R + a := by omega
  have : toF (R - (b - a)) + toF b = toF R + toF a := by rw [← toF_add, ← toF_add, e]
  rw [toF_R] at this
  linear_combination -this

theorem val_toF_sub_of_le {a b : Nat} (ha : a < R) (h : b ≤ a) : (toF a - toF b).val = a - b := by
  rw [toF_sub_of_le h, val_toF_of_lt (by omega)]

theorem val_toF_sub_of_lt {a b : Nat} (hb : b < R) (h : a < b) :
    (toF a - toF b).val = R - (b - a) := by
  rw [toF_sub_of_lt hb.le h, val_toF_of_lt (by omega)]

/-- The linear relation `H·2^N + L = x` in `F` with range-checked parts has exactly two integer
    solutions: `x` and the alias `x + R` (because `H·2^N + L < 2^255 < 2R`). -/
theorem split_alias (N H L x : Nat) (hN : N ≤ 255) (hH : H < 2 ^ (255 - N)) (hL : L < 2 ^ N)
    (hx : x < R) (hmod : toF H * (2 : F) ^ N + toF L = toF x) :
    H * 2 ^ N + L = x ∨ H * 2 ^ N + L = x + R := by
  have hT : H * 2 ^ N + L < 2 ^ 255 := by
    have e : 2 ^ 255 = 2 ^ (255 - N) * 2 ^ N := by rw [← pow_add]; congr 1; omega
    have := Nat.mul_le_mul_right (2 ^ N) (Nat.succ_le_of_lt hH)
    rw [Nat.succ_mul] at this
    rw [e]; omega
  have h1 : toF (H * 2 ^ N + L) = toF x := by rw [toF_add, toF_mul, toF_natCast_pow]; exact hmod
  generalize H * 2 ^ N + L = T at hT h1 ⊢
  have h2 : T % R = x :=
    (toF_inj_of_lt (Nat.mod_lt T R_pos) hx).mp (by rw [toF_mod]; exact h1)
  have h3 := Nat.div_add_mod T R
  have h4 : T / R < 2 := by
    rw [Nat.div_lt_iff_lt_mul R_pos]; have := two_pow_254_lt_R; omega
  rw [h2] at h3
  generalize T / R = q at h3 h4
  have : q = 0 ∨ q = 1 := by omega
  rcases this with h | h <;> subst h <;> omega

/-- Among the solutions of the linear relation, the one that is `≤ R - 1`
    is the integer `div/mod` split of `x`. (Field-level relation.) -/
theorem split_unique (N H L x : Nat) (hL : L < 2 ^ N) (hx : x < R)
    (hmod : toF H * (2 : F) ^ N + toF L = toF x) (hcanon : H * 2 ^ N + L ≤ R - 1) :
    H = x / 2 ^ N ∧ L = x % 2 ^ N := by
  have h1 : toF (H * 2 ^ N + L) = toF x := by rw [toF_add, toF_mul, toF_natCast_pow]; exact hmod
  have hlt : H * 2 ^ N + L < R := by have := R_pos; omega
  have h2 : H * 2 ^ N + L = x := (toF_inj_of_lt hlt hx).mp h1
  subst h2
  have hp : 0 < 2 ^ N := by positivity
  constructor
  · rw [Nat.add_comm, Nat.add_mul_div_right _ _ hp, Nat.div_eq_of_lt hL, Nat.zero_add]
  · rw [Nat.add_comm, Nat.add_mul_mod_self_right, Nat.mod_eq_of_lt hL]

/-- congruence form: `H·2^N + L ≡ x (mod R)`. -/
theorem split_unique_modEq (N H L x : Nat) (hL : L < 2 ^ N) (hx : x < R)
    (hmod : H * 2 ^ N + L ≡ x [MOD R]) (hcanon : H * 2 ^ N + L ≤ R - 1) :
    H = x / 2 ^ N ∧ L = x % 2 ^ N := by
  refine split_unique N H L x hL hx ?_ hcanon
  have := (ZMod.natCast_eq_natCast_iff _ _ R).mpr hmod
  rw [← toF_natCast_pow, ← toF_mul, ← toF_add]; exact this

/-- the integer split of a canonical `x` satisfies everything. -/
theorem split_complete (N x : Nat) (hN : N ≤ 255) (hx : x < R) :
    x / 2 ^ N < 2 ^ (255 - N) ∧ x % 2 ^ N < 2 ^ N ∧
    toF (x / 2 ^ N) * (2 : F) ^ N + toF (x % 2 ^ N) = toF x ∧
    x / 2 ^ N * 2 ^ N + x % 2 ^ N ≤ R - 1 := by
  have hp : 0 < 2 ^ N := by positivity
  have e : x / 2 ^ N * 2 ^ N + x % 2 ^ N = x := by rw [Nat.mul_comm]; exact Nat.div_add_mod _ _
  refine ⟨?_, Nat.mod_lt _ hp, ?_, by omega⟩
  · rw [Nat.div_lt_iff_lt_mul hp, ← pow_add]
    have : 255 - N + N = 255 := by omega
    rw [this]; have := R_lt_two_pow_255; omega
  · rw [← toF_natCast_pow, ← toF_mul, ← toF_add, e]

/-- soundness: `diff·isTop = 0` and `isTop = 1 − diff·inv` force `isTop = [diff = 0]`. -/
theorem isZero_gadget_sound (diff inv isTop : F) (h1 : diff * isTop = 0)
    (h2 : isTop = 1 - diff * inv) :
    (isTop = 1 ∧ diff = 0) ∨ (isTop = 0 ∧ diff ≠ 0) := by
  by_cases hd : diff = 0
  · left; refine ⟨?_, hd⟩; rw [h2, hd]; ring
  · right; refine ⟨?_, hd⟩
    rcases mul_eq_zero.mp h1 with h | h
    · exact absurd h hd
    · exact h

/-- completeness: `inv := diff⁻¹` (which is `0` for `diff = 0`, as the model's
    `(finv? dv).getD 0`) satisfies the gadget. -/
theorem isZero_gadget_complete (diff : F) :
    diff * (1 - diff * diff⁻¹) = 0 ∧ (1 - diff * diff⁻¹ = if diff = 0 then 1 else 0) := by
  by_cases hd : diff = 0
  · subst hd; simp
  · rw [mul_inv_cancel₀ hd]; simp [hd]

/-- constant inequality behind the `diff` range check: for `H > rHigh` the field difference
    `rHigh − H` wraps to at least `2^(255−N)`. Tight at `N = 1` (`2^255` against
    `R + (R − 1)/2 + 1`), which is why the guard needs `1 ≤ N`. -/
theorem guard_high_const (N : Nat) (hN1 : 1 ≤ N) : 2 ^ (256 - N) ≤ R + rHigh N + 1 := by
  by_cases h1 : N = 1
  · subst h1; rw [rHigh_eq]; decide +kernel
  · have : 2 ^ (256 - N) ≤ 2 ^ 254 := Nat.pow_le_pow_right (by norm_num) (by omega)
    have := two_pow_254_lt_R; omega

/-- constant inequality behind the `guard` range check: for `L > rLow` the field difference
    `rLow − L` wraps to at least `2^N`. Tight at `N = 254`, which is why the guard needs
    `N ≤ 254`. -/
theorem guard_low_const (N : Nat) (hN : N ≤ 254) : 2 ^ (N + 1) ≤ R + rLow N + 1 := by
  by_cases h1 : N = 254
  · subst h1; rw [rLow_eq]; decide +kernel
  · have : 2 ^ (N + 1) ≤ 2 ^ 254 := Nat.pow_le_pow_right (by norm_num) (by omega)
    have := two_pow_254_lt_R; omega

theorem guard_high_wrap (N H : Nat) (hN1 : 1 ≤ N) (hN : N ≤ 255) (hH : H < 2 ^ (255 - N))
    (hgt : rHigh N < H) : 2 ^ (255 - N) ≤ R - (H - rHigh N) := by
  have h := guard_high_const N hN1
  have e : 2 ^ (256 - N) = 2 * 2 ^ (255 - N) := by
    rw [← pow_succ']; congr 1; omega
  have := rHigh_lt_R N
  omega

theorem guard_low_wrap (N L : Nat) (hN : N ≤ 254) (hL : L < 2 ^ N) (hgt : rLow N < L) :
    2 ^ N ≤ R - (L - rLow N) := by
  have h := guard_low_const N hN
  rw [pow_succ] at h
  have := rLow_lt_R N
  omega

/-- For range-checked `H < 2^(255−N)`, `L < 2^N` (`1 ≤ N ≤ 254`):
    `diff = rHigh − H` is a natural `< 2^(255−N)`, `isTop ∈ {0,1}` with `isTop = 1 ↔ diff = 0`, and
    `guard = isTop·(rLow − L)` is a natural `< 2^N`  iff  `H·2^N + L ≤ R − 1`. -/
theorem canonical_guard_iff (N H L : Nat) (hN1 : 1 ≤ N) (hN : N ≤ 254)
    (hH : H < 2 ^ (255 - N)) (hL : L < 2 ^ N) :
    (∃ isTop : F,
        (toF (rHigh N) - toF H).val < 2 ^ (255 - N) ∧
        (isTop = 0 ∨ isTop = 1) ∧ (isTop = 1 ↔ toF (rHigh N) - toF H = 0) ∧
        (isTop * (toF (rLow N) - toF L)).val < 2 ^ N)
      ↔ H * 2 ^ N + L ≤ R - 1 := by
  have hHR : H < R := by
    have : 2 ^ (255 - N) ≤ 2 ^ 254 := Nat.pow_le_pow_right (by norm_num) (by omega)
    have := two_pow_254_lt_R; omega
  have hLR : L < R := by
    have : 2 ^ N ≤ 2 ^ 254 := Nat.pow_le_pow_right (by norm_num) hN
    have := two_pow_254_lt_R; omega
  rw [canonical_iff_lex N H L hL]
  constructor
  · rintro ⟨isTop, hdiff, -, htop, hguard⟩
    have hle : H ≤ rHigh N := by
      by_contra hgt
      have hgt : rHigh N < H := by omega
      rw [val_toF_sub_of_lt hHR hgt] at hdiff
      have := guard_high_wrap N H hN1 (by omega) hH hgt
      omega
    by_cases heq : H = rHigh N
    · -- top block: isTop = 1, so L ≤ rLow
      refine Or.inr ⟨heq, ?_⟩
      rw [htop.mpr (by rw [heq]; ring), one_mul] at hguard
      by_contra hgt
      have hgt : rLow N < L := by omega
      rw [val_toF_sub_of_lt hLR hgt] at hguard
      have := guard_low_wrap N L hN hL hgt
      omega
    · left; omega
  · intro hlex
    have hle : H ≤ rHigh N := by omega
    have hdlt : (toF (rHigh N) - toF H).val < 2 ^ (255 - N) := by
      rw [val_toF_sub_of_le (rHigh_lt_R N) hle]; have := rHigh_lt N (by omega); omega
    rcases hlex with hlt | ⟨heq, hle2⟩
    · refine ⟨0, hdlt, Or.inl rfl, ⟨fun h => absurd h zero_ne_one, fun h => ?_⟩, ?_⟩
      · exfalso
        have : (toF (rHigh N) - toF H).val = 0 := by rw [h]; exact ZMod.val_zero
        rw [val_toF_sub_of_le (rHigh_lt_R N) hle] at this
        omega
      · rw [zero_mul, ZMod.val_zero]; positivity
    · refine ⟨1, hdlt, Or.inr rfl, ⟨fun _ => by rw [heq]; ring, fun _ => rfl⟩, ?_⟩
      rw [one_mul, val_toF_sub_of_le (rLow_lt_R N) hle2]
      have := (rHigh_rLow N).2
      omega

/-- the gadget exactly as wired in `assert_canonical_truncation` (free witness `inv`). -/
theorem canonical_guard_gadget_iff (N H L : Nat) (hN1 : 1 ≤ N) (hN : N ≤ 254)
    (hH : H < 2 ^ (255 - N)) (hL : L < 2 ^ N) :
    (∃ inv isTop : F,
        (toF (rHigh N) - toF H).val < 2 ^ (255 - N) ∧
        isTop = 1 - (toF (rHigh N) - toF H) * inv ∧ (toF (rHigh N) - toF H) * isTop = 0 ∧
        (isTop * (toF (rLow N) - toF L)).val < 2 ^ N)
      ↔ H * 2 ^ N + L ≤ R - 1 := by
  rw [← canonical_guard_iff N H L hN1 hN hH hL]
  constructor
  · rintro ⟨inv, isTop, h1, h2, h3, h4⟩
    rcases isZero_gadget_sound _ inv isTop h3 h2 with ⟨ha, hb⟩ | ⟨ha, hb⟩
    · exact ⟨isTop, h1, Or.inr ha, ⟨fun _ => hb, fun _ => ha⟩, h4⟩
    · exact ⟨isTop, h1, Or.inl ha,
        ⟨fun h => by rw [ha] at h; exact absurd h zero_ne_one, fun h => absurd h hb⟩, h4⟩
  · rintro ⟨isTop, h1, h2, h3, h4⟩
    obtain ⟨hc1, hc2⟩ := isZero_gadget_complete (toF (rHigh N) - toF H)
    have e : isTop = 1 - (toF (rHigh N) - toF H) * (toF (rHigh N) - toF H)⁻¹ := by
      rw [hc2]
      by_cases hd : toF (rHigh N) - toF H = 0
      · rw [if_pos hd]; exact h3.mpr hd
      · rw [if_neg hd]
        rcases h2 with h | h
        · exact h
        · exact absurd (h3.mp h) hd
    exact ⟨(toF (rHigh N) - toF H)⁻¹, isTop, h1, e, by rw [e]; exact hc1, h4⟩

/-- The hypothesis `1 ≤ N` of `canonical_guard_iff` is necessary: for `N = 0` (`rHigh 0 = R − 1`, `rLow 0 = 0`)
    the pair `H = R`, `L = 0` passes every check of the guard (with `isTop = 0`) although
    `H·2^0 + L = R > R − 1`. (Harmless for `component_truncate::<0>`, whose output `low` is `0`
    anyway, but the guard does not determine `high` there.) -/
theorem guard_fails_at_zero :
    R < 2 ^ (255 - 0) ∧ 0 < 2 ^ 0 ∧
    (∃ isTop : F,
        (toF (rHigh 0) - toF R).val < 2 ^ (255 - 0) ∧
        (isTop = 0 ∨ isTop = 1) ∧ (isTop = 1 ↔ toF (rHigh 0) - toF R = 0) ∧
        (isTop * (toF (rLow 0) - toF 0)).val < 2 ^ 0) ∧
    ¬ (R * 2 ^ 0 + 0 ≤ R - 1) := by
  have hR := R_gt_one
  have e : toF (rHigh 0) - toF R = toF (R - 1) := by
    rw [rHigh_eq, toF_R, pow_zero, Nat.div_one]; ring
  have hv : (toF (R - 1)).val = R - 1 := val_toF_of_lt (by omega)
  refine ⟨R_lt_two_pow_255, by norm_num, ⟨0, ?_, Or.inl rfl, ⟨fun h => absurd h zero_ne_one, ?_⟩, ?_⟩,
    by omega⟩
  · rw [e, hv]; have := R_lt_two_pow_255; omega
  · intro h; exfalso
    rw [e] at h
    have : (toF (R - 1)).val = 0 := by rw [h]; exact ZMod.val_zero
    omega
  · rw [zero_mul, ZMod.val_zero]; norm_num

/-- soundness of the whole truncation binding at the math level: range-checked `H`, `L`, the
    linear relation and the guard force the integer `div/mod` split. -/
theorem truncation_sound (N H L x : Nat) (hN1 : 1 ≤ N) (hN : N ≤ 254)
    (hH : H < 2 ^ (255 - N)) (hL : L < 2 ^ N) (hx : x < R)
    (hmod : toF H * (2 : F) ^ N + toF L = toF x)
    (hguard : ∃ inv isTop : F,
        (toF (rHigh N) - toF H).val < 2 ^ (255 - N) ∧
        isTop = 1 - (toF (rHigh N) - toF H) * inv ∧ (toF (rHigh N) - toF H) * isTop = 0 ∧
        (isTop * (toF (rLow N) - toF L)).val < 2 ^ N) :
    H = x / 2 ^ N ∧ L = x % 2 ^ N :=
  split_unique N H L x hL hx hmod ((canonical_guard_gadget_iff N H L hN1 hN hH hL).mp hguard)

/-- completeness: the integer split of a canonical `x` passes all checks. -/
theorem truncation_complete (N x : Nat) (hN1 : 1 ≤ N) (hN : N ≤ 254) (hx : x < R) :
    x / 2 ^ N < 2 ^ (255 - N) ∧ x % 2 ^ N < 2 ^ N ∧
    toF (x / 2 ^ N) * (2 : F) ^ N + toF (x % 2 ^ N) = toF x ∧
    ∃ inv isTop : F,
        (toF (rHigh N) - toF (x / 2 ^ N)).val < 2 ^ (255 - N) ∧
        isTop = 1 - (toF (rHigh N) - toF (x / 2 ^ N)) * inv ∧
        (toF (rHigh N) - toF (x / 2 ^ N)) * isTop = 0 ∧
        (isTop * (toF (rLow N) - toF (x % 2 ^ N))).val < 2 ^ N := by
  obtain ⟨h1, h2, h3, h4⟩ := split_complete N x (by omega) hx
  exact ⟨h1, h2, h3, (canonical_guard_gadget_iff N _ _ hN1 hN h1 h2).mpr h4⟩

open Finset in
theorem binsum_lt (β : Nat → Nat) (n : Nat) (hβ : ∀ j < n, β j ≤ 1) :
    ∑ j ∈ range n, β j * 2 ^ j < 2 ^ n := by
  induction n with
  | zero => simp
  | succ n ih =>
    rw [sum_range_succ, pow_succ]
    have := ih (fun j hj => hβ j (by omega))
    have h1 : β n * 2 ^ n ≤ 1 * 2 ^ n := Nat.mul_le_mul_right _ (hβ n (by omega))
    omega

open Finset in
theorem binsum_bit (n : Nat) : ∀ (β : Nat → Nat), (∀ j < n, β j ≤ 1) → ∀ i < n,
    (∑ j ∈ range n, β j * 2 ^ j) / 2 ^ i % 2 = β i := by
  induction n with
  | zero => intro β _ i hi; omega
  | succ n ih =>
    intro β hβ i hi
    rw [sum_range_succ']
    have e : ∑ j ∈ range n, β (j + 1) * 2 ^ (j + 1) = 2 * ∑ j ∈ range n, β (j + 1) * 2 ^ j := by
      rw [mul_sum]; apply sum_congr rfl; intro j _; rw [pow_succ]; ring
    rw [e, pow_zero, mul_one]
    have h0 := hβ 0 (by omega)
    cases i with
    | zero => rw [pow_zero, Nat.div_one]; omega
    | succ i =>
      have h := ih (fun j => β (j + 1)) (fun j hj => hβ (j + 1) (by omega)) i (by omega)
      rw [pow_succ', ← Nat.div_div_eq_div_mul]
      have : (2 * ∑ j ∈ range n, β (j + 1) * 2 ^ j + β 0) / 2 = ∑ j ∈ range n, β (j + 1) * 2 ^ j := by
        omega
      rw [this]; exact h

open Finset in
theorem sum_bits_eq_mod (v n : Nat) : ∑ i ∈ range n, bit v i * 2 ^ i = v % 2 ^ n := by
  induction n with
  | zero => simp [Nat.mod_one]
  | succ n ih => rw [sum_range_succ, ih, Nat.mod_pow_succ]; unfold bit; ring

theorem bit_le_one (v i : Nat) : bit v i ≤ 1 := by unfold bit; omega

/-- the constraints of `component_decomposition::<N>` at the field level: Boolean bits,
    accumulator `acc₀ = 0`, `acc_{i+1} = 2^i·b_i + acc_i`, and `acc_N = x`. -/
def DecompChain (N : Nat) (b acc : Nat → F) (x : F) : Prop :=
  (∀ i < N, b i * b i = b i) ∧ acc 0 = 0 ∧
  (∀ i < N, acc (i + 1) = (2 : F) ^ i * b i + acc i) ∧ acc N = x

theorem bool_val_le_one {b : F} (h : b * b = b) : b.val ≤ 1 := by
  rcases bool_cases h with h | h
  · rw [h, ZMod.val_zero]; omega
  · rw [h, ← toF_one, val_toF_of_lt R_gt_one]

open Finset in
theorem decomp_acc (N : Nat) (b acc : Nat → F) (x : F) (h : DecompChain N b acc x) :
    ∀ k ≤ N, acc k = toF (∑ j ∈ range k, (b j).val * 2 ^ j) := by
  obtain ⟨_, h0, hstep, _⟩ := h
  intro k hk
  induction k with
  | zero => simpa using h0
  | succ k ih =>
    rw [hstep k (by omega), ih (by omega), sum_range_succ, toF_add, toF_mul, toF_natCast_pow,
      toF_val]
    ring

theorem two_pow_le_R {N : Nat} (hN : N ≤ 254) : 2 ^ N ≤ R :=
  le_trans (Nat.pow_le_pow_right (by norm_num) hN) two_pow_254_lt_R.le

open Finset in
/-- when `2^N ≤ R` (so for `N ≤ 254`) the decomposition constraints force `x < 2^N` and the
    bits to be the canonical bits of `x`. -/
theorem decomp_sound (N : Nat) (hR : 2 ^ N ≤ R) (b acc : Nat → F) (x : F)
    (h : DecompChain N b acc x) :
    x.val = ∑ i ∈ range N, (b i).val * 2 ^ i ∧ x.val < 2 ^ N ∧
    ∀ i < N, (b i).val = bit x.val i := by
  have hβ : ∀ j < N, (b j).val ≤ 1 := fun j hj => bool_val_le_one (h.1 j hj)
  have hlt := binsum_lt (fun j => (b j).val) N hβ
  have hacc := decomp_acc N b acc x h N le_rfl
  rw [h.2.2.2] at hacc
  have hval : x.val = ∑ i ∈ range N, (b i).val * 2 ^ i := by
    rw [hacc, val_toF_of_lt (by omega)]
  refine ⟨hval, by rw [hval]; exact hlt, ?_⟩
  intro i hi
  rw [hval]; unfold bit
  exact (binsum_bit N (fun j => (b j).val) hβ i hi).symm

theorem decomp_unique (N : Nat) (hN : N ≤ 254) (b acc b' acc' : Nat → F) (x : F)
    (h : DecompChain N b acc x) (h' : DecompChain N b' acc' x) : ∀ i < N, b i = b' i := by
  intro i hi
  apply ZMod.val_injective
  have hR := two_pow_le_R hN
  rw [(decomp_sound N hR b acc x h).2.2 i hi, (decomp_sound N hR b' acc' x h').2.2 i hi]

/-- completeness, for an arbitrary natural `v` (not necessarily `< R`): its low `N` bits
    satisfy the constraints for `x = v % 2^N` (in `F`). -/
theorem decomp_chain_of_nat (N v : Nat) :
    DecompChain N (fun i => toF (bit v i)) (fun k => toF (v % 2 ^ k)) (toF (v % 2 ^ N)) := by
  refine ⟨?_, by simp [Nat.mod_one], ?_, rfl⟩
  · intro i _
    have : bit v i = 0 ∨ bit v i = 1 := by have := bit_le_one v i; omega
    rcases this with h | h <;> simp [h]
  · intro i _
    simp only
    rw [Nat.mod_pow_succ, toF_add, toF_mul, toF_natCast_pow]; unfold bit; ring

/-- completeness: a field element with `x.val < 2^N` has a satisfying assignment, namely
    its canonical bits (what the model's `componentDecomposition` allocates). -/
theorem decomp_complete (N : Nat) (x : F) (hx : x.val < 2 ^ N) :
    DecompChain N (fun i => toF (bit x.val i)) (fun k => toF (x.val % 2 ^ k)) x := by
  have := decomp_chain_of_nat N x.val
  rw [Nat.mod_eq_of_lt hx, toF_val] at this; exact this

theorem bit_R_zero : bit R 0 = 1 := by decide +kernel

/-- the same alias for every width `N ≥ 255` (the crate allows `N ≤ 256`) -/
theorem decomp_alias_ge_255 (N : Nat) (hN : 255 ≤ N) :
    DecompChain N (fun _ => 0) (fun _ => 0) 0 ∧
    DecompChain N (fun i => toF (bit R i)) (fun k => toF (R % 2 ^ k)) 0 ∧
    0 < N ∧ (fun i => toF (bit R i)) 0 ≠ (fun _ => (0 : F)) 0 := by
  refine ⟨⟨fun _ _ => by ring, rfl, fun _ _ => by ring, rfl⟩, ?_, by omega, ?_⟩
  · have := decomp_chain_of_nat N R
    have hlt : R < 2 ^ N :=
      lt_of_lt_of_le R_lt_two_pow_255 (Nat.pow_le_pow_right (by norm_num) hN)
    rw [Nat.mod_eq_of_lt hlt, toF_R] at this; exact this
  · simp only [bit_R_zero, toF_one]; exact one_ne_zero

/-- uniqueness fails for `N = 255` (no `< r` guard in
    `component_decomposition`): `x = 0` has two different satisfying bit vectors — all zeros, and
    the 255 bits of `R` itself, which recompose to `R ≡ 0`. -/
theorem decomp_alias_255 :
    DecompChain 255 (fun _ => 0) (fun _ => 0) 0 ∧
    DecompChain 255 (fun i => toF (bit R i)) (fun k => toF (R % 2 ^ k)) 0 ∧
    (fun i => toF (bit R i)) 0 ≠ (fun _ => (0 : F)) 0 :=
  have h := decomp_alias_ge_255 255 (Nat.le_refl _)
  ⟨h.1, h.2.1, h.2.2.2⟩

open Finset in
/-- general form of the alias: every `x` with `x.val + R < 2^255` has two different
    255-bit decompositions (the bits of `x.val` and the bits of `x.val + R`). -/
theorem decomp_alias_255_general (x : F) (hx : x.val + R < 2 ^ 255) :
    DecompChain 255 (fun i => toF (bit x.val i)) (fun k => toF (x.val % 2 ^ k)) x ∧
    DecompChain 255 (fun i => toF (bit (x.val + R) i)) (fun k => toF ((x.val + R) % 2 ^ k)) x ∧
    ∃ i < 255, toF (bit x.val i) ≠ toF (bit (x.val + R) i) := by
  refine ⟨decomp_complete 255 x (by omega), ?_, ?_⟩
  · have := decomp_chain_of_nat 255 (x.val + R)
    rw [Nat.mod_eq_of_lt hx, toF_add, toF_R, toF_val, add_zero] at this; exact this
  · by_contra hne
    have hne : ∀ i < 255, toF (bit x.val i) = toF (bit (x.val + R) i) := by
      intro i hi; by_contra h; exact hne ⟨i, hi, h⟩
    have hb : ∀ i ∈ range 255, bit x.val i * 2 ^ i = bit (x.val + R) i * 2 ^ i := by
      intro i hi
      have hlt : ∀ v, bit v i < R := fun v => by
        have := bit_le_one v i; have := R_gt_one; omega
      rw [(toF_inj_of_lt (hlt _) (hlt _)).mp (hne i (mem_range.mp hi))]
    have h1 := sum_bits_eq_mod x.val 255
    have h2 := sum_bits_eq_mod (x.val + R) 255
    rw [sum_congr rfl hb, h2, Nat.mod_eq_of_lt hx, Nat.mod_eq_of_lt (by omega)] at h1
    have := R_pos; omega

end Plonk
