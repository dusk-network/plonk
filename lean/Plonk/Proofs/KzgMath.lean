/-
  C20, level (A): the algebra of KZG10 commitments and openings in an abstract prime-order
  group.  `G` is an additive commutative group that is a module over the scalar field `F`
  (for the application `F = ZMod R`, `G` = the prime-order subgroup of BLS12-381 G1), `g : G`
  is a non-degenerate generator (`a • g = 0 → a = 0`), the structured reference string is
  `srs x g i = xⁱ • g`.  Nothing here talks about the executable curve arithmetic.
-/
import Mathlib.Algebra.Polynomial.Basic
import Mathlib.Algebra.Polynomial.Coeff
import Mathlib.Algebra.Polynomial.Eval.Defs
import Mathlib.Algebra.Polynomial.Eval.Coeff
import Mathlib.Algebra.Polynomial.Eval.SMul
import Mathlib.Algebra.Polynomial.Div
import Mathlib.Algebra.Polynomial.Roots
import Mathlib.Algebra.Module.Basic
import Mathlib.GroupTheory.OrderOfElement
import Mathlib.Data.ZMod.Basic
import Mathlib.Algebra.Field.ZMod
import Mathlib.Tactic.Ring
import Mathlib.Tactic.Abel
import Mathlib.Tactic.Module
import Mathlib.Tactic.LinearCombination
import Plonk.Proofs.AggL

namespace Plonk.KzgMath
open Polynomial

section Basic
variable {F : Type*} [Field F] {G : Type*} [AddCommGroup G] [Module F G]

/-- the structured reference string: consecutive powers of one secret `x` applied to `g` -/
def srs (x : F) (g : G) (i : ℕ) : G := x ^ i • g

/-- multi-scalar multiplication of a coefficient list against a sequence of points:
    `Σᵢ cs[i] • P i` -/
def msmF : List F → (ℕ → G) → G
  | [], _ => 0
  | c :: cs, P => c • P 0 + msmF cs (fun i => P (i + 1))

/-- MSM over an explicit list of (scalar, point) pairs (the shape of `G1.msum`) -/
def msmZip (l : List (F × G)) : G := (l.map fun cp => cp.1 • cp.2).sum

/-- the polynomial with a given little-endian coefficient list -/
noncomputable def ofList : List F → F[X]
  | [] => 0
  | c :: cs => C c + X * ofList cs

/-- the commitment of a polynomial: the linear image `Σᵢ pᵢ • srs i` of its coefficient vector -/
noncomputable def commit (x : F) (g : G) (p : F[X]) : G := p.sum fun i c => c • srs x g i

/-- non-degeneracy of the generator (prime order, `g ≠ 0`) -/
def Nondeg (F : Type*) [Field F] {G : Type*} [AddCommGroup G] [Module F G] (g : G) : Prop :=
  ∀ a : F, a • g = 0 → a = 0

/-- `Σ_{j<k} vʲ • f j` -/
def agg {M : Type*} [AddCommMonoid M] [Module F M] (v : F) (k : ℕ) (f : ℕ → M) : M :=
  ∑ j ∈ Finset.range k, v ^ j • f j

theorem smul_g_inj {g : G} (hg : Nondeg F g) {a b : F} : a • g = b • g ↔ a = b := by
  constructor
  · intro h
    have : (a - b) • g = 0 := by rw [sub_smul, h, sub_self]
    exact sub_eq_zero.mp (hg _ this)
  · rintro rfl; rfl

theorem smul_g_eq_zero_iff {g : G} (hg : Nondeg F g) {a : F} : a • g = 0 ↔ a = 0 :=
  ⟨hg a, fun h => by rw [h, zero_smul]⟩

/-! ### commitments -/

/-- a commitment is the evaluation at the secret, in the exponent -/
theorem commit_eval (x : F) (g : G) (p : F[X]) : commit x g p = p.eval x • g := by
  unfold commit srs
  rw [eval_eq_sum, Polynomial.sum_def, Polynomial.sum_def, Finset.sum_smul]
  exact Finset.sum_congr rfl (fun i _ => by rw [mul_smul])

theorem commit_add (x : F) (g : G) (p q : F[X]) :
    commit x g (p + q) = commit x g p + commit x g q := by
  simp only [commit_eval, eval_add, add_smul]

theorem commit_zero (x : F) (g : G) : commit x g (0 : F[X]) = 0 := by
  simp only [commit_eval, eval_zero, zero_smul]

theorem commit_smul (x : F) (g : G) (a : F) (p : F[X]) :
    commit x g (a • p) = a • commit x g p := by
  simp only [commit_eval, eval_smul, smul_eq_mul, mul_smul]

theorem commit_sub (x : F) (g : G) (p q : F[X]) :
    commit x g (p - q) = commit x g p - commit x g q := by
  simp only [commit_eval, eval_sub, sub_smul]

theorem commit_neg (x : F) (g : G) (p : F[X]) : commit x g (-p) = - commit x g p := by
  simp only [commit_eval, eval_neg, neg_smul]

/-- two commitments agree exactly when the polynomials agree at the secret -/
theorem commit_eq_iff {g : G} (hg : Nondeg F g) (x : F) (p q : F[X]) :
    commit x g p = commit x g q ↔ p.eval x = q.eval x := by
  rw [commit_eval, commit_eval, smul_g_inj hg]

theorem msmF_smul (a : F) (cs : List F) (P : ℕ → G) :
    msmF cs (fun i => a • P i) = a • msmF cs P := by
  induction cs generalizing P with
  | nil => simp [msmF]
  | cons c cs ih =>
    simp only [msmF, ih (fun i => P (i + 1)), smul_add]
    rw [smul_comm]

/-- list form of `commit_eval`: the MSM of a coefficient list against the SRS -/
theorem msmF_srs (x : F) (g : G) (cs : List F) :
    msmF cs (srs x g) = (ofList cs).eval x • g := by
  induction cs with
  | nil => simp [msmF, ofList]
  | cons c cs ih =>
    have h : (fun i => srs x g (i + 1)) = fun i => x • srs x g i := by
      funext i; simp only [srs, pow_succ', mul_smul]
    simp only [msmF, ofList]
    rw [h, msmF_smul, ih]
    simp only [eval_add, eval_C, eval_mul, eval_X, srs, pow_zero, one_smul, add_smul, mul_smul]

theorem msmF_eq_commit (x : F) (g : G) (cs : List F) :
    msmF cs (srs x g) = commit x g (ofList cs) := by
  rw [msmF_srs, commit_eval]

/-- the zipped MSM (shape of the executable `G1.msum (p.zip ck)`) against a key holding the
    points `srs 0 … srs n`, for a coefficient list that fits into the key -/
theorem msmZip_zip_srs (x : F) (g : G) (cs : List F) (n : ℕ) (h : cs.length ≤ n) :
    msmZip (cs.zip ((List.range n).map (srs x g))) = (ofList cs).eval x • g := by
  rw [← msmF_srs]
  generalize srs x g = P
  induction cs generalizing n P with
  | nil => simp [msmZip, msmF]
  | cons c cs ih =>
    obtain ⟨m, rfl⟩ : ∃ m, n = m + 1 := ⟨n - 1, by simp at h; omega⟩
    have hm : cs.length ≤ m := by simpa using h
    have := ih m hm (fun i => P (i + 1))
    rw [List.range_succ_eq_map]
    simp only [List.map_cons, List.map_map, List.zip_cons_cons, msmZip, List.sum_cons, msmF]
    exact congrArg (c • P 0 + ·) this

theorem ofList_add_coeff (cs : List F) (i : ℕ) : (ofList cs).coeff i = cs.getD i 0 := by
  induction cs generalizing i with
  | nil => simp [ofList]
  | cons c cs ih =>
    cases i with
    | zero => simp [ofList]
    | succ i => simp [ofList, ih]

/-! ### linear combinations with powers of a challenge -/

section Agg
variable {M : Type*} [AddCommGroup M] [Module F M]

theorem aggL_eq_agg (v : F) (l : List M) : aggL v l = agg v l.length (fun j => l.getD j 0) := by
  induction l with
  | nil => simp [aggL, agg]
  | cons a l ih =>
    simp only [aggL, agg, List.length_cons, Finset.sum_range_succ', ih, pow_zero, one_smul,
      List.getD_cons_zero, List.getD_cons_succ, Finset.smul_sum, pow_succ', mul_smul]
    rw [add_comm]

theorem agg_sub (v : F) (k : ℕ) (f h : ℕ → M) :
    agg v k (fun j => f j - h j) = agg v k f - agg v k h := by
  simp only [agg, smul_sub, Finset.sum_sub_distrib]

theorem agg_add (v : F) (k : ℕ) (f h : ℕ → M) :
    agg v k (fun j => f j + h j) = agg v k f + agg v k h := by
  simp only [agg, smul_add, Finset.sum_add_distrib]

theorem agg_congr (v : F) (k : ℕ) {f h : ℕ → M} (H : ∀ j < k, f j = h j) :
    agg v k f = agg v k h :=
  Finset.sum_congr rfl (fun j hj => by rw [H j (Finset.mem_range.mp hj)])

theorem agg_zero (v : F) (f : ℕ → M) : agg v 0 f = 0 := Finset.sum_range_zero _

theorem agg_succ (v : F) (k : ℕ) (f : ℕ → M) : agg v (k + 1) f = agg v k f + v ^ k • f k :=
  Finset.sum_range_succ _ k

theorem agg_zero_fun (v : F) (k : ℕ) : agg v k (fun _ => (0 : M)) = 0 := by
  simp [agg]

theorem agg_eq_zero (v : F) (k : ℕ) {f : ℕ → M} (H : ∀ j < k, f j = 0) : agg v k f = 0 := by
  rw [agg_congr v k H, agg_zero_fun]

theorem agg_smul_g (v : F) (k : ℕ) (a : ℕ → F) (g : G) :
    agg v k (fun j => a j • g) = agg v k a • g := by
  simp only [agg, Finset.sum_smul, smul_eq_mul, mul_smul]

theorem eval_agg (v : F) (k : ℕ) (p : ℕ → F[X]) (y : F) :
    (agg v k p).eval y = agg v k (fun j => (p j).eval y) := by
  simp only [agg, eval_finsetSum, eval_smul]

/-- the flattened commitments, in the exponent -/
theorem agg_commit_eq (x : F) (g : G) (v : F) (k : ℕ) (p : ℕ → F[X]) :
    agg v k (fun j => commit x g (p j)) = (agg v k p).eval x • g := by
  simp only [commit_eval, agg_smul_g, eval_agg]

/-- flattening commitments is committing to the flattened polynomial -/
theorem commit_agg (x : F) (g : G) (v : F) (k : ℕ) (p : ℕ → F[X]) :
    agg v k (fun j => commit x g (p j)) = commit x g (agg v k p) := by
  rw [agg_commit_eq, commit_eval]

/-- the polynomial `Σ δⱼ Xʲ` whose roots are the bad challenges -/
noncomputable def badPoly (k : ℕ) (δ : ℕ → F) : F[X] := ∑ j ∈ Finset.range k, C (δ j) * X ^ j

theorem eval_badPoly (k : ℕ) (δ : ℕ → F) (v : F) : (badPoly k δ).eval v = agg v k δ := by
  simp only [badPoly, agg, eval_finsetSum, eval_mul, eval_C, eval_pow, eval_X, smul_eq_mul,
    mul_comm]

theorem coeff_badPoly (k : ℕ) (δ : ℕ → F) (i : ℕ) :
    (badPoly k δ).coeff i = if i < k then δ i else 0 := by
  simp only [badPoly, finsetSum_coeff, coeff_C_mul, coeff_X_pow, mul_ite, mul_one, mul_zero]
  rw [Finset.sum_ite_eq]; simp

theorem natDegree_badPoly_le (k : ℕ) (δ : ℕ → F) : (badPoly k δ).natDegree ≤ k - 1 := by
  rw [natDegree_le_iff_coeff_eq_zero]
  intro i hi
  rw [coeff_badPoly, if_neg (by omega)]

/-- the explicit bad set of an aggregation challenge: the roots of `Σⱼ δⱼ Xʲ` (empty when every
    `δⱼ` vanishes) -/
noncomputable def aggBad [DecidableEq F] (k : ℕ) (δ : ℕ → F) : Finset F :=
  if ∀ j < k, δ j = 0 then ∅ else (badPoly k δ).roots.toFinset

theorem aggBad_card_le [DecidableEq F] (k : ℕ) (δ : ℕ → F) : (aggBad k δ).card ≤ k - 1 := by
  unfold aggBad
  split
  · simp
  · exact (Multiset.toFinset_card_le _).trans ((card_roots' _).trans (natDegree_badPoly_le k δ))

theorem agg_zero_iff_of_not_bad [DecidableEq F] (k : ℕ) (δ : ℕ → F) (v : F)
    (hv : v ∉ aggBad k δ) : agg v k δ = 0 ↔ ∀ j < k, δ j = 0 := by
  by_cases h : ∀ j < k, δ j = 0
  · exact ⟨fun _ => h, fun _ => agg_eq_zero v k h⟩
  · refine ⟨fun h0 => ?_, fun h' => absurd h' h⟩
    exfalso
    have hne : badPoly k δ ≠ 0 := by
      intro h0'
      apply h
      intro j hj
      have := coeff_badPoly k δ j
      rw [h0', if_pos hj] at this
      simpa using this.symm
    apply hv
    rw [aggBad, if_neg h, Multiset.mem_toFinset, mem_roots hne, IsRoot, eval_badPoly]
    exact h0

/-- Schwartz–Zippel in one variable: a linear combination `Σ_{j<k} vʲ δⱼ` with some `δⱼ ≠ 0`
    vanishes for at most `k − 1` challenges `v`. -/
theorem agg_zero_generic [DecidableEq F] (k : ℕ) (δ : ℕ → F) :
    ∃ bad : Finset F, bad.card ≤ k - 1 ∧
      ∀ v, v ∉ bad → (agg v k δ = 0 ↔ ∀ j < k, δ j = 0) :=
  ⟨aggBad k δ, aggBad_card_le k δ, agg_zero_iff_of_not_bad k δ⟩

/-- exactly one wrong term and a non-zero challenge: the combination does not vanish -/
theorem agg_single_ne_zero (v : F) (hv : v ≠ 0) (k : ℕ) (δ : ℕ → F) (j0 : ℕ) (hj0 : j0 < k)
    (h0 : δ j0 ≠ 0) (hoth : ∀ j < k, j ≠ j0 → δ j = 0) : agg v k δ ≠ 0 := by
  unfold agg
  rw [Finset.sum_eq_single j0]
  · exact smul_ne_zero (pow_ne_zero _ hv) h0
  · intro j hj hne
    rw [hoth j (Finset.mem_range.mp hj) hne, smul_zero]
  · intro h; exact absurd (Finset.mem_range.mpr hj0) h

end Agg

/-! ### single opening -/

/-- The check `[x]W = C + [z]W − [e]g` for an arbitrary witness `W = [w]g` against the
    commitment of `p`: it is the scalar equation `(x − z)·w = p(x) − e`. -/
theorem single_check_general {g : G} (hg : Nondeg F g) (x z e w : F) (p : F[X]) :
    x • (w • g) = commit x g p + z • (w • g) - e • g ↔ (x - z) * w = p.eval x - e := by
  rw [commit_eval]
  have h : x • (w • g) - (p.eval x • g + z • (w • g) - e • g)
      = ((x - z) * w - (p.eval x - e)) • g := by module
  rw [← sub_eq_zero, h, ← sub_eq_zero (a := (x - z) * w)]
  exact smul_g_eq_zero_iff hg

/-- the quotient identity evaluated at the secret -/
theorem quot_eval {p q : F[X]} {z : F} (hq : p = q * (X - C z) + C (p.eval z)) (x : F) :
    (x - z) * q.eval x = p.eval x - p.eval z := by
  have := congrArg (eval x) hq
  simp only [eval_add, eval_mul, eval_sub, eval_X, eval_C] at this
  linear_combination -this

theorem divByMonic_quot (p : F[X]) (z : F) :
    p = (p /ₘ (X - C z)) * (X - C z) + C (p.eval z) := by
  have h := modByMonic_add_div p (X - C z)
  rw [modByMonic_X_sub_C_eq_C_eval] at h
  conv_lhs => rw [← h]
  ring

/-- **Single opening.**  With the honest witness `W = commit q`, `q` the quotient of `p` by
    `X − z`, the check passes exactly when the claimed value is the true value. -/
theorem single_open_iff' {g : G} (hg : Nondeg F g) (x z e : F) (p q : F[X])
    (hq : p = q * (X - C z) + C (p.eval z)) :
    x • commit x g q = commit x g p + z • commit x g q - e • g ↔ e = p.eval z := by
  rw [commit_eval x g q, single_check_general hg, quot_eval hq]
  constructor
  · intro h; linear_combination h
  · rintro rfl; rfl

theorem single_open_iff {g : G} (hg : Nondeg F g) (x z e : F) (p : F[X]) :
    x • commit x g (p /ₘ (X - C z)) = commit x g p + z • commit x g (p /ₘ (X - C z)) - e • g
      ↔ e = p.eval z :=
  single_open_iff' hg x z e p _ (divByMonic_quot p z)

/-! ### aggregated opening at one point -/

/-- **Aggregated opening.**  `k` polynomials opened at one point `z` with challenge `v`: the
    flattened commitment `Σ vʲ Cⱼ`, flattened evaluation `Σ vʲ eⱼ` and the witness of
    `Σ vʲ pⱼ` pass the check exactly when `Σ vʲ (eⱼ − pⱼ(z)) = 0`. -/
theorem aggregate_open_iff' {g : G} (hg : Nondeg F g) (x z v : F) (k : ℕ) (p : ℕ → F[X])
    (e : ℕ → F) (q : F[X])
    (hq : agg v k p = q * (X - C z) + C ((agg v k p).eval z)) :
    x • commit x g q
        = agg v k (fun j => commit x g (p j)) + z • commit x g q - agg v k e • g
      ↔ agg v k (fun j => e j - (p j).eval z) = 0 := by
  rw [commit_agg, single_open_iff' hg x z _ _ q hq, eval_agg, agg_sub, sub_eq_zero]

theorem aggregate_open_iff {g : G} (hg : Nondeg F g) (x z v : F) (k : ℕ) (p : ℕ → F[X])
    (e : ℕ → F) :
    x • commit x g (agg v k p /ₘ (X - C z))
        = agg v k (fun j => commit x g (p j)) + z • commit x g (agg v k p /ₘ (X - C z))
          - agg v k e • g
      ↔ agg v k (fun j => e j - (p j).eval z) = 0 :=
  aggregate_open_iff' hg x z v k p e _ (divByMonic_quot _ z)

/-- completeness: true evaluations pass -/
theorem aggregate_open_complete {g : G} (hg : Nondeg F g) (x z v : F) (k : ℕ) (p : ℕ → F[X])
    (e : ℕ → F) (he : ∀ j < k, e j = (p j).eval z) :
    x • commit x g (agg v k p /ₘ (X - C z))
        = agg v k (fun j => commit x g (p j)) + z • commit x g (agg v k p /ₘ (X - C z))
          - agg v k e • g := by
  rw [aggregate_open_iff hg]
  exact agg_eq_zero v k fun j hj => by rw [he j hj, sub_self]

/-- exactly one wrong evaluation and `v ≠ 0`: the check fails -/
theorem aggregate_open_one_wrong {g : G} (hg : Nondeg F g) (x z v : F) (hv : v ≠ 0) (k : ℕ)
    (p : ℕ → F[X]) (e : ℕ → F) (j0 : ℕ) (hj0 : j0 < k) (hw : e j0 ≠ (p j0).eval z)
    (hoth : ∀ j < k, j ≠ j0 → e j = (p j).eval z) :
    ¬ (x • commit x g (agg v k p /ₘ (X - C z))
        = agg v k (fun j => commit x g (p j)) + z • commit x g (agg v k p /ₘ (X - C z))
          - agg v k e • g) := by
  rw [aggregate_open_iff hg]
  exact agg_single_ne_zero v hv k _ j0 hj0 (sub_ne_zero.mpr hw)
    (fun j hj hne => by rw [hoth j hj hne, sub_self])

/-- for all but at most `k − 1` challenges `v`, the aggregated check passes exactly when every
    claimed evaluation is true -/
theorem aggregate_open_generic [DecidableEq F] {g : G} (hg : Nondeg F g) (x z : F) (k : ℕ)
    (p : ℕ → F[X]) (e : ℕ → F) :
    ∃ bad : Finset F, bad.card ≤ k - 1 ∧ ∀ v, v ∉ bad →
      (x • commit x g (agg v k p /ₘ (X - C z))
          = agg v k (fun j => commit x g (p j)) + z • commit x g (agg v k p /ₘ (X - C z))
            - agg v k e • g
        ↔ ∀ j < k, e j = (p j).eval z) := by
  obtain ⟨bad, hc, hb⟩ := agg_zero_generic k (fun j => e j - (p j).eval z)
  refine ⟨bad, hc, fun v hv => ?_⟩
  rw [aggregate_open_iff hg, hb v hv]
  exact forall₂_congr (fun j _ => sub_eq_zero)

/-! ### Horner combinations over lists -/

theorem aggL_map_commit (x : F) (g : G) (v : F) (l : List F[X]) :
    aggL v (l.map (commit x g)) = commit x g (aggL v l) := by
  induction l with
  | nil => exact (commit_zero x g).symm
  | cons a l ih => simp only [List.map_cons, aggL, ih, commit_add, commit_smul]

theorem aggL_map_eval (v y : F) (l : List F[X]) : aggL v (l.map (eval y)) = (aggL v l).eval y := by
  induction l with
  | nil => exact eval_zero.symm
  | cons a l ih => simp only [List.map_cons, aggL, ih, eval_add, eval_smul]

theorem aggL_take {M : Type*} [AddCommGroup M] [Module F M] (v : F) (l : List M) (k : ℕ) (hk : k ≤ l.length) :
    aggL v (l.take k) = agg v k (fun j => l.getD j 0) := by
  rw [aggL_eq_agg, List.length_take, Nat.min_eq_left hk]
  refine agg_congr v k fun j hj => ?_
  rw [List.getD_eq_getElem?_getD, List.getD_eq_getElem?_getD, List.getElem?_take_of_lt hj]

/-- one opening of `A` at `z` with the honest witness `A /ₘ (X − z)`: its share of the pairing MSM vanishes -/
theorem open_msm_zero (x : F) (g : G) (A : F[X]) (z : F) :
    commit x g A - A.eval z • g + z • commit x g (A /ₘ (X - C z))
      - x • commit x g (A /ₘ (X - C z)) = 0 := by
  have h := quot_eval (divByMonic_quot A z) x
  simp only [commit_eval]
  linear_combination (norm := module) (-h) • g

/-! ### batched opening at several points -/

/-- the two sides of the accumulated check differ by `(Σ uⁱ ((x − zᵢ)·wᵢ − cᵢ + eᵢ)) • g` -/
theorem batch_check_sub (x u : F) (n : ℕ) (w c z e : ℕ → F) (g : G) :
    x • agg u n (fun i => w i • g)
        - (agg u n (fun i => c i • g + z i • (w i • g)) - agg u n e • g)
      = agg u n (fun i => (x - z i) * w i - c i + e i) • g := by
  have h' : ∀ a b c' : G, a - (b - c') = a - b + c' := fun a b c' => by abel
  rw [h']
  unfold agg
  rw [Finset.smul_sum, Finset.sum_smul, Finset.sum_smul, ← Finset.sum_sub_distrib,
    ← Finset.sum_add_distrib]
  refine Finset.sum_congr rfl (fun i _ => ?_)
  simp only [smul_eq_mul]
  module

/-- The accumulated check for arbitrary proofs `Wᵢ = [wᵢ]g`, `Cᵢ = [cᵢ]g`. -/
theorem batch_check_general {g : G} (hg : Nondeg F g) (x u : F) (n : ℕ) (w c z e : ℕ → F) :
    x • agg u n (fun i => w i • g)
        = agg u n (fun i => c i • g + z i • (w i • g)) - agg u n e • g
      ↔ agg u n (fun i => (x - z i) * w i - c i + e i) = 0 := by
  rw [← sub_eq_zero, batch_check_sub]
  exact smul_g_eq_zero_iff hg

/-- the defect of the `i`-th aggregated proof -/
def defect (v z : ℕ → F) (k : ℕ → ℕ) (p : ℕ → ℕ → F[X]) (e : ℕ → ℕ → F) (i : ℕ) : F :=
  agg (v i) (k i) (fun j => e i j - (p i j).eval (z i))

/-- the two sides of the batched check differ by `[Σ uⁱ δᵢ]·g`, for every `g`: with `g`
    non-degenerate the check holds iff `Σ uⁱ δᵢ = 0` (`batch_check_iff'`), and with true evaluations
    it holds for every `g` (`Complete.batch_check_of_true_evals`) -/
theorem batch_check_sub_defect (g : G) (x u : F) (n : ℕ) (v z : ℕ → F) (k : ℕ → ℕ)
    (p : ℕ → ℕ → F[X]) (e : ℕ → ℕ → F) (q : ℕ → F[X])
    (hq : ∀ i < n, agg (v i) (k i) (p i)
        = q i * (X - C (z i)) + C ((agg (v i) (k i) (p i)).eval (z i))) :
    x • agg u n (fun i => commit x g (q i))
        - (agg u n (fun i => agg (v i) (k i) (fun j => commit x g (p i j))
            + z i • commit x g (q i))
          - agg u n (fun i => agg (v i) (k i) (e i)) • g)
      = agg u n (defect v z k p e) • g := by
  simp only [fun i => agg_commit_eq x g (v i) (k i) (p i)]
  simp only [commit_eval]
  rw [batch_check_sub]
  refine congrArg (· • g) (agg_congr u n fun i hi => ?_)
  rw [quot_eval (hq i hi), defect, agg_sub, eval_agg (v i) (k i) (p i) (z i)]
  ring

/-- **Batched opening.**  `n` points `zᵢ`, at each point `kᵢ` polynomials flattened with the
    challenge `vᵢ`, honest witnesses, outer challenge `u`: the accumulated check
    `[x] Σ uⁱ Wᵢ = Σ uⁱ (Cᵢ + [zᵢ] Wᵢ) − [Σ uⁱ eᵢ] g` holds exactly when `Σ uⁱ δᵢ = 0`. -/
theorem batch_check_iff' {g : G} (hg : Nondeg F g) (x u : F) (n : ℕ) (v z : ℕ → F) (k : ℕ → ℕ)
    (p : ℕ → ℕ → F[X]) (e : ℕ → ℕ → F) (q : ℕ → F[X])
    (hq : ∀ i < n, agg (v i) (k i) (p i)
        = q i * (X - C (z i)) + C ((agg (v i) (k i) (p i)).eval (z i))) :
    x • agg u n (fun i => commit x g (q i))
        = agg u n (fun i => agg (v i) (k i) (fun j => commit x g (p i j))
            + z i • commit x g (q i))
          - agg u n (fun i => agg (v i) (k i) (e i)) • g
      ↔ agg u n (defect v z k p e) = 0 := by
  rw [← sub_eq_zero, batch_check_sub_defect g x u n v z k p e q hq]
  exact smul_g_eq_zero_iff hg

theorem batch_check_iff {g : G} (hg : Nondeg F g) (x u : F) (n : ℕ) (v z : ℕ → F) (k : ℕ → ℕ)
    (p : ℕ → ℕ → F[X]) (e : ℕ → ℕ → F) :
    x • agg u n (fun i => commit x g (agg (v i) (k i) (p i) /ₘ (X - C (z i))))
        = agg u n (fun i => agg (v i) (k i) (fun j => commit x g (p i j))
            + z i • commit x g (agg (v i) (k i) (p i) /ₘ (X - C (z i))))
          - agg u n (fun i => agg (v i) (k i) (e i)) • g
      ↔ agg u n (defect v z k p e) = 0 :=
  batch_check_iff' hg x u n v z k p e _ (fun i _ => divByMonic_quot _ (z i))

theorem defect_eq_zero_of_true (v z : ℕ → F) (k : ℕ → ℕ) (p : ℕ → ℕ → F[X]) (e : ℕ → ℕ → F)
    (i : ℕ) (he : ∀ j < k i, e i j = (p i j).eval (z i)) : defect v z k p e i = 0 :=
  agg_eq_zero _ _ fun j hj => by rw [he j hj, sub_self]

/-- completeness of the batch check -/
theorem batch_check_complete {g : G} (hg : Nondeg F g) (x u : F) (n : ℕ) (v z : ℕ → F)
    (k : ℕ → ℕ) (p : ℕ → ℕ → F[X]) (e : ℕ → ℕ → F)
    (he : ∀ i < n, ∀ j < k i, e i j = (p i j).eval (z i)) :
    x • agg u n (fun i => commit x g (agg (v i) (k i) (p i) /ₘ (X - C (z i))))
        = agg u n (fun i => agg (v i) (k i) (fun j => commit x g (p i j))
            + z i • commit x g (agg (v i) (k i) (p i) /ₘ (X - C (z i))))
          - agg u n (fun i => agg (v i) (k i) (e i)) • g := by
  rw [batch_check_iff hg]
  exact agg_eq_zero u n fun i hi => defect_eq_zero_of_true v z k p e i (he i hi)

/-- soundness for generic `u`: if some aggregated proof has a non-zero defect, the batch check
    fails for all but at most `n − 1` values of `u`; in general, outside that exceptional set
    the check passes exactly when all defects vanish -/
theorem batch_check_generic [DecidableEq F] {g : G} (hg : Nondeg F g) (x : F) (n : ℕ)
    (v z : ℕ → F) (k : ℕ → ℕ) (p : ℕ → ℕ → F[X]) (e : ℕ → ℕ → F) :
    ∃ bad : Finset F, bad.card ≤ n - 1 ∧ ∀ u, u ∉ bad →
      (x • agg u n (fun i => commit x g (agg (v i) (k i) (p i) /ₘ (X - C (z i))))
          = agg u n (fun i => agg (v i) (k i) (fun j => commit x g (p i j))
              + z i • commit x g (agg (v i) (k i) (p i) /ₘ (X - C (z i))))
            - agg u n (fun i => agg (v i) (k i) (e i)) • g
        ↔ ∀ i < n, defect v z k p e i = 0) := by
  obtain ⟨bad, hc, hb⟩ := agg_zero_generic n (defect v z k p e)
  exact ⟨bad, hc, fun u hu => by rw [batch_check_iff hg, hb u hu]⟩

end Basic

/-! ### the pairing check is the trapdoor check -/

/-- an abstract bilinear pairing on modules over `ZMod r` into a multiplicative group of
    exponent `r` -/
structure Pairing (r : ℕ) (G H T : Type*) [AddCommGroup G] [Module (ZMod r) G]
    [AddCommGroup H] [Module (ZMod r) H] [CommGroup T] where
  e : G → H → T
  map_add_left : ∀ P P' Q, e (P + P') Q = e P Q * e P' Q
  map_smul_left : ∀ (a : ZMod r) P Q, e (a • P) Q = e P Q ^ a.val
  map_smul_right : ∀ (a : ZMod r) P Q, e P (a • Q) = e P Q ^ a.val
  pow_card : ∀ P Q, e P Q ^ r = 1

section Pairing
variable {r : ℕ} [Fact r.Prime] {G H T : Type*} [AddCommGroup G] [Module (ZMod r) G]
  [AddCommGroup H] [Module (ZMod r) H] [CommGroup T]

theorem Pairing.smul_g_eq_one_iff (E : Pairing r G H T) {g : G} {h : H} (hgh : E.e g h ≠ 1)
    (a : ZMod r) : E.e (a • g) h = 1 ↔ a = 0 := by
  rw [E.map_smul_left]
  constructor
  · intro ha
    have hd : orderOf (E.e g h) ∣ a.val := orderOf_dvd_of_pow_eq_one ha
    have hr : orderOf (E.e g h) ∣ r := orderOf_dvd_of_pow_eq_one (E.pow_card g h)
    have hp : Nat.Prime r := Fact.out
    rcases (Nat.dvd_prime hp).mp hr with h1 | h1
    · exact absurd (orderOf_eq_one_iff.mp h1) hgh
    · rw [h1] at hd
      have hlt : a.val < r := ZMod.val_lt a
      have : a.val = 0 := Nat.eq_zero_of_dvd_of_lt hd hlt
      exact (ZMod.val_eq_zero a).mp this
  · rintro rfl; simp

/-- **The trapdoor decision is the pairing check**: for `A`, `B` in the span of `g`,
    `e(A, [x]h) · e(B, h) = 1 ⇔ [x]A + B = 0`. -/
theorem pairing_trapdoor (E : Pairing r G H T) {g : G} {h : H} (hgh : E.e g h ≠ 1)
    (x a b : ZMod r) :
    E.e (a • g) (x • h) * E.e (b • g) h = 1 ↔ x • (a • g) + b • g = 0 := by
  have hg : Nondeg (ZMod r) g := fun c hc => by
    rw [← E.smul_g_eq_one_iff hgh, hc, ← zero_smul (ZMod r) g, E.map_smul_left]; simp
  rw [E.map_smul_right, ← E.map_smul_left, ← E.map_add_left]
  have : x • (a • g) + b • g = (x * a + b) • g := by module
  rw [this, E.smul_g_eq_one_iff hgh]
  exact (smul_g_eq_zero_iff hg).symm

/-- the form used by `batch_check`: `e(−W, [x]h) · e(C, h) = 1 ⇔ [x]W = C` -/
theorem pairing_check_iff (E : Pairing r G H T) {g : G} {h : H} (hgh : E.e g h ≠ 1)
    (x w c : ZMod r) :
    E.e (-(w • g)) (x • h) * E.e (c • g) h = 1 ↔ x • (w • g) = c • g := by
  have := pairing_trapdoor E hgh x (-w) c
  rw [neg_smul] at this
  rw [this, smul_neg, neg_add_eq_zero]

end Pairing

end Plonk.KzgMath
