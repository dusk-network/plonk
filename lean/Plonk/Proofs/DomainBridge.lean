/-
  Refinement of `batchInversion`, `Domain.elements` and `evaluateVanishing` of
  `Plonk/Model/FFT.lean`, and the well-formedness `DomainOK` under which the closed-form
  evaluations agree with the field-level definitions of `LagrangeMath.lean`.
-/
import Plonk.Proofs.PolyBridge
import Plonk.Proofs.LagrangeMath
import Plonk.Proofs.FftDomain

namespace Plonk.PolyC19
open Polynomial

/-! ### small field-bridge additions -/

theorem eq_val_of_toF {a : Nat} {x : F} (ha : a < R) (h : toF a = x) : a = x.val := by
  rw [← h, val_toF_of_lt ha]

theorem val_lt_R (x : F) : x.val < R := ZMod.val_lt x

/-! ### batch inversion -/

/-- the entry-wise function of `batchInversion` -/
def binv (x : Nat) : Nat := if x % R == 0 then x % R else finv x

theorem batchInversion_eq_map (v : List Nat) : batchInversion v = v.map binv := rfl

theorem toF_binv (x : Nat) : toF (binv x) = (toF x)⁻¹ := by
  unfold binv
  split
  · next h =>
    have h0 : toF x = 0 := (toF_eq_zero_iff x).mpr (by simpa using h)
    rw [toF_mod, h0, inv_zero]
  · exact toF_finv x

theorem binv_lt (x : Nat) : binv x < R := by
  unfold binv; split
  · exact Nat.mod_lt _ R_pos
  · exact finv_lt x

theorem binv_zero {x : Nat} (h : x % R = 0) : binv x = 0 := by
  unfold binv; simp [h]

theorem batchInversion_length (v : List Nat) : (batchInversion v).length = v.length := by
  simp [batchInversion]

theorem batchInversion_getElem (v : List Nat) (i : Nat) (h : i < v.length) :
    (batchInversion v)[i]'(by rw [batchInversion_length]; exact h) = binv v[i] := by
  simp [batchInversion_eq_map]

/-! ### well-formed domains -/

/-- what the closed forms need from an `EvaluationDomain` -/
structure DomainOK (d : Domain) : Prop where
  size_pos : 0 < d.size
  prim : IsPrimitiveRoot (toF d.groupGen) d.size
  sizeInv_eq : toF d.sizeInv = ((d.size : F))⁻¹
  genInv_eq : toF d.groupGenInv = (toF d.groupGen)⁻¹

namespace DomainOK
variable {d : Domain}

theorem size_lt (ok : DomainOK d) : d.size < 2 ^ 256 := order_lt_of_primitive ok.size_pos ok.prim

theorem size_ne_zero (ok : DomainOK d) : (d.size : F) ≠ 0 :=
  FftMath.natCast_ne_zero_of_primitive ok.size_pos ok.prim

end DomainOK

/-- the well-formedness of the transforms (`Domain.WF`) contains that of the closed forms -/
theorem DomainOK.of_WF {d : Domain} (h : d.WF) : DomainOK d :=
  ⟨h.size_pos, h.prim, h.sizeInv, h.genInv⟩

/-- `EvaluationDomain::new` yields a well-formed domain -/
theorem domainOK_of_new? (k : Nat) (d : Domain) (h : Domain.new? k = some d) : DomainOK d :=
  DomainOK.of_WF (Domain.new?_WF k d h)

/-! ### `elements`, `evaluate_vanishing_polynomial` -/

/-- `elements()` lists the canonical representatives of `ω^0, …, ω^(n-1)` -/
theorem elements_eq (d : Domain) :
    d.elements = (List.range d.size).map (fun i => (toF d.groupGen ^ i).val) := by
  refine (foldl_emit_beside_range (fun w => w) (fmul · d.groupGen) (geom (1 % R) d.groupGen)
    (fun _ => rfl) d.size).trans (List.map_congr_left fun i _ => ?_)
  rw [geom_eq_val one_mod_R_lt, toF_mod, toF_one, one_mul]

theorem elements_length (d : Domain) : d.elements.length = d.size := by
  rw [elements_eq]; simp

theorem elements_getElem (d : Domain) (i : Nat) (h : i < d.elements.length) :
    d.elements[i] = (toF d.groupGen ^ i).val := by
  simp [elements_eq]

/-! ### `evaluate_all_lagrange_coefficients` -/

theorem zip_map_self {α β : Type} (l : List α) (f : α → β) :
    (l.map f).zip l = l.map (fun x => (f x, x)) := by
  induction l with
  | nil => rfl
  | cons x xs ih => simp [ih]

theorem zip_self_map {α β : Type} (l : List α) (f : α → β) :
    l.zip (l.map f) = l.map (fun x => (x, f x)) := by
  induction l with
  | nil => rfl
  | cons x xs ih => simp [ih]

end Plonk.PolyC19
