/-
  C02 (soundness): the cardinality of the bad set of separation challenges.
  `sepBad_card_le : |sepBad| ≤ n · 9 · |F|³` (out of `|F|⁴` tuples `(ρ, λ, φ, ν)`).
-/
import Mathlib.Data.Fintype.Prod
import Plonk.Proofs.SoundnessModel

namespace Plonk.Sound
open Polynomial Plonk Plonk.Quot Plonk.Perm

/-- a subset of `α ≃ γ × β` all of whose `γ`-fibres have at most `m` elements has at most
    `m·|β|` elements -/
theorem card_le_of_fibers {α β γ : Type} [Fintype β] (Z : Finset α) (e : α ≃ γ × β) (m : ℕ)
    (h : ∀ b : β, ∀ S : Finset γ, (∀ a ∈ S, e.symm (a, b) ∈ Z) → S.card ≤ m) :
    Z.card ≤ m * Fintype.card β := by
  classical
  refine (Finset.card_le_mul_card_image (f := fun x => (e x).2) Z m ?_).trans
    (Nat.mul_le_mul_left m (Finset.card_le_univ _))
  intro b _
  have hinj : Set.InjOn (fun x => (e x).1) (Z.filter fun x => (e x).2 = b : Finset α) := by
    intro x hx y hy hxy
    have hx2 := (Finset.mem_filter.mp hx).2
    have hy2 := (Finset.mem_filter.mp hy).2
    apply e.injective
    exact Prod.ext hxy (by rw [hx2, hy2])
  rw [← Finset.card_image_of_injOn hinj]
  apply h b
  intro a ha
  obtain ⟨x, hx, rfl⟩ := Finset.mem_image.mp ha
  obtain ⟨hxZ, hx2⟩ := Finset.mem_filter.mp hx
  have : e.symm ((e x).1, b) = x := by
    rw [← hx2]; exact e.symm_apply_apply x
  rw [this]; exact hxZ

theorem card_F3 : Fintype.card (F × F × F) = R * (R * R) := by
  simp only [Fintype.card_prod, ZMod.card]

/-- the four ways of singling out one coordinate -/
def splitR : F × F × F × F ≃ F × (F × F × F) := Equiv.refl _
def splitL : F × F × F × F ≃ F × (F × F × F) :=
  ⟨fun t => (t.2.1, t.1, t.2.2.1, t.2.2.2), fun u => (u.2.1, u.1, u.2.2.1, u.2.2.2),
    fun _ => rfl, fun _ => rfl⟩
def splitF : F × F × F × F ≃ F × (F × F × F) :=
  ⟨fun t => (t.2.2.1, t.1, t.2.1, t.2.2.2), fun u => (u.2.1, u.2.2.1, u.1, u.2.2.2),
    fun _ => rfl, fun _ => rfl⟩
def splitV : F × F × F × F ≃ F × (F × F × F) :=
  ⟨fun t => (t.2.2.2, t.1, t.2.1, t.2.2.1), fun u => (u.2.1, u.2.2.1, u.2.2.2, u.1),
    fun _ => rfl, fun _ => rfl⟩

/-- the zero set of a function of the four separation challenges -/
noncomputable def zeroSet (E : Seps F → F) : Finset (F × F × F × F) :=
  @Finset.filter _ (fun t => E (sepsOf t) = 0) (fun _ => Classical.propDecidable _) Finset.univ

theorem mem_zeroSet (E : Seps F → F) (t : F × F × F × F) : t ∈ zeroSet E ↔ E (sepsOf t) = 0 := by
  unfold zeroSet
  rw [@Finset.mem_filter _ _ (fun _ => Classical.propDecidable _)]
  simp only [Finset.mem_univ, true_and]

attribute [irreducible] zeroSet

theorem zeroSet_card_le_of_fibers (E : Seps F → F) (e : F × F × F × F ≃ F × (F × F × F)) (m : ℕ)
    (H : ∀ u : F × F × F, ∀ S : Finset F, (∀ a ∈ S, E (sepsOf (e.symm (a, u))) = 0) → S.card ≤ m) :
    (zeroSet E).card ≤ m * (R * (R * R)) := by
  have := card_le_of_fibers (zeroSet E) e m fun u S hS =>
    H u S fun a ha => (mem_zeroSet E _).mp (hS a ha)
  rwa [card_F3] at this

/-- **the zero set of the gate expression of a failing row is thin**: at most `9·|F|³` tuples -/
theorem zeroSet_gate_card_le (g : Gate) (hg : SelReduced g) (a b c d an bn dn pi : Nat)
    (h : rowHolds g a b c d an bn dn pi = false) :
    (zeroSet fun s => gateSumR (Quot.selF g) (wiresF a b c d an bn dn) (toF pi) s).card ≤
      9 * (R * (R * R)) := by
  have le9 {m k : ℕ} (hm : m ≤ 9) (hk : k ≤ m * (R * (R * R))) : k ≤ 9 * (R * (R * R)) :=
    hk.trans (Nat.mul_le_mul_right _ hm)
  -- the failing widget's challenge is the fibre coordinate
  rcases gate_sum_bad_set g hg a b c d an bn dn pi h with h0 | hr | hl | hf | hv
  · rw [Finset.eq_empty_of_forall_notMem fun t ht => h0 _ ((mem_zeroSet _ t).mp ht)]
    exact Nat.zero_le _
  · exact le9 (by decide) (zeroSet_card_le_of_fibers _ splitR 7 fun u S hS => hr u.1 u.2.1 u.2.2 S hS)
  · exact le9 (by decide) (zeroSet_card_le_of_fibers _ splitL 9 fun u S hS => hl u.1 u.2.1 u.2.2 S hS)
  · exact le9 (by decide) (zeroSet_card_le_of_fibers _ splitF 7 fun u S hS => hf u.1 u.2.1 u.2.2 S hS)
  · exact le9 (by decide) (zeroSet_card_le_of_fibers _ splitV 5 fun u S hS => hv u.1 u.2.1 u.2.2 S hS)

/-- **`|sepBad| ≤ n·9·|F|³`**: a fraction of at most `9n/|F|` of the tuples of separation
    challenges is bad -/
theorem sepBad_card_le (ω : F) (n : Nat) (lay : Composer) (P : ProverPolys F)
    (hG : ∀ i < n, SelReduced (lay.gateAt i)) :
    (sepBad ω n lay P).card ≤ n * (9 * (R * (R * R))) := by
  classical
  have hsub : sepBad ω n lay P ⊆ (Finset.range n).biUnion fun i =>
      if rowOKP ω n lay P i then ∅ else zeroSet fun s => gateAtRow ω n lay P i s := by
    intro t ht
    rw [mem_sepBad] at ht
    obtain ⟨i, hi, hne, h0⟩ := ht
    refine Finset.mem_biUnion.mpr ⟨i, Finset.mem_range.mpr hi, ?_⟩
    rw [if_neg hne, mem_zeroSet]
    exact h0
  refine (Finset.card_le_card hsub).trans (Finset.card_biUnion_le.trans ?_)
  calc ∑ i ∈ Finset.range n,
        (if rowOKP ω n lay P i then (∅ : Finset (F × F × F × F))
          else zeroSet fun s => gateAtRow ω n lay P i s).card
      ≤ ∑ _i ∈ Finset.range n, 9 * (R * (R * R)) := by
        refine Finset.sum_le_sum (fun i hi => ?_)
        split
        · simp
        · next hne =>
          have := zeroSet_gate_card_le (lay.gateAt i) (hG i (Finset.mem_range.mp hi)) _ _ _ _ _ _ _ _
            (Bool.eq_false_iff.mpr hne)
          unfold gateAtRow
          rw [wiresAt_eq_wiresF]
          exact this
    _ = n * (9 * (R * (R * R))) := by simp

theorem card_F4 : Fintype.card (F × F × F × F) = R * (R * (R * R)) := by
  simp only [Fintype.card_prod, ZMod.card]

end Plonk.Sound
