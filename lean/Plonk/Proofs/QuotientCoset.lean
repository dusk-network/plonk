/-
  C05 (prover exactness), algebraic half — the arrays that `prove` hands to `quotientEvals`
  (`cosetEvals d8 p` with its 8 wrap-around entries, the stored coset evaluations of selectors and
  sigmas, `cosetFft [0,1]`, `vanishingOverCoset`, the batch inversions, `nInv8`) store the values of
  the polynomials at the coset point `x_i = g·ω₈^i` and, eight places further, at `ω·x_i` with
  `ω = ω₈^8` the generator of the small domain.  This is where "the next row is read cyclically" is
  proved on the coset: index `i + 8` wraps modulo `8n`.
-/
import Plonk.Proofs.QuotientExact
import Plonk.Proofs.DomainPi

namespace Plonk.Quot
open Plonk Polynomial FftMath

theorem Domain.new?_gen (m : Nat) (d : Domain) (h : Domain.new? m = some d) :
    d.logSize < 32 ∧ d.size = 2 ^ d.logSize ∧ nextPow2' m = d.size ∧
    toF d.groupGen = toF ROOT_OF_UNITY ^ 2 ^ (32 - d.logSize) := by
  obtain ⟨j, hlt, hp, rfl⟩ := Domain.new?_inv m d h
  exact ⟨hlt, rfl, hp, toF_fsq_iter _ _⟩

theorem gen8_pow_eight (m : Nat) (d d8 : Domain) (hd : Domain.new? m = some d)
    (hd8 : Domain.new? (8 * d.size) = some d8) :
    d8.size = 8 * d.size ∧ toF d8.groupGen ^ 8 = toF d.groupGen := by
  obtain ⟨hl, hs, -, hg⟩ := Domain.new?_gen m d hd
  obtain ⟨hl8, hs8, hn8, hg8⟩ := Domain.new?_gen _ d8 hd8
  have h8 : 8 * d.size = 2 ^ (d.logSize + 3) := by rw [hs, Nat.pow_add]; omega
  rw [h8, nextPow2'_pow_self _ (by omega)] at hn8
  have hlog : d8.logSize = d.logSize + 3 := by
    rw [hs8] at hn8
    exact (Nat.pow_right_injective (le_refl 2) hn8).symm
  refine ⟨by rw [h8, hn8], ?_⟩
  have : 32 - d.logSize = (32 - (d.logSize + 3)) + 3 := by omega
  rw [hg8, hg, ← pow_mul, hlog, this, Nat.pow_add]

theorem getD_take {α : Type*} (l : List α) {k m : Nat} (hk : k < m) (d : α) :
    (l.take m).getD k d = l.getD k d := by
  simp only [List.getD_eq_getElem?_getD, List.getElem?_take, if_pos hk]

section coset
variable {d8 : Domain} (h8 : d8.WF)
include h8

theorem toPoly_cosetFft_getD (p : List Nat) (i : Nat) (hi : i < d8.size) :
    toF ((d8.cosetFft p).getD i 0) = (toPoly p).eval (toF GENERATOR * toF d8.groupGen ^ i) := by
  rw [Domain.toF_cosetFft_getD h8 (le_refl 1) p i hi, toPoly_eq_polyN]

theorem cosetEvals_getD (p : List Nat) (i : Nat) (hi : i < d8.size) :
    toF ((cosetEvals d8 p).getD i 0) = (toPoly p).eval (toF GENERATOR * toF d8.groupGen ^ i) := by
  unfold cosetEvals
  rw [getD_toArray]
  rw [getD_append', if_pos (by rw [Domain.cosetFft_length h8 (le_refl 1)]; exact hi)]
  exact toPoly_cosetFft_getD h8 p i hi

/-- entry `i + 8` of `cosetEvals` (the "next row" read of the quotient loop): the value at
    `ω₈^8·(g·ω₈^i)`; for the last eight indices the read wraps into the appended entries, which is
    the same point because `ω₈^(8n) = 1` -/
theorem cosetEvals_getD_shift (p : List Nat) (h8le : 8 ≤ d8.size) (i : Nat) (hi : i < d8.size) :
    toF ((cosetEvals d8 p).getD (i + 8) 0) =
      (toPoly p).eval (toF d8.groupGen ^ 8 * (toF GENERATOR * toF d8.groupGen ^ i)) := by
  unfold cosetEvals
  rw [getD_toArray]
  have hlen := Domain.cosetFft_length h8 (le_refl 1) p
  rw [getD_append', hlen]
  have e : toF d8.groupGen ^ 8 * (toF GENERATOR * toF d8.groupGen ^ i) =
      toF GENERATOR * toF d8.groupGen ^ (i + 8) := by rw [mul_left_comm, ← pow_add, Nat.add_comm]
  rw [e]
  split
  · next hlt => exact toPoly_cosetFft_getD h8 p (i + 8) hlt
  · next hge =>
    have hk : i + 8 - d8.size < 8 := by omega
    rw [getD_take _ hk, toPoly_cosetFft_getD h8 p _ (by omega)]
    have hw : toF d8.groupGen ^ (i + 8) = toF d8.groupGen ^ (i + 8 - d8.size) := by
      conv_lhs => rw [show i + 8 = (i + 8 - d8.size) + d8.size by omega, pow_add,
        h8.prim.pow_eq_one, mul_one]
    rw [hw]

end coset

theorem toF_vanishingOverCoset_getD (d8 : Domain) (deg : Nat) (hd : deg < 2 ^ 256)
    (i : Nat) (hi : i < d8.size) :
    toF ((d8.vanishingOverCoset deg).getD i 0) =
      (toF GENERATOR * toF d8.groupGen ^ i) ^ deg - 1 := by
  rw [PolyC19.vanishingOverCoset_eq d8 deg hd, getD_map_range _ _ _ hi, toF_val, Plonk.toF_GENERATOR]

theorem generator_pow_ne_one : toF GENERATOR ^ 2 ^ 32 ≠ 1 := by
  have h1 : fpow GENERATOR (2 ^ 32) ≠ 1 := by decide +kernel
  intro h
  apply h1
  rw [← toF_fpow _ _ (Nat.pow_lt_pow_right (by omega) (by omega)), ← toF_one] at h
  exact (toF_inj_of_lt (fpow_lt _ _) R_gt_one).mp h

theorem coset_pow_ne_one (m : Nat) (d d8 : Domain) (hd : Domain.new? m = some d)
    (hd8 : Domain.new? (8 * d.size) = some d8) (i : Nat) :
    (toF GENERATOR * toF d8.groupGen ^ i) ^ d.size ≠ 1 := by
  obtain ⟨hs8, -⟩ := gen8_pow_eight m d d8 hd hd8
  obtain ⟨hl8, hp8, -, -⟩ := Domain.new?_gen _ d8 hd8
  have h8 := Domain.new?_WF _ d8 hd8
  intro h
  have e1 : toF GENERATOR ^ d8.size = 1 := by
    have := congrArg (· ^ 8) h
    simp only [one_pow] at this
    rw [← pow_mul, mul_comm d.size 8, ← hs8, mul_pow, ← pow_mul, mul_comm i, pow_mul,
      h8.prim.pow_eq_one, one_pow, mul_one] at this
    exact this
  apply generator_pow_ne_one
  have : 2 ^ 32 = d8.size * 2 ^ (32 - d8.logSize) := by
    rw [hp8, ← Nat.pow_add]; congr 1; omega
  rw [this, pow_mul, e1, one_pow]

/-- the polynomials behind the coefficient lists of the prover key and of the prover's rounds -/
noncomputable def polysOf (sel sigma : Array Poly) (aP bP cP dP zP piP : Poly) : ProverPolys F where
  Q := ⟨toPoly (sel.getD 0 []), toPoly (sel.getD 1 []), toPoly (sel.getD 2 []), toPoly (sel.getD 3 []),
        toPoly (sel.getD 4 []), toPoly (sel.getD 5 []), toPoly (sel.getD 6 []), toPoly (sel.getD 7 []),
        toPoly (sel.getD 8 []), toPoly (sel.getD 9 []), toPoly (sel.getD 10 [])⟩
  a := toPoly aP
  b := toPoly bP
  c := toPoly cP
  d := toPoly dP
  pi := toPoly piP
  s1 := toPoly (sigma.getD 0 [])
  s2 := toPoly (sigma.getD 1 [])
  s3 := toPoly (sigma.getD 2 [])
  s4 := toPoly (sigma.getD 3 [])
  z := toPoly zP

/-- the stored coset evaluations of an array of polynomials (`selE`, `sigE8` of the prover key) -/
theorem stored_getD {d8 : Domain} (h8 : d8.WF) (arr : Array Poly) (j i : Nat) (hi : i < d8.size) :
    toF (((arr.map fun p => (d8.cosetFft p).toArray).getD j #[]).getD i 0) =
      (toPoly (arr.getD j [])).eval (toF GENERATOR * toF d8.groupGen ^ i) := by
  by_cases hj : j < arr.size
  · simp only [Array.getD_eq_getD_getElem?, Array.getElem?_map, Array.getElem?_eq_getElem hj,
      Option.map_some, Option.getD_some, List.getElem?_toArray, ← List.getD_eq_getElem?_getD]
    exact toPoly_cosetFft_getD h8 _ i hi
  · have hn : arr[j]? = none := Array.getElem?_eq_none (by omega)
    simp [Array.getD_eq_getD_getElem?, Array.getElem?_map, hn]

/-- **The arrays of `prove` store the polynomial values on the coset.** With `d`, `d8` the two
    domains of `prove`, the arrays built as `prove` / `compile` build them satisfy `StoresAt` at every
    index `i < 8n`, for the point `x_i = g·ω₈^i` and `ω = ` generator of `d`. -/
theorem storesAt_prove (m : Nat) (d d8 : Domain) (hd : Domain.new? m = some d)
    (hd8 : Domain.new? (8 * d.size) = some d8) (sel sigma : Array Poly) (aP bP cP dP zP piP : Poly)
    (vh linE : Array Nat) (hvh : vh = (d8.vanishingOverCoset d.size).toArray)
    (hlin : linE = (d8.cosetFft [0, 1]).toArray) (i : Nat) (hi : i < d8.size) :
    StoresAt (toF d.groupGen) (toF GENERATOR * toF d8.groupGen ^ i) d.size
      (polysOf sel sigma aP bP cP dP zP piP)
      (sel.map fun p => (d8.cosetFft p).toArray) (sigma.map fun p => (d8.cosetFft p).toArray)
      linE (cosetEvals d8 aP) (cosetEvals d8 bP) (cosetEvals d8 cP) (cosetEvals d8 dP)
      (cosetEvals d8 zP) (d8.cosetFft piP).toArray vh
      (batchInversion ((vh.toList).take 8)).toArray
      (batchInversion (linE.toList.map fun e => fsub e 1)).toArray (fmul d8.sizeInv 8) i := by
  obtain ⟨hs8, hg8⟩ := gen8_pow_eight m d d8 hd hd8
  have h8 := Domain.new?_WF _ d8 hd8
  have hw := Domain.new?_WF _ d hd
  have h8le : 8 ≤ d8.size := by have := hw.size_pos; omega
  have hdlt : d.size < 2 ^ 256 := hw.size_lt
  subst hvh hlin
  have hlinv : ∀ k < d8.size, toF ((d8.cosetFft [0, 1]).getD k 0) =
      toF GENERATOR * toF d8.groupGen ^ k := by
    intro k hk
    rw [toPoly_cosetFft_getD h8 _ k hk]; simp
  constructor
  · simp only [selAt, polysOf, Sel.map, stored_getD h8 sel _ i hi]
  · exact cosetEvals_getD h8 aP i hi
  · exact cosetEvals_getD h8 bP i hi
  · exact cosetEvals_getD h8 cP i hi
  · exact cosetEvals_getD h8 dP i hi
  · rw [← hg8]; exact cosetEvals_getD_shift h8 aP h8le i hi
  · rw [← hg8]; exact cosetEvals_getD_shift h8 bP h8le i hi
  · rw [← hg8]; exact cosetEvals_getD_shift h8 dP h8le i hi
  · rw [getD_toArray]
    exact toPoly_cosetFft_getD h8 piP i hi
  · rw [getD_toArray]
    exact hlinv i hi
  · exact stored_getD h8 sigma 0 i hi
  · exact stored_getD h8 sigma 1 i hi
  · exact stored_getD h8 sigma 2 i hi
  · exact stored_getD h8 sigma 3 i hi
  · exact cosetEvals_getD h8 zP i hi
  · rw [← hg8]; exact cosetEvals_getD_shift h8 zP h8le i hi
  · rw [getD_toArray]
    exact toF_vanishingOverCoset_getD d8 d.size hdlt i hi
  · rw [getD_toArray]
    rw [toF_batchInversion_getD]
    have hk : i % 8 < 8 := Nat.mod_lt _ (by omega)
    rw [getD_take _ hk, toF_vanishingOverCoset_getD d8 d.size hdlt (i % 8) (by omega)]
    have hz : (toF d8.groupGen ^ d.size) ^ 8 = 1 := by
      rw [← pow_mul, mul_comm, ← hs8, h8.prim.pow_eq_one]
    rw [mul_pow, mul_pow, ← pow_mul, mul_comm (i % 8), pow_mul, ← pow_eq_pow_mod i hz, ← pow_mul,
      mul_comm d.size i, pow_mul]
  · rw [getD_toArray]
    rw [toF_batchInversion_getD]
    have hlen : i < (d8.cosetFft [0, 1]).length := by
      rw [Domain.cosetFft_length h8 (le_refl 1)]; exact hi
    rw [List.getD_eq_getElem _ 0 (by simpa using hlen), List.getElem_map, toF_fsub, toF_one,
      ← List.getD_eq_getElem _ 0 hlen, hlinv i hi]
  · have h0 : ((8 * d.size : ℕ) : F) ≠ 0 := by rw [← hs8]; exact h8.size_ne_zero
    rw [Nat.cast_mul, Nat.cast_ofNat] at h0
    rw [toF_fmul, h8.sizeInv, hs8, toF_ofNat 8, Nat.cast_mul, Nat.cast_ofNat, mul_inv, mul_right_comm,
      inv_mul_cancel₀ (left_ne_zero_of_mul h0), one_mul]

/-- **The quotient evaluations inside `prove`.** Entry `i < 8n` of `quotientEvals`, called on the
    arrays `prove` builds, is the value of `Num / (X^n − 1)` at the coset point `g·ω₈^i`, where `Num` is
    the numerator polynomial of the polynomials behind the coefficient lists. -/
theorem quotient_entry_prove (m : Nat) (d d8 : Domain) (hd : Domain.new? m = some d)
    (hd8 : Domain.new? (8 * d.size) = some d8) (sel sigma : Array Poly) (aP bP cP dP zP piP : Poly)
    (vh linE : Array Nat) (hvh : vh = (d8.vanishingOverCoset d.size).toArray)
    (hlin : linE = (d8.cosetFft [0, 1]).toArray)
    (beta gamma alpha rSep lSep fSep vSep : Nat) (i : Nat) (hi : i < d8.size) :
    toF ((quotientEvals d8.size (sel.map fun p => (d8.cosetFft p).toArray)
        (sigma.map fun p => (d8.cosetFft p).toArray) linE (cosetEvals d8 aP) (cosetEvals d8 bP)
        (cosetEvals d8 cP) (cosetEvals d8 dP) (cosetEvals d8 zP) (d8.cosetFft piP).toArray vh
        (batchInversion ((vh.toList).take 8)).toArray
        (batchInversion (linE.toList.map fun e => fsub e 1)).toArray (fmul d8.sizeInv 8)
        beta gamma alpha rSep lSep fSep vSep).getD i 0) =
      (NumP (toF d.groupGen) d.size (polysOf sel sigma aP bP cP dP zP piP)
          ⟨toF beta, toF gamma, toF alpha⟩ ⟨toF rSep, toF lSep, toF fSep, toF vSep⟩).eval
        (toF GENERATOR * toF d8.groupGen ^ i) *
        ((toF GENERATOR * toF d8.groupGen ^ i) ^ d.size - 1)⁻¹ :=
  quotient_entry_coset (coset_pow_ne_one m d d8 hd hd8 i) _ d8.size _ _ _ _ _ _ _ _ _ _ _ _ _ _ _ _ _
    _ _ _ i hi (storesAt_prove m d d8 hd hd8 sel sigma aP bP cP dP zP piP vh linE hvh hlin i hi)

end Plonk.Quot
