/-
  C05 (prover exactness), algebraic half — concrete data for the non-vacuity examples of
  `Plonk/Props/C05.lean`.
-/
import Plonk.Proofs.QuotientExact

namespace Plonk.Quot
open Plonk Polynomial

/-- the identity permutation on the domain `d`, as sigma values -/
def exSig (d : Domain) : List (List Nat) :=
  [d.elements, d.elements.map (fmul Generated.K1), d.elements.map (fmul Generated.K2),
   d.elements.map (fmul Generated.K3)]

/-- an addition gate `a + b − c = 0` on every row -/
def exG : Nat → Gate := fun _ => { ql := 1, qr := 1, qo := R - 1, qarith := 1 }

theorem exSig_length (d : Domain) : ∀ j < 4, ((exSig d).getD j []).length = d.size := by
  intro j hj
  interval_cases j <;> simp [exSig, PolyC19.elements_length]

/-- the concrete instance of the examples: two rows `1 + 2 = 3`, `2 + 3 = 5`, identity permutation,
    `β = 5`, `γ = 9`: `permVec` succeeds -/
theorem ex_permVec : ∃ d z, Domain.new? 2 = some d ∧ d.size = 2 ∧
    permVec d.size d.elements [1, 2] [2, 3] [3, 5] [0, 0] (exSig d) 5 9 = some z := by
  have h : ((Domain.new? 2).bind fun d =>
      permVec d.size d.elements [1, 2] [2, 3] [3, 5] [0, 0] (exSig d) 5 9).isSome = true := by
    decide +kernel
  obtain ⟨d, hd, hs⟩ := exists_domain_two
  rw [hd, Option.bind_some] at h
  obtain ⟨z, hz⟩ := Option.isSome_iff_exists.mp h
  exact ⟨d, z, hd, hs, hz⟩

/-- a concrete instance for the next example: constant wire `a = 4`, constant accumulator `z = 1`,
    everything else zero, read at the point `x = 2` of a "domain" of size `n = 2` -/
noncomputable def exP : ProverPolys F :=
  { Q := ⟨0, 0, 0, 0, 0, 0, 0, 0, 0, 0, 0⟩, a := C 4, b := 0, c := 0, d := 0, pi := 0,
    s1 := 0, s2 := 0, s3 := 0, s4 := 0, z := C 1 }

theorem three_ne_zero_F : (3 : F) ≠ 0 := by
  rw [← toF_ofNat 3, Ne, toF_eq_zero_of_lt (lt_trans (by decide) ten_lt_R)]; decide

end Plonk.Quot
