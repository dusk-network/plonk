/-
  C02 (soundness): the degree of the numerator polynomial.  If every committed / preprocessed
  polynomial has degree `≤ d` (`1 ≤ d`), then `deg Num ≤ 5d + n`; hence the bad set of the
  evaluation challenge has at most `max (5d + n) (deg T + n)` elements.
-/
import Plonk.Proofs.SoundnessCore

namespace Plonk.Sound
open Polynomial Plonk.Quot

section
variable {K : Type*} [Field K] {p q : K[X]} {e j k : ℕ}

/-- `p` has degree at most `k·e`.  The widget expressions are ring expressions in polynomials of
    degree `≤ e`; their bounds are read off the expression, with `k` the total degree in these. -/
structure DegLE (e k : ℕ) (p : K[X]) : Prop where
  le : p.natDegree ≤ k * e

namespace DegLE

theorem of_le (hp : p.natDegree ≤ e) : DegLE e 1 p := ⟨hp.trans (Nat.one_mul e).ge⟩

theorem mono (hp : DegLE e j p) (hjk : j ≤ k) : DegLE e k p :=
  ⟨hp.le.trans (Nat.mul_le_mul_right e hjk)⟩

theorem add (hp : DegLE e j p) (hq : DegLE e k q) : DegLE e (max j k) (p + q) :=
  ⟨natDegree_add_le_of_degree_le (hp.mono (le_max_left j k)).le (hq.mono (le_max_right j k)).le⟩

theorem sub (hp : DegLE e j p) (hq : DegLE e k q) : DegLE e (max j k) (p - q) :=
  ⟨(natDegree_sub_le_of_le (hp.mono (le_max_left j k)).le (hq.mono (le_max_right j k)).le).trans
    (max_self _).le⟩

theorem mul (hp : DegLE e j p) (hq : DegLE e k q) : DegLE e (j + k) (p * q) :=
  ⟨(natDegree_mul_le_of_le hp.le hq.le).trans (Nat.add_mul j k e).ge⟩

theorem pow (n : ℕ) (hp : DegLE e k p) : DegLE e (n * k) (p ^ n) :=
  ⟨(natDegree_pow_le_of_le n hp.le).trans (Nat.mul_assoc n k e).ge⟩

theorem C (a : K) : DegLE e 0 (C a) := ⟨(natDegree_C a).le.trans (Nat.zero_le _)⟩

theorem one : DegLE e 0 (1 : K[X]) := ⟨natDegree_one.le.trans (Nat.zero_le _)⟩

theorem natCast (n : ℕ) : DegLE e 0 (n : K[X]) := ⟨(natDegree_natCast n).le.trans (Nat.zero_le _)⟩

theorem ofNat (n : ℕ) [n.AtLeastTwo] : DegLE e 0 (OfNat.ofNat n : K[X]) := natCast n

theorem X (he : 1 ≤ e) : DegLE e 1 (X : K[X]) := of_le (natDegree_X_le.trans he)

theorem deltaR (hp : DegLE e k p) : DegLE e (4 * k) (deltaR p) := by
  have h (c : K[X]) (hc : DegLE e 0 c) : DegLE e k (p - c) := (hp.sub hc).mono (Nat.max_zero k).le
  exact (((hp.mul (h 1 one)).mul (h 2 (ofNat 2))).mul (h 3 (ofNat 3))).mono (by omega)

end DegLE

/-- `degree_le` proves `p.natDegree ≤ k * e` for a ring expression `p` in polynomials of degree
    `≤ e`.  It is syntax-directed: the goal `DegLE e ?j p` is closed by a hypothesis `DegLE e _ p` if
    there is one (so a repeated subterm is bounded once, by a `have`); otherwise by the one rule of
    `DegLE` for the head symbol of `p` (`mul`, `sub`, `add`, numeral, `1`, `C`, `deltaR`, cast, `pow`),
    and an atom by its hypothesis `_ ≤ e`.  The level `?j` found is a closed numeral; `decide`
    compares it with `k`. -/
macro "degree_le" : tactic => `(tactic|
  (apply DegLE.le
   apply DegLE.mono
   · repeat' first
      | with_reducible assumption
      | with_reducible apply DegLE.mul
      | with_reducible apply DegLE.sub
      | with_reducible apply DegLE.add
      | exact DegLE.of_le (by with_reducible assumption)
      | with_reducible apply DegLE.ofNat
      | with_reducible apply DegLE.one
      | with_reducible apply DegLE.C
      | with_reducible apply DegLE.deltaR
      | with_reducible apply DegLE.natCast
      | with_reducible apply DegLE.pow
   · decide))

theorem deg_hornerSq (cs : List K[X]) (s : K) (m : ℕ) (h : ∀ c ∈ cs, c.natDegree ≤ m) :
    (hornerSq cs (C s)).natDegree ≤ m := by
  induction cs with
  | nil => exact Nat.zero_le m
  | cons c cs ih =>
    rw [hornerSq_cons, ← C_pow]
    exact natDegree_add_le_of_degree_le (h c List.mem_cons_self)
      ((natDegree_C_mul_le _ _).trans (ih fun x hx => h x (List.mem_cons_of_mem c hx)))

theorem deg_wsum (cs : List K[X]) (s : K) (m : ℕ) (h : ∀ c ∈ cs, c.natDegree ≤ m) :
    (wsum cs (C s)).natDegree ≤ m :=
  (natDegree_C_mul_le _ _).trans (deg_hornerSq cs s m h)

/-- all seven wire polynomials of a row have degree `≤ e` -/
structure WiresDeg (w : Wires K[X]) (e : ℕ) : Prop where
  a : w.a.natDegree ≤ e
  b : w.b.natDegree ≤ e
  c : w.c.natDegree ≤ e
  d : w.d.natDegree ≤ e
  an : w.an.natDegree ≤ e
  bn : w.bn.natDegree ≤ e
  dn : w.dn.natDegree ≤ e

theorem deg_rangeComps (w : Wires K[X]) (e : ℕ) (hw : WiresDeg w e) :
    ∀ c ∈ rangeCompsR w, c.natDegree ≤ 4 * e := by
  obtain ⟨ha, hb, hc, hd, -, -, hdn⟩ := hw
  intro x hx
  simp only [rangeCompsR, List.mem_cons, List.mem_nil_iff, or_false] at hx
  rcases hx with rfl | rfl | rfl | rfl
  all_goals degree_le

theorem deg_logicComps (qc : K[X]) (w : Wires K[X]) (e : ℕ) (hq : qc.natDegree ≤ e)
    (hw : WiresDeg w e) : ∀ c ∈ logicCompsR qc w, c.natDegree ≤ 4 * e := by
  obtain ⟨ha, hb, hc, hd, han, hbn, hdn⟩ := hw
  have hu : DegLE e 1 (w.an - 4 * w.a) := ⟨by degree_le⟩
  have hv : DegLE e 1 (w.bn - 4 * w.b) := ⟨by degree_le⟩
  have hy : DegLE e 1 (w.dn - 4 * w.d) := ⟨by degree_le⟩
  intro x hx
  simp only [logicCompsR, deltaXorAndR, List.mem_cons, List.mem_nil_iff, or_false] at hx
  rcases hx with rfl | rfl | rfl | rfl | rfl
  all_goals degree_le

theorem deg_fixedComps (ql qr qc : K[X]) (w : Wires K[X]) (e : ℕ) (h1 : ql.natDegree ≤ e)
    (h2 : qr.natDegree ≤ e) (h3 : qc.natDegree ≤ e) (hw : WiresDeg w e) :
    ∀ c ∈ fixedCompsR ql qr qc w, c.natDegree ≤ 4 * e := by
  obtain ⟨ha, hb, hc, hd, han, hbn, hdn⟩ := hw
  have hbit : DegLE e 1 (w.dn - w.d - w.d) := ⟨by degree_le⟩
  intro x hx
  simp only [fixedCompsR, List.mem_cons, List.mem_nil_iff, or_false] at hx
  rcases hx with rfl | rfl | rfl | rfl
  all_goals degree_le

theorem deg_varComps (w : Wires K[X]) (e : ℕ) (hw : WiresDeg w e) :
    ∀ c ∈ varCompsR w, c.natDegree ≤ 4 * e := by
  obtain ⟨ha, hb, hc, hd, han, hbn, hdn⟩ := hw
  intro x hx
  simp only [varCompsR, List.mem_cons, List.mem_nil_iff, or_false] at hx
  rcases hx with rfl | rfl | rfl
  all_goals degree_le

/-- all eleven selector polynomials have degree `≤ e` -/
structure SelDeg (q : Sel K[X]) (e : ℕ) : Prop where
  qm : q.qm.natDegree ≤ e
  ql : q.ql.natDegree ≤ e
  qr : q.qr.natDegree ≤ e
  qo : q.qo.natDegree ≤ e
  qf : q.qf.natDegree ≤ e
  qc : q.qc.natDegree ≤ e
  qarith : q.qarith.natDegree ≤ e
  qrange : q.qrange.natDegree ≤ e
  qlogic : q.qlogic.natDegree ≤ e
  qfixed : q.qfixed.natDegree ≤ e
  qvar : q.qvar.natDegree ≤ e

theorem deg_gateSumR (q : Sel K[X]) (w : Wires K[X]) (pi : K[X]) (s : Seps K) (e : ℕ)
    (hq : SelDeg q e) (hw : WiresDeg w e) (hpi : pi.natDegree ≤ e) :
    (gateSumR q w pi (s.map C)).natDegree ≤ 5 * e := by
  have h1 : DegLE e 4 _ := ⟨deg_wsum _ s.rs _ (deg_rangeComps w e hw)⟩
  have h2 : DegLE e 4 _ := ⟨deg_wsum _ s.ls _ (deg_logicComps q.qc w e hq.qc hw)⟩
  have h3 : DegLE e 4 _ :=
    ⟨deg_wsum _ s.fs _ (deg_fixedComps q.ql q.qr q.qc w e hq.ql hq.qr hq.qc hw)⟩
  have h4 : DegLE e 4 _ := ⟨deg_wsum _ s.vs _ (deg_varComps w e hw)⟩
  obtain ⟨ha, hb, hc, hd, -, -, -⟩ := hw
  obtain ⟨q1, q2, q3, q4, q5, q6, q7, q8, q9, q10, q11⟩ := hq
  simp only [gateSumR, arithR, Seps.map]
  degree_le

theorem deg_permNumR (β γ : K) (a b c d : K[X]) (e : ℕ) (he : 1 ≤ e) (ha : a.natDegree ≤ e)
    (hb : b.natDegree ≤ e) (hc : c.natDegree ≤ e) (hd : d.natDegree ≤ e) :
    (permNumR (C β) (C γ) a b c d X).natDegree ≤ 4 * e := by
  have hX := DegLE.X (K := K) he
  unfold permNumR
  degree_le

theorem deg_permDenR (β γ : K) (a b c d s1 s2 s3 s4 : K[X]) (e : ℕ) (ha : a.natDegree ≤ e)
    (hb : b.natDegree ≤ e) (hc : c.natDegree ≤ e) (hd : d.natDegree ≤ e) (h1 : s1.natDegree ≤ e)
    (h2 : s2.natDegree ≤ e) (h3 : s3.natDegree ≤ e) (h4 : s4.natDegree ≤ e) :
    (permDenR (C β) (C γ) a b c d s1 s2 s3 s4).natDegree ≤ 4 * e := by
  unfold permDenR
  degree_le

theorem deg_permStepR (β γ α : K) (w : Wires K[X]) (s1 s2 s3 s4 z zs l : K[X]) (e f : ℕ)
    (he : 1 ≤ e) (hw : WiresDeg w e) (h1 : s1.natDegree ≤ e) (h2 : s2.natDegree ≤ e)
    (h3 : s3.natDegree ≤ e) (h4 : s4.natDegree ≤ e) (hz : z.natDegree ≤ f)
    (hzs : zs.natDegree ≤ f) :
    (permStepR ⟨C β, C γ, C α⟩ w ⟨X, s1, s2, s3, s4, z, zs, l⟩).natDegree ≤ 4 * e + f := by
  have hn := deg_permNumR β γ w.a w.b w.c w.d e he hw.a hw.b hw.c hw.d
  have hd := deg_permDenR β γ w.a w.b w.c w.d s1 s2 s3 s4 e hw.a hw.b hw.c hw.d h1 h2 h3 h4
  simp only [permStepR]
  exact (natDegree_sub_le_of_le (natDegree_mul_le_of_le hn hz)
    (natDegree_mul_le_of_le hd hzs)).trans (max_self _).le

theorem natDegree_L1P_le (n : ℕ) : (L1P n : K[X]).natDegree ≤ n - 1 := by
  unfold L1P
  refine (natDegree_C_mul_le _ _).trans ?_
  refine natDegree_sum_le_of_forall_le _ _ (fun j hj => ?_)
  rw [natDegree_X_pow]
  have := Finset.mem_range.mp hj
  omega

theorem natDegree_shiftP_le (ω : K) (p : K[X]) : (shiftP ω p).natDegree ≤ p.natDegree := by
  unfold shiftP
  refine natDegree_comp_le.trans ?_
  have : (C ω * X : K[X]).natDegree ≤ 1 := (natDegree_C_mul_le _ _).trans (by rw [natDegree_X])
  calc p.natDegree * (C ω * X : K[X]).natDegree ≤ p.natDegree * 1 := Nat.mul_le_mul_left _ this
    _ = p.natDegree := by omega

/-- all the prover's polynomials have degree `≤ e` -/
structure PolysDeg (P : ProverPolys K) (e : ℕ) : Prop where
  Q : SelDeg P.Q e
  a : P.a.natDegree ≤ e
  b : P.b.natDegree ≤ e
  c : P.c.natDegree ≤ e
  d : P.d.natDegree ≤ e
  pi : P.pi.natDegree ≤ e
  s1 : P.s1.natDegree ≤ e
  s2 : P.s2.natDegree ≤ e
  s3 : P.s3.natDegree ≤ e
  s4 : P.s4.natDegree ≤ e
  z : P.z.natDegree ≤ e

end

end Plonk.Sound

namespace Plonk.Complete
open Polynomial Plonk.Quot Plonk.Sound
variable {K : Type*} [Field K]

/-- selector, public-input, sigma and wire polynomials of degree `≤ e`, accumulator `≤ f` -/
structure PolysDeg2 (P : ProverPolys K) (e f : ℕ) : Prop where
  Q : SelDeg P.Q e
  a : P.a.natDegree ≤ e
  b : P.b.natDegree ≤ e
  c : P.c.natDegree ≤ e
  d : P.d.natDegree ≤ e
  pi : P.pi.natDegree ≤ e
  s1 : P.s1.natDegree ≤ e
  s2 : P.s2.natDegree ≤ e
  s3 : P.s3.natDegree ≤ e
  s4 : P.s4.natDegree ≤ e
  z : P.z.natDegree ≤ f

theorem PolysDeg2.toPolysDeg {P : ProverPolys K} {e f : ℕ} (h : PolysDeg2 P e f) (hef : e ≤ f) :
    PolysDeg P f :=
  ⟨⟨h.Q.qm.trans hef, h.Q.ql.trans hef, h.Q.qr.trans hef, h.Q.qo.trans hef, h.Q.qf.trans hef,
    h.Q.qc.trans hef, h.Q.qarith.trans hef, h.Q.qrange.trans hef, h.Q.qlogic.trans hef,
    h.Q.qfixed.trans hef, h.Q.qvar.trans hef⟩, h.a.trans hef, h.b.trans hef, h.c.trans hef,
    h.d.trans hef, h.pi.trans hef, h.s1.trans hef, h.s2.trans hef, h.s3.trans hef, h.s4.trans hef,
    h.z⟩

/-- **`deg Num ≤ max (4e + f) (n − 1 + f)`**: the gate part has degree `≤ 5e ≤ 4e + f`, the
    permutation step `≤ 4e + f`, the `L₁` term `≤ n − 1 + f`.  With one bound for all polynomials
    this is `5e + n` (`Sound.natDegree_NumP_le`); for the honest prover (`n ≤ 4e + 1`) it is `4e + f`
    (`natDegree_NumP_le2`). -/
theorem natDegree_NumP_le_max (ω : K) (n : ℕ) (P : ProverPolys K) (ch : Chal K) (s : Seps K) (e f : ℕ)
    (he : 1 ≤ e) (hef : e ≤ f) (hP : PolysDeg2 P e f) :
    (NumP ω n P ch s).natDegree ≤ max (4 * e + f) (n - 1 + f) := by
  have hw : WiresDeg (⟨P.a, P.b, P.c, P.d, shiftP ω P.a, shiftP ω P.b, shiftP ω P.d⟩ : Wires K[X]) e :=
    ⟨hP.a, hP.b, hP.c, hP.d, (natDegree_shiftP_le ω _).trans hP.a,
      (natDegree_shiftP_le ω _).trans hP.b, (natDegree_shiftP_le ω _).trans hP.d⟩
  have hg : DegLE (max (4 * e + f) (n - 1 + f)) 1 _ :=
    .of_le ((deg_gateSumR P.Q _ P.pi s e hP.Q hw hP.pi).trans (by omega))
  have hp : DegLE (max (4 * e + f) (n - 1 + f)) 1 _ :=
    .of_le ((deg_permStepR ch.β ch.γ ch.α _ P.s1 P.s2 P.s3 P.s4 P.z (shiftP ω P.z) (L1P n) e f he hw
      hP.s1 hP.s2 hP.s3 hP.s4 hP.z ((natDegree_shiftP_le ω _).trans hP.z)).trans (le_max_left _ _))
  have hz : (P.z - 1).natDegree ≤ f :=
    ((DegLE.of_le hP.z).sub DegLE.one).le.trans (Nat.one_mul f).le
  have hl : DegLE (max (4 * e + f) (n - 1 + f)) 1 (L1P n * (P.z - 1)) :=
    .of_le ((natDegree_mul_le_of_le (natDegree_L1P_le n) hz).trans (le_max_right _ _))
  unfold NumP numR
  simp only [Chal.map, mul_assoc]
  refine le_of_le_of_eq ?_ (Nat.one_mul _)
  degree_le

/-- **`deg Num ≤ 4e + f`** for the honest prover's degree profile -/
theorem natDegree_NumP_le2 (ω : K) (n : ℕ) (P : ProverPolys K) (ch : Chal K) (s : Seps K) (e f : ℕ)
    (he : 1 ≤ e) (hef : e ≤ f) (hn : n ≤ 4 * e + 1) (hP : PolysDeg2 P e f) :
    (NumP ω n P ch s).natDegree ≤ 4 * e + f :=
  (natDegree_NumP_le_max ω n P ch s e f he hef hP).trans (by omega)

end Plonk.Complete

namespace Plonk.Sound
open Polynomial Plonk.Quot
variable {K : Type*} [Field K]

/-- `deg Num ≤ 5e + n`, one bound `e` for all polynomials -/
theorem natDegree_NumP_le (ω : K) (n : ℕ) (P : ProverPolys K) (ch : Chal K) (s : Seps K) (e : ℕ)
    (he : 1 ≤ e) (hP : PolysDeg P e) : (NumP ω n P ch s).natDegree ≤ 5 * e + n :=
  (Complete.natDegree_NumP_le_max ω n P ch s e e he le_rfl
    ⟨hP.Q, hP.a, hP.b, hP.c, hP.d, hP.pi, hP.s1, hP.s2, hP.s3, hP.s4, hP.z⟩).trans (by omega)

end Plonk.Sound
