/-
  C06 / C01: the stage functions of the specification prover (`Plonk/Model/Prover.lean`) and what
  `prove` and `compile` return.  Stage by stage: the blinding of the wire / permutation polynomials
  (`blindPoly`), the re-randomised split of the quotient (`splitQuotient`), the RNG draws
  (`takeDraws`), the opening identity of `aggregateWitness`, the capacity of the trimmed commit key
  (`truncateLen`, `commitT`).  `prove_inv` and `compile_inv` are the case analyses of the results of
  `prove` and `compile` in terms of these stages; everything the Props files say about a proof or a
  prover key is read off them.
-/
import Plonk.Proofs.PolyBridge
import Plonk.Proofs.KzgModel
import Plonk.Proofs.FftDomain
import Plonk.Proofs.Blinding
import Plonk.Model.Prover

namespace Plonk
namespace ProverMask
open Polynomial Poly KzgMath FftMath

theorem toPoly_singleton (b : Nat) : toPoly [b] = C (toF b) := by simp

theorem degree_toPoly_lt (p : List Nat) : (toPoly p).degree < p.length := by
  rw [degree_lt_iff_coeff_zero]
  intro m hm
  rw [coeff_toPoly, List.getD_eq_default _ _ (by exact_mod_cast hm)]
  simp

theorem natDegree_toPoly_lt (p : List Nat) (hp : p ≠ []) : (toPoly p).natDegree < p.length := by
  have hlen : 0 < p.length := List.length_pos_iff.mpr hp
  by_cases h0 : toPoly p = 0
  · rw [h0]; simpa using hlen
  · exact (natDegree_lt_iff_degree_lt h0).mpr (degree_toPoly_lt p)

/-- the private helper `sub0` of `splitQuotient`, restated -/
def sub0 (l : List Nat) (b : Nat) : List Nat := match l with | [] => [] | h :: r => fsub h b :: r

theorem toPoly_sub0 (l : List Nat) (b : Nat) (hl : l ≠ []) :
    toPoly (sub0 l b) = toPoly l - C (toF b) := by
  cases l with
  | nil => exact absurd rfl hl
  | cons h r => simp [sub0]; ring

theorem length_sub0 (l : List Nat) (b : Nat) : (sub0 l b).length = l.length := by
  cases l <;> simp [sub0]

theorem splitQuotient_eq (n : Nat) (t : Poly) (b12 b13 b14 : Nat) :
    splitQuotient n t b12 b13 b14 =
      if t.length ≤ 3 * n then none else
      some (Poly.ofCoeffs (t.take n ++ [b12]),
            Poly.ofCoeffs (sub0 ((t.drop n).take n) b12 ++ [b13]),
            Poly.ofCoeffs (sub0 ((t.drop (2 * n)).take n) b13 ++ [b14]),
            Poly.ofCoeffs (sub0 (t.drop (3 * n)) b14)) := by
  unfold splitQuotient
  simp only [List.isEmpty_iff, List.drop_eq_nil_iff]
  split_ifs <;> first | rfl | omega

/-- the exact failure condition (`t_poly[3n..]` empty or out of range) -/
theorem splitQuotient_none_iff (n : Nat) (t : Poly) (b12 b13 b14 : Nat) :
    splitQuotient n t b12 b13 b14 = none ↔ t.length ≤ 3 * n := by
  rw [splitQuotient_eq]
  by_cases h : t.length ≤ 3 * n <;> simp [h]

theorem splitQuotient_some_iff {n : Nat} {t : Poly} {b12 b13 b14 : Nat} {tl tm th tf : Poly} :
    splitQuotient n t b12 b13 b14 = some (tl, tm, th, tf) ↔
      3 * n < t.length ∧ Poly.ofCoeffs (t.take n ++ [b12]) = tl ∧
        Poly.ofCoeffs (sub0 ((t.drop n).take n) b12 ++ [b13]) = tm ∧
        Poly.ofCoeffs (sub0 ((t.drop (2 * n)).take n) b13 ++ [b14]) = th ∧
        Poly.ofCoeffs (sub0 (t.drop (3 * n)) b14) = tf := by
  rw [splitQuotient_eq]
  by_cases hlen : t.length ≤ 3 * n
  · simp [hlen, not_lt.mpr hlen]
  · simp only [if_neg hlen, Option.some.injEq, Prod.mk.injEq, not_le.mp hlen, true_and]

theorem splitQuotient_mask_form {n : Nat} (hn : 0 < n) {t : Poly} {b12 b13 b14 : Nat}
    {tl tm th tf : Poly} (h : splitQuotient n t b12 b13 b14 = some (tl, tm, th, tf)) :
    3 * n < t.length ∧
    toPoly tl = toPoly (t.take n) + C (toF b12) * X ^ n ∧
    toPoly tm = toPoly ((t.drop n).take n) - C (toF b12) + C (toF b13) * X ^ n ∧
    toPoly th = toPoly ((t.drop (2 * n)).take n) - C (toF b13) + C (toF b14) * X ^ n ∧
    toPoly tf = toPoly (t.drop (3 * n)) - C (toF b14) := by
  obtain ⟨hlen, rfl, rfl, rfl, rfl⟩ := splitQuotient_some_iff.mp h
  have l1 : (t.take n).length = n := by rw [List.length_take]; omega
  have l2 : ((t.drop n).take n).length = n := by rw [List.length_take, List.length_drop]; omega
  have l3 : ((t.drop (2 * n)).take n).length = n := by
    rw [List.length_take, List.length_drop]; omega
  have ne (l : List Nat) (hl : 0 < l.length) : l ≠ [] := List.ne_nil_of_length_pos hl
  refine ⟨hlen, ?_, ?_, ?_, ?_⟩
  · rw [toPoly_ofCoeffs, toPoly_append, l1, toPoly_singleton]; ring
  · rw [toPoly_ofCoeffs, toPoly_append, length_sub0, l2, toPoly_singleton,
      toPoly_sub0 _ _ (ne _ (by omega))]; ring
  · rw [toPoly_ofCoeffs, toPoly_append, length_sub0, l3, toPoly_singleton,
      toPoly_sub0 _ _ (ne _ (by omega))]; ring
  · rw [toPoly_ofCoeffs, toPoly_sub0 _ _ (ne _ (by rw [List.length_drop]; omega))]

theorem toPoly_take_drop (t : List Nat) (n : Nat) (h : n ≤ t.length) :
    toPoly t = toPoly (t.take n) + X ^ n * toPoly (t.drop n) := by
  conv_lhs => rw [← List.take_append_drop n t]
  rw [toPoly_append, List.length_take, Nat.min_eq_left h]

theorem slices_recombine (t : List Nat) (n : Nat) (h : 3 * n ≤ t.length) :
    toPoly (t.take n) + X ^ n * toPoly ((t.drop n).take n)
      + X ^ (2 * n) * toPoly ((t.drop (2 * n)).take n) + X ^ (3 * n) * toPoly (t.drop (3 * n))
      = toPoly t := by
  have e1 := toPoly_take_drop t n (by omega)
  have e2 := toPoly_take_drop (t.drop n) n (by simp; omega)
  have e3 := toPoly_take_drop ((t.drop n).drop n) n (by simp; omega)
  rw [List.drop_drop] at e2 e3
  rw [List.drop_drop] at e3
  have a1 : n + n = 2 * n := by omega
  have a2 : 2 * n + n = 3 * n := by omega
  rw [a1] at e2 e3
  rw [a2] at e3
  rw [e1, e2, e3]; ring

/-- **the blinders telescope**: the four re-randomised shares recombine to the quotient -/
theorem split_recombine {n : Nat} (hn : 0 < n) {t : Poly} {b12 b13 b14 : Nat}
    {tl tm th tf : Poly} (h : splitQuotient n t b12 b13 b14 = some (tl, tm, th, tf)) :
    toPoly tl + X ^ n * toPoly tm + X ^ (2 * n) * toPoly th + X ^ (3 * n) * toPoly tf
      = toPoly t := by
  obtain ⟨hlen, h1, h2, h3, h4⟩ := splitQuotient_mask_form hn h
  rw [h1, h2, h3, h4, ← slices_recombine t n (by omega)]; ring

/-- lengths of the shares (for the capacity of the commit key) -/
theorem splitQuotient_lengths {n : Nat} {t : Poly} {b12 b13 b14 : Nat}
    {tl tm th tf : Poly} (h : splitQuotient n t b12 b13 b14 = some (tl, tm, th, tf)) :
    tl.length ≤ n + 1 ∧ tm.length ≤ n + 1 ∧ th.length ≤ n + 1 ∧ tf.length ≤ t.length - 3 * n := by
  obtain ⟨-, rfl, rfl, rfl, rfl⟩ := splitQuotient_some_iff.mp h
  refine ⟨le_trans (length_ofCoeffs_le _) ?_, le_trans (length_ofCoeffs_le _) ?_,
    le_trans (length_ofCoeffs_le _) ?_, le_trans (length_ofCoeffs_le _) ?_⟩
  · simp
  · simp [length_sub0]
  · simp [length_sub0]
  · simp [length_sub0]

theorem takeDraws_none_iff (n : Nat) (ds : List Nat) : takeDraws n ds = none ↔ ds.length < n := by
  unfold takeDraws; by_cases h : ds.length < n <;> simp [h]

theorem takeDraws_some_iff (n : Nat) (ds : List Nat) (a r : List Nat) :
    takeDraws n ds = some (a, r) ↔ n ≤ ds.length ∧ a = (ds.take n).map (· % R) ∧ r = ds.drop n := by
  unfold takeDraws
  by_cases h : ds.length < n
  · simp [h]
  · simp [h, eq_comm]; omega

/-- the three successive reads of `prove` (8 wire blinders, 3 permutation blinders, 3 quotient
    blinders) succeed exactly when there are 14 draws, and partition the first 14 draws -/
theorem takeDraws_stages (ds : List Nat) (h : 14 ≤ ds.length) :
    takeDraws 8 ds = some ((ds.take 8).map (· % R), ds.drop 8) ∧
    takeDraws 3 (ds.drop 8) = some (((ds.drop 8).take 3).map (· % R), ds.drop 11) ∧
    takeDraws 3 (ds.drop 11) = some (((ds.drop 11).take 3).map (· % R), ds.drop 14) := by
  refine ⟨?_, ?_, ?_⟩ <;> rw [takeDraws_some_iff] <;> simp <;> (try omega)

theorem takeDraws_stages_inv {ds wb zb tb d1 d2 d3 : List Nat}
    (h8 : takeDraws 8 ds = some (wb, d1)) (h3 : takeDraws 3 d1 = some (zb, d2))
    (h3b : takeDraws 3 d2 = some (tb, d3)) :
    14 ≤ ds.length ∧ wb = (ds.take 8).map (· % R) ∧ zb = ((ds.drop 8).take 3).map (· % R) ∧
      tb = ((ds.drop 11).take 3).map (· % R) ∧ d3 = ds.drop 14 := by
  rw [takeDraws_some_iff] at h8 h3 h3b
  obtain ⟨l1, rfl, rfl⟩ := h8
  obtain ⟨l2, rfl, rfl⟩ := h3
  obtain ⟨l3, rfl, rfl⟩ := h3b
  simp only [List.length_drop] at l2 l3
  refine ⟨by omega, rfl, rfl, ?_, ?_⟩ <;> simp [List.drop_drop]

theorem takeDraws_fail_lt {ds : List Nat}
    (h : takeDraws 8 ds = none ∨
      (∃ wb d1, takeDraws 8 ds = some (wb, d1) ∧
        (takeDraws 3 d1 = none ∨ ∃ zb d2, takeDraws 3 d1 = some (zb, d2) ∧ takeDraws 3 d2 = none))) :
    ds.length < 14 := by
  rcases h with h | ⟨wb, d1, h8, h | ⟨zb, d2, h3, h⟩⟩
  · rw [takeDraws_none_iff] at h; omega
  · rw [takeDraws_some_iff] at h8; rw [takeDraws_none_iff] at h
    obtain ⟨_, _, rfl⟩ := h8
    simp at h; omega
  · rw [takeDraws_some_iff] at h8 h3; rw [takeDraws_none_iff] at h
    obtain ⟨_, _, rfl⟩ := h8
    obtain ⟨_, _, rfl⟩ := h3
    simp at h; omega

/-- each of the first 14 draws feeds exactly one blinding site: the blinder lists that `prove`
    passes to `blindPoly` / `splitQuotient` are consecutive slices of the draw list -/
theorem draw_sites (ds : List Nat) :
    let wb := (ds.take 8).map (· % R)
    wb.take 2 = (ds.take 2).map (· % R) ∧
    (wb.drop 2).take 2 = ((ds.drop 2).take 2).map (· % R) ∧
    (wb.drop 4).take 2 = ((ds.drop 4).take 2).map (· % R) ∧
    (wb.drop 6).take 2 = ((ds.drop 6).take 2).map (· % R) ∧
    ds.take 14 = ds.take 2 ++ (ds.drop 2).take 2 ++ (ds.drop 4).take 2 ++ (ds.drop 6).take 2
                  ++ (ds.drop 8).take 3 ++ (ds.drop 11).take 3 := by
  have e (a b : Nat) : ds.take (a + b) = ds.take a ++ (ds.drop a).take b := List.take_add
  refine ⟨?_, ?_, ?_, ?_, ?_⟩
  · simp [← List.map_take, List.take_take]
  · simp [← List.map_take, ← List.map_drop, List.take_take, List.drop_take]
  · simp [← List.map_take, ← List.map_drop, List.take_take, List.drop_take]
  · simp [← List.map_take, ← List.map_drop, List.take_take, List.drop_take]
  · rw [← e 2 2, ← e 4 2, ← e 6 2, ← e 8 3, ← e 11 3]

theorem getD_map_mod_take_drop (ds : List Nat) (a i : Nat) (hi : i < 3) (h : a + 3 ≤ ds.length) :
    (((ds.drop a).take 3).map (· % R)).getD i 0 = ds.getD (a + i) 0 % R := by
  rw [List.getD_eq_getElem?_getD, List.getD_eq_getElem?_getD, List.getElem?_map,
    List.getElem?_take_of_lt hi, List.getElem?_drop]
  rw [List.getElem?_eq_getElem (by omega)]
  simp

theorem commitT_error {k : PKey} {p : Poly} {e : KErr} (h : commitT k p = .error e) :
    e = .polynomialDegreeTooLarge ∧ k.ckLen - 1 < Poly.degree p := by
  unfold commitT at h
  split at h
  · next hgt => cases h; exact ⟨rfl, hgt⟩
  · cases h

theorem commit4_error {k : PKey} {a b c d : Poly} {e : PErr} (h : commit4 k a b c d = .error e) :
    e = .commit .polynomialDegreeTooLarge := by
  unfold commit4 at h
  split at h
  · cases h
  all_goals
    cases h
    exact congrArg PErr.commit (commitT_error (by assumption)).1

theorem degree_le_length (p : Poly) : Poly.degree p ≤ p.length - 1 := by
  unfold Poly.degree
  have := length_trim_le p
  omega

/-- the degree guard of `CommitKey::commit` accepts every coefficient list not longer than the key -/
theorem commitT_ok_of_length {k : PKey} {p : Poly} (h : p.length ≤ k.ckLen) :
    commitT k p = .ok (G1.smul (Poly.evaluate (Poly.trim p) k.x) k.g) := by
  unfold commitT
  have := degree_le_length p
  rw [if_neg (by omega)]

theorem commit4_ok_of_length {k : PKey} {a b c d : Poly} (ha : a.length ≤ k.ckLen)
    (hb : b.length ≤ k.ckLen) (hc : c.length ≤ k.ckLen) (hd : d.length ≤ k.ckLen) :
    ∃ r, commit4 k a b c d = .ok r := by
  unfold commit4
  rw [commitT_ok_of_length ha, commitT_ok_of_length hb, commitT_ok_of_length hc,
    commitT_ok_of_length hd]
  exact ⟨_, rfl⟩

/-- `W·(X − z) = Σ_j v^j (p_j − p_j(z))` for the aggregate witness `W` the prover commits to -/
theorem opening_identity (ps : List Poly) (z v : Nat) :
    toPoly (aggregateWitness ps z v) * (X - C (toF z))
      = ∑ j ∈ Finset.range ps.length,
          C (toF v ^ j) * (toPoly (ps.getD j []) - C (toF (Poly.evaluate (ps.getD j []) z))) := by
  have h := aggregateWitness_quot ps z v
  rw [eval_agg] at h
  have h' : toPoly (aggregateWitness ps z v) * (X - C (toF z))
      = agg (toF v) ps.length (fun j => toPoly (ps.getD j []))
        - C (agg (toF v) ps.length (fun j => (toPoly (ps.getD j [])).eval (toF z))) := by
    rw [eq_sub_iff_add_eq]; exact h.symm
  rw [h']
  simp only [agg, smul_eq_C_mul, smul_eq_mul, evaluate_spec, mul_sub, Finset.sum_sub_distrib]
  congr 1
  rw [map_sum]
  apply Finset.sum_congr rfl
  intro j _
  rw [C_mul]

theorem ruffini_length_le (p : Poly) (z : Nat) : (Poly.ruffini p z).length ≤ p.length - 1 := by
  unfold Poly.ruffini
  have key : ∀ (l : List Nat) (acc : List Nat × Nat),
      (l.foldl (fun (acc : List Nat × Nat) c => (fadd c acc.2 :: acc.1, fmul z (fadd c acc.2))) acc).1.length
        = acc.1.length + l.length := by
    intro l
    induction l with
    | nil => intro acc; simp
    | cons c cs ih => intro acc; rw [List.foldl_cons, ih]; simp; omega
  have := key p.reverse ([], 0)
  simp only [List.length_nil, List.length_reverse, Nat.zero_add] at this
  refine le_trans (length_ofCoeffs_le _) ?_
  rw [List.length_tail]
  exact le_of_eq (by rw [← this])

theorem foldl_max_le (ps : List Poly) (L : Nat) (h : ∀ p ∈ ps, p.length ≤ L) :
    ∀ m0, m0 ≤ L → ps.foldl (fun m p => max m p.length) m0 ≤ L := by
  induction ps with
  | nil => intro m0 h0; simpa using h0
  | cons q qs ih =>
    intro m0 h0
    rw [List.foldl_cons]
    exact ih (fun p hp => h p (List.mem_cons_of_mem _ hp)) _
      (max_le h0 (h q (by simp)))

theorem aggregate_fold_length (v : Nat) (polys : List Poly) :
    ∀ (c0 : List Nat) (w : Nat),
    (polys.foldl (fun (acc : List Nat × Nat) p =>
        (Poly.zipOnto (fun c t => fadd c (fmul t acc.2)) acc.1 p, fmul acc.2 v)) (c0, w)).1.length
      = c0.length := by
  induction polys with
  | nil => intro c0 w; rfl
  | cons p ps ih => intro c0 w; rw [List.foldl_cons, ih, length_zipOnto]

theorem aggregateWitness_length_le (ps : List Poly) (z v L : Nat) (h : ∀ p ∈ ps, p.length ≤ L) :
    (aggregateWitness ps z v).length ≤ L - 1 := by
  unfold aggregateWitness
  split
  · simp
  · dsimp only
    refine le_trans (ruffini_length_le _ _) (Nat.sub_le_sub_right
      (le_trans (length_ofCoeffs_le _) ?_) 1)
    rw [aggregate_fold_length, List.length_replicate]
    exact foldl_max_le ps L h 0 (Nat.zero_le _)

/-! ### `prove` as a function of its draw list

  `prove` is a large definition; it is never unfolded on both sides of a defeq check here.  Its
  chain of `match`es is walked once, one `match` at a time (`split` / `extract_lets`), in
  `prove_inv`, which names the facts it meets on the way and therefore walks by hand (`walk_prove`
  only runs to the end of a chain whose branches all close); everything about the result of `prove`
  is read off that theorem. -/

/-- one step at a time through the `match` chain of `prove` in hypothesis `h` -/
macro "walk_prove" h:ident : tactic => `(tactic|
  repeat' first
    | split at $h:ident
    | extract_lets at $h:ident
    | (cases $h:ident; done))

theorem prove_congr_draws (k : PKey) (c : Composer) (v3 : Bool) (ds ds' : List Nat)
    {wb zb tb d1 d1' d2 d2' d3 d3' : List Nat}
    (h8 : takeDraws 8 ds = some (wb, d1)) (h8' : takeDraws 8 ds' = some (wb, d1'))
    (h3 : takeDraws 3 d1 = some (zb, d2)) (h3' : takeDraws 3 d1' = some (zb, d2'))
    (h3b : takeDraws 3 d2 = some (tb, d3)) (h3b' : takeDraws 3 d2' = some (tb, d3')) :
    prove k c ds v3 = prove k c ds' v3 := by
  simp -zeta only [prove, h8, h8', h3, h3', h3b, h3b']

/-- the restated private helper `wcol` of `prove`: a wire column on the padded domain -/
def wireCol (k : PKey) (c : Composer) (f : RowVals → Nat) : List Nat :=
  (List.range k.n).map fun i => f (c.rowVals i)

/-- **What `prove` returns.**  `NotEnoughDraws` only on fewer than 14 draws; on success the three
    reads succeeded, 14 draws were used, the commitments of the proof are those of the blinded
    polynomials and of the re-randomised quotient shares, and the opened wire / permutation
    evaluations are evaluations of the blinded polynomials.  One pass over the `match` chain. -/
theorem prove_inv (k : PKey) (c : Composer) (v3 : Bool) (ds : List Nat)
    {r : Except PErr ProveTrace} (h : prove k c ds v3 = r) :
    match r with
    | .error e => e = .notEnoughDraws → ds.length < 14
    | .ok tr => tr.drawsUsed = 14 ∧
      ∃ d perm wb d1 zb d2 tb d3 t tl tm th tf, Domain.new? k.constraints = some d ∧
        takeDraws 8 ds = some (wb, d1) ∧ takeDraws 3 d1 = some (zb, d2) ∧
        takeDraws 3 d2 = some (tb, d3) ∧
        permVec d.size d.elements (wireCol k c (·.a)) (wireCol k c (·.b)) (wireCol k c (·.c))
          (wireCol k c (·.d)) ((List.range 4).map fun i => d.fft (k.sigma.getD i []))
          tr.ch.beta tr.ch.gamma = some perm ∧
        commit4 k (blindPoly d (wireCol k c (·.a)) (wb.take 2))
            (blindPoly d (wireCol k c (·.b)) ((wb.drop 2).take 2))
            (blindPoly d (wireCol k c (·.c)) ((wb.drop 4).take 2))
            (blindPoly d (wireCol k c (·.d)) ((wb.drop 6).take 2))
          = .ok (tr.proof.aC, tr.proof.bC, tr.proof.cC, tr.proof.dC) ∧
        commitT k (blindPoly d perm zb) = .ok tr.proof.zC ∧
        t.length ≤ 7 * d.size ∧
        splitQuotient d.size t (tb.getD 0 0) (tb.getD 1 0) (tb.getD 2 0) = some (tl, tm, th, tf) ∧
        commit4 k tl tm th tf
          = .ok (tr.proof.tLow, tr.proof.tMid, tr.proof.tHigh, tr.proof.tFourth) ∧
        tr.proof.ev.a = Poly.evaluate (blindPoly d (wireCol k c (·.a)) (wb.take 2)) tr.ch.z ∧
        tr.proof.ev.b = Poly.evaluate (blindPoly d (wireCol k c (·.b)) ((wb.drop 2).take 2)) tr.ch.z ∧
        tr.proof.ev.c = Poly.evaluate (blindPoly d (wireCol k c (·.c)) ((wb.drop 4).take 2)) tr.ch.z ∧
        tr.proof.ev.d = Poly.evaluate (blindPoly d (wireCol k c (·.d)) ((wb.drop 6).take 2)) tr.ch.z ∧
        tr.proof.ev.aw = Poly.evaluate (blindPoly d (wireCol k c (·.a)) (wb.take 2))
          (fmul tr.ch.z d.groupGen) ∧
        tr.proof.ev.bw = Poly.evaluate (blindPoly d (wireCol k c (·.b)) ((wb.drop 2).take 2))
          (fmul tr.ch.z d.groupGen) ∧
        tr.proof.ev.dw = Poly.evaluate (blindPoly d (wireCol k c (·.d)) ((wb.drop 6).take 2))
          (fmul tr.ch.z d.groupGen) ∧
        tr.proof.ev.z = Poly.evaluate (blindPoly d perm zb) (fmul tr.ch.z d.groupGen) := by
  unfold prove at h
  split at h
  · subst h; rintro ⟨⟩
  split at h
  swap
  · subst h; rintro ⟨⟩
  rename_i d d8 hd hd8
  extract_lets at h
  split at h
  · rename_i h8
    subst h; exact fun _ => takeDraws_fail_lt (.inl h8)
  rename_i wb d1 h8
  extract_lets at h
  split at h
  · rename_i he
    rw [commit4_error he] at h
    subst h; rintro ⟨⟩
  rename_i aC bC cC dC hc4
  extract_lets at h
  split at h
  extract_lets at h
  split at h
  · subst h; rintro ⟨⟩
  rename_i perm hperm
  split at h
  · rename_i h3
    subst h; exact fun _ => takeDraws_fail_lt (.inr ⟨_, _, h8, .inl h3⟩)
  rename_i zb d2 h3
  extract_lets at h
  split at h
  · subst h; rintro ⟨⟩
  rename_i zC hzC
  split at h
  extract_lets at h
  split at h
  · subst h; rintro ⟨⟩
  rename_i hlen
  split at h
  · rename_i h3b
    subst h; exact fun _ => takeDraws_fail_lt (.inr ⟨_, _, h8, .inr ⟨_, _, h3, h3b⟩⟩)
  rename_i tb d3 h3b
  split at h
  · subst h; rintro ⟨⟩
  rename_i tl tm th tf hsq
  split at h
  · rename_i he
    rw [commit4_error he] at h
    subst h; rintro ⟨⟩
  rename_i tlC tmC thC tfC hc4b
  split at h
  extract_lets at h
  split at h
  extract_lets at h
  split at h
  · subst h; rintro ⟨⟩
  split at h
  extract_lets at h
  split at h
  · subst h; rintro ⟨⟩
  subst h
  -- substitute the local definitions first: the unifier would unfold `Poly.evaluate`, `blindPoly`, …
  -- on the other side before it looks at the value of a local definition
  dsimp +zetaDelta only at hperm hc4 hzC hlen hsq hc4b ⊢
  exact ⟨rfl, d, perm, wb, d1, zb, d2, tb, d3, _, tl, tm, th, tf, hd, h8, h3, h3b, hperm, hc4, hzC,
    Nat.le_of_not_lt hlen, hsq, hc4b, rfl, rfl, rfl, rfl, rfl, rfl, rfl, rfl⟩

theorem prove_first_14 (k : PKey) (c : Composer) (v3 : Bool) (ds ds' : List Nat)
    (h : 14 ≤ ds.length) (h' : 14 ≤ ds'.length)
    (heq : (ds.take 14).map (· % R) = (ds'.take 14).map (· % R)) :
    prove k c ds v3 = prove k c ds' v3 := by
  obtain ⟨h8, h3, h3b⟩ := takeDraws_stages ds h
  obtain ⟨h8', h3', h3b'⟩ := takeDraws_stages ds' h'
  have e1 : (ds.take 8).map (· % R) = (ds'.take 8).map (· % R) := by
    have := congrArg (List.take 8) heq
    simpa [← List.map_take, List.take_take] using this
  have e2 : ((ds.drop 8).take 3).map (· % R) = ((ds'.drop 8).take 3).map (· % R) := by
    have := congrArg (fun l => (l.drop 8).take 3) heq
    simpa [← List.map_take, ← List.map_drop, List.take_take, List.drop_take] using this
  have e3 : ((ds.drop 11).take 3).map (· % R) = ((ds'.drop 11).take 3).map (· % R) := by
    have := congrArg (fun l => (l.drop 11).take 3) heq
    simpa [← List.map_take, ← List.map_drop, List.take_take, List.drop_take] using this
  rw [e1] at h8; rw [e2] at h3; rw [e3] at h3b
  exact prove_congr_draws k c v3 ds ds' h8 h8' h3 h3' h3b h3b'

theorem prove_append (k : PKey) (c : Composer) (v3 : Bool) (ds extra : List Nat)
    (h : ds.length = 14) : prove k c (ds ++ extra) v3 = prove k c ds v3 := by
  apply prove_first_14 k c v3 _ _ (by simp; omega) (by omega)
  rw [List.take_append_of_le_length (by omega)]

theorem nextPow2_go_eq (n : Nat) : ∀ f p, nextPow2.go n f p = nextPow2'.go n f p := by
  intro f
  induction f with
  | zero => intro p; rfl
  | succ f ih => intro p; unfold nextPow2.go nextPow2'.go; rw [ih]

theorem nextPow2_eq (n : Nat) : nextPow2 n = nextPow2' n := nextPow2_go_eq n 64 1

theorem nextPow2_mono {n n' : Nat} (h : n ≤ n') : nextPow2 n ≤ nextPow2 n' := by
  rw [nextPow2_eq, nextPow2_eq]; exact nextPow2'_mono h

theorem truncateLen_ok_iff (len d ck : Nat) :
    truncateLen len d = .ok ck ↔
      d ≠ 0 ∧ d ≤ len - 1 ∧ ck = min len ((if d = 1 then 2 else d) + 1) := by
  unfold truncateLen
  by_cases h0 : d = 0
  · simp [h0]
  · by_cases h1 : d > len - 1
    · simp [h0, h1]
    · simp only [beq_iff_eq, h0, if_false, h1, Except.ok.injEq, ne_eq, not_false_eq_true,
        true_and]
      constructor
      · rintro rfl; exact ⟨by omega, rfl⟩
      · rintro ⟨_, rfl⟩; rfl

theorem truncateLen_tooLarge_iff (len d : Nat) :
    truncateLen len d = .error .truncatedDegreeTooLarge ↔ d ≠ 0 ∧ d > len - 1 := by
  unfold truncateLen
  by_cases h0 : d = 0
  · simp [h0]
  · by_cases h1 : d > len - 1
    · simp [h0, h1]
    · simp [h0, h1]

/-- **capacity**: the key the compiler trims to holds `nextPow2 c + 7` coefficients, for every
    constraint count `c` -/
theorem capacity (c srsLen ckLen : Nat)
    (h : truncateLen srsLen (nextPow2 (c + Generated.CIRCUIT_SIZE_PADDING)
          + Generated.ADDED_BLINDING_DEGREE) = .ok ckLen) :
    ckLen = nextPow2 (c + Generated.CIRCUIT_SIZE_PADDING) + 7 ∧ nextPow2 c + 7 ≤ ckLen := by
  rw [truncateLen_ok_iff] at h
  obtain ⟨_, h1, h2⟩ := h
  have hm := nextPow2_mono (Nat.le_add_right c Generated.CIRCUIT_SIZE_PADDING)
  rw [blinding_eq] at h1 h2
  generalize nextPow2 (c + Generated.CIRCUIT_SIZE_PADDING) = m at *
  have : ¬ (m + 6 = 1) := by omega
  rw [if_neg this] at h2
  omega

/-- **What `compile` returns**: `TruncatedDegreeTooLarge` only from the trimming of the key; on
    success, what the prover key records.  One pass over the `match` chain. -/
theorem compile_inv (srs : SRS) (srsLen : Nat) (label : List Nat) (c : Composer)
    {r : Except PErr PKey} (h : compile srs srsLen label c = r) :
    match r with
    | .error e => e = .compile .truncatedDegreeTooLarge →
        nextPow2 (c.gates.size + Generated.CIRCUIT_SIZE_PADDING) + Generated.ADDED_BLINDING_DEGREE
          > srsLen - 1
    | .ok k =>
        truncateLen srsLen (nextPow2 (c.gates.size + Generated.CIRCUIT_SIZE_PADDING)
          + Generated.ADDED_BLINDING_DEGREE) = .ok k.ckLen ∧
        k.constraints = c.gates.size ∧ k.x = srs.x ∧ k.g = srs.g ∧
        ∃ d, Domain.new? (nextPow2 c.gates.size - 1) = some d ∧ k.n = d.size := by
  simp -zeta only [compile] at h
  extract_lets at h
  split at h
  · rename_i e he
    subst h
    intro heq
    cases heq
    exact ((truncateLen_tooLarge_iff _ _).1 he).2
  rename_i ckLen hck
  split at h
  · subst h; rintro ⟨⟩
  rename_i d hd
  extract_lets at h
  split at h
  · rename_i e he
    cases commit4_error he
    subst h; rintro ⟨⟩
  · rename_i e _ he
    rw [commit4_error he] at h
    subst h; rintro ⟨⟩
  extract_lets at h
  split at h
  · subst h; rintro ⟨⟩
  subst h
  exact ⟨hck, rfl, rfl, rfl, d, hd, rfl⟩

theorem Domain.new?_size_eq {m : Nat} {d : Domain} (h : Domain.new? m = some d) :
    d.size = nextPow2' m := by
  obtain ⟨j, -, hp, rfl⟩ := Domain.new?_inv m d h
  exact hp.symm

theorem take_drop_two (ds : List Nat) (a : Nat) (h : a + 2 ≤ ds.length) :
    (ds.drop a).take 2 = [ds.getD a 0, ds.getD (a + 1) 0] := by
  rw [List.drop_eq_getElem_cons (show a < ds.length by omega),
    List.drop_eq_getElem_cons (show a + 1 < ds.length by omega),
    List.getD_eq_getElem _ _ (show a < ds.length by omega),
    List.getD_eq_getElem _ _ (show a + 1 < ds.length by omega)]
  rfl

theorem take_drop_three (ds : List Nat) (a : Nat) (h : a + 3 ≤ ds.length) :
    (ds.drop a).take 3 = [ds.getD a 0, ds.getD (a + 1) 0, ds.getD (a + 2) 0] := by
  rw [List.drop_eq_getElem_cons (show a < ds.length by omega),
    List.drop_eq_getElem_cons (show a + 1 < ds.length by omega),
    List.drop_eq_getElem_cons (show a + 1 + 1 < ds.length by omega),
    List.getD_eq_getElem _ _ (show a < ds.length by omega),
    List.getD_eq_getElem _ _ (show a + 1 < ds.length by omega),
    List.getD_eq_getElem _ _ (show a + 2 < ds.length by omega)]
  rfl

/-- the blinder lists that `prove` hands to `blindPoly`, entry by entry: draws number `0..10` -/
theorem blinder_sites (ds : List Nat) (h : 14 ≤ ds.length) :
    let wb := (ds.take 8).map (· % R)
    wb.take 2 = [ds.getD 0 0 % R, ds.getD 1 0 % R] ∧
    (wb.drop 2).take 2 = [ds.getD 2 0 % R, ds.getD 3 0 % R] ∧
    (wb.drop 4).take 2 = [ds.getD 4 0 % R, ds.getD 5 0 % R] ∧
    (wb.drop 6).take 2 = [ds.getD 6 0 % R, ds.getD 7 0 % R] ∧
    ((ds.drop 8).take 3).map (· % R) = [ds.getD 8 0 % R, ds.getD 9 0 % R, ds.getD 10 0 % R] := by
  obtain ⟨s1, s2, s3, s4, -⟩ := draw_sites ds
  have t0 := take_drop_two ds 0 (by omega)
  rw [List.drop_zero] at t0
  refine ⟨?_, ?_, ?_, ?_, ?_⟩
  · rw [s1, t0]; rfl
  · rw [s2, take_drop_two ds 2 (by omega)]; rfl
  · rw [s3, take_drop_two ds 4 (by omega)]; rfl
  · rw [s4, take_drop_two ds 6 (by omega)]; rfl
  · rw [take_drop_three ds 8 (by omega)]; rfl

/-- mask of a wire polynomial: `(b₁ + b₂X)(Xⁿ − 1)` evaluated at `x` -/
def mask2 (n : Nat) (b1 b2 : Nat) (x : F) : F := (toF b1 + toF b2 * x) * (x ^ n - 1)
/-- mask of the permutation polynomial: `(b₁ + b₂X + b₃X²)(Xⁿ − 1)` evaluated at `x` -/
def mask3 (n : Nat) (b1 b2 b3 : Nat) (x : F) : F :=
  (toF b1 + toF b2 * x + toF b3 * x ^ 2) * (x ^ n - 1)

theorem blindPoly_eval2 (d : Domain) (hd : d.WF) (w : List Nat) (b1 b2 z : Nat) :
    toF (Poly.evaluate (blindPoly d w [b1 % R, b2 % R]) z)
      = (toPoly (Poly.ofCoeffs (d.ifft w))).eval (toF z) + mask2 d.size b1 b2 (toF z) := by
  rw [blindPoly_eval d hd, evaluate_spec]
  simp only [mask2, toPoly_cons, toPoly_nil, toF_mod, eval_add, eval_mul, eval_C, eval_X,
    mul_zero, add_zero]
  ring

theorem blindPoly_eval3 (d : Domain) (hd : d.WF) (w : List Nat) (b1 b2 b3 z : Nat) :
    toF (Poly.evaluate (blindPoly d w [b1 % R, b2 % R, b3 % R]) z)
      = (toPoly (Poly.ofCoeffs (d.ifft w))).eval (toF z) + mask3 d.size b1 b2 b3 (toF z) := by
  rw [blindPoly_eval d hd, evaluate_spec]
  simp only [mask3, toPoly_cons, toPoly_nil, toF_mod, eval_add, eval_mul, eval_C, eval_X,
    mul_zero, add_zero]
  ring

theorem commitments_fit (k : PKey) (d : Domain) (hd : d.WF) (hcap : d.size + 7 ≤ k.ckLen) :
    (∀ w bs : List Nat, bs.length ≤ 7 → ∃ g, commitT k (blindPoly d w bs) = .ok g) ∧
    (∀ (t : Poly) (b12 b13 b14 : Nat) (tl tm th tf : Poly),
      splitQuotient d.size t b12 b13 b14 = some (tl, tm, th, tf) → t.length ≤ 4 * d.size + 7 →
      ∃ r, commit4 k tl tm th tf = .ok r) ∧
    (∀ (ps : List Poly) (z v : Nat), (∀ p ∈ ps, p.length ≤ d.size + 8) →
      ∃ g, commitT k (aggregateWitness ps z v) = .ok g) := by
  refine ⟨fun w bs hbs => ⟨_, commitT_ok_of_length ?_⟩, fun t b12 b13 b14 tl tm th tf h ht => ?_,
    fun ps z v hps => ⟨_, commitT_ok_of_length ?_⟩⟩
  · have := blindPoly_length_le d hd w bs; omega
  · obtain ⟨l1, l2, l3, l4⟩ := splitQuotient_lengths h
    exact commit4_ok_of_length (by omega) (by omega) (by omega) (by omega)
  · have := aggregateWitness_length_le ps z v _ hps; omega

theorem commitT_ok_val {k : PKey} {p : Poly} {g : G1} (h : commitT k p = .ok g) :
    g = G1.smul (Poly.evaluate (Poly.trim p) k.x) k.g := by
  unfold commitT at h
  split at h
  · cases h
  · cases h; rfl

end ProverMask
end Plonk
