/-
  Field-level facts about the multiplicative subgroup `H = {ω^i | i < n}` generated by a primitive
  `n`-th root of unity: the vanishing polynomial `X^n − 1 = ∏ (X − ω^i)`, the closed form of the
  Lagrange basis `L_i(τ) = (τ^n − 1)·ω^i / (n·(τ − ω^i))`, interpolation.
-/
import Mathlib.LinearAlgebra.Lagrange
import Mathlib.RingTheory.RootsOfUnity.PrimitiveRoots
import Mathlib.Algebra.Polynomial.Derivative
import Mathlib.Tactic.Ring
import Mathlib.Tactic.FieldSimp
import Mathlib.Tactic.LinearCombination
import Plonk.Proofs.FftMath

namespace Plonk.PolyC19
open Polynomial Finset FftMath

section
variable {K : Type*} [Field K] {ω : K} {n : ℕ}

/-- closed form of the `i`-th Lagrange basis polynomial of `H` at `τ` -/
noncomputable def lagrangeF (n : ℕ) (ω τ : K) (i : ℕ) : K :=
  (τ ^ n - 1) * ω ^ i / ((n : K) * (τ - ω ^ i))

theorem injOn_pow_of_primitive (h : IsPrimitiveRoot ω n) :
    Set.InjOn (fun i : ℕ => ω ^ i) (range n : Finset ℕ) := by
  intro i hi j hj hij
  exact h.pow_inj (mem_range.mp hi) (mem_range.mp hj) hij

/-- `X^n − 1 = ∏_{i<n} (X − ω^i)` -/
theorem nodal_pow_eq (hn : 0 < n) (h : IsPrimitiveRoot ω n) :
    Lagrange.nodal (range n) (fun i : ℕ => ω ^ i) = X ^ n - 1 := by
  have hC : (X ^ n - 1 : K[X]) = X ^ n - C 1 := by simp
  symm
  apply Polynomial.eq_of_degree_sub_lt_of_eval_index_eq (range n) (v := fun i : ℕ => ω ^ i)
    (injOn_pow_of_primitive h)
  · have hd : (X ^ n - 1 : K[X]).degree = (Lagrange.nodal (range n) fun i : ℕ => ω ^ i).degree := by
      rw [hC, degree_X_pow_sub_C hn, Lagrange.degree_nodal, card_range]
    have hne : (X ^ n - 1 : K[X]) ≠ 0 := by rw [hC]; exact X_pow_sub_C_ne_zero hn 1
    have hl : (X ^ n - 1 : K[X]).leadingCoeff =
        (Lagrange.nodal (range n) fun i : ℕ => ω ^ i).leadingCoeff := by
      rw [hC, (monic_X_pow_sub_C (1 : K) hn.ne').leadingCoeff, Lagrange.nodal_monic.leadingCoeff]
    have h1 := degree_sub_lt_left hd hne hl
    have h2 : (X ^ n - 1 : K[X]).degree = n := by rw [hC, degree_X_pow_sub_C hn]
    rw [h2] at h1
    rw [card_range]; exact h1
  · intro i hi
    rw [Lagrange.eval_nodal_at_node hi]
    simp only [eval_sub, eval_pow, eval_X, eval_one]
    rw [pow_pow_eq_one h.pow_eq_one, sub_self]

/-- the vanishing polynomial of `H` evaluated: `τ^n − 1 = ∏_{i<n} (τ − ω^i)` -/
theorem vanishing_eq_prod (hn : 0 < n) (h : IsPrimitiveRoot ω n) (τ : K) :
    τ ^ n - 1 = ∏ i ∈ range n, (τ - ω ^ i) := by
  have := congrArg (eval τ) (nodal_pow_eq hn h)
  rw [Lagrange.eval_nodal] at this
  simpa using this.symm

/-- the barycentric weight of the node `ω^i` is `ω^i / n` -/
theorem nodalWeight_pow (hn : 0 < n) (h : IsPrimitiveRoot ω n) {i : ℕ} (hi : i < n) :
    Lagrange.nodalWeight (range n) (fun i : ℕ => ω ^ i) i = ω ^ i / (n : K) := by
  rw [Lagrange.nodalWeight_eq_eval_derivative_nodal (mem_range.mpr hi), nodal_pow_eq hn h]
  have hω : ω ≠ 0 := h.ne_zero hn.ne'
  have hn0 : (n : K) ≠ 0 := natCast_ne_zero_of_primitive hn h
  have hpow : (ω ^ i) ^ (n - 1) * ω ^ i = 1 := by
    rw [← pow_succ, Nat.sub_add_cancel hn, pow_pow_eq_one h.pow_eq_one]
  simp only [derivative_sub, derivative_X_pow, derivative_one, sub_zero, eval_mul, eval_pow, eval_X,
    eval_C]
  have hwi : ω ^ i ≠ 0 := pow_ne_zero _ hω
  have : (ω ^ i) ^ (n - 1) = (ω ^ i)⁻¹ := eq_inv_of_mul_eq_one_left hpow
  rw [this]
  field_simp

/-- membership in `H` -/
theorem pow_eq_one_iff_mem (hn : 0 < n) (h : IsPrimitiveRoot ω n) (τ : K) :
    τ ^ n = 1 ↔ ∃ i < n, τ = ω ^ i := by
  have : NeZero n := ⟨hn.ne'⟩
  constructor
  · intro hτ
    obtain ⟨i, hi, e⟩ := h.eq_pow_of_pow_eq_one hτ
    exact ⟨i, hi, e.symm⟩
  · rintro ⟨i, _, rfl⟩
    exact pow_pow_eq_one h.pow_eq_one i

/-- outside `H` the closed form is the value of the Lagrange basis polynomial
    `∏_{j≠i} (X − ω^j)/(ω^i − ω^j)` -/
theorem lagrangeF_eq_basis (hn : 0 < n) (h : IsPrimitiveRoot ω n) {τ : K} (hτ : τ ^ n ≠ 1)
    {i : ℕ} (hi : i < n) :
    lagrangeF n ω τ i = eval τ (Lagrange.basis (range n) (fun i : ℕ => ω ^ i) i) := by
  have hne : τ ≠ ω ^ i := by
    intro e; exact hτ ((pow_eq_one_iff_mem hn h τ).mpr ⟨i, hi, e⟩)
  rw [Lagrange.eval_basis_not_at_node (mem_range.mpr hi) hne, nodal_pow_eq hn h,
    nodalWeight_pow hn h hi]
  rw [lagrangeF, eval_sub, eval_pow, eval_X, eval_one, div_eq_mul_inv, div_eq_mul_inv, mul_inv]
  ring

/-- interpolation: `Σ_i L_i(τ)·f(ω^i) = f(τ)` for every `f` of degree `< n` -/
theorem sum_lagrangeF_mul_eval (hn : 0 < n) (h : IsPrimitiveRoot ω n) {τ : K} (hτ : τ ^ n ≠ 1)
    (f : K[X]) (hf : f.degree < n) :
    ∑ i ∈ range n, lagrangeF n ω τ i * f.eval (ω ^ i) = f.eval τ := by
  have hf' : f.degree < (#(range n) : ℕ) := by rwa [card_range]
  have e := Lagrange.eq_interpolate (s := range n) (v := fun i : ℕ => ω ^ i)
    (injOn_pow_of_primitive h) hf'
  conv_rhs => rw [e, Lagrange.interpolate_apply, eval_finsetSum]
  apply sum_congr rfl
  intro i hi
  rw [lagrangeF_eq_basis hn h hτ (mem_range.mp hi)]
  simp [mul_comm]

/-- on `H` the closed form vanishes (numerator `τ^n − 1 = 0`) -/
theorem lagrangeF_of_mem {τ : K} (hτ : τ ^ n = 1) (i : ℕ) : lagrangeF n ω τ i = 0 := by
  unfold lagrangeF; rw [hτ]; simp

/-- the form used by the barycentric code: `(Z_H(τ)/n) / (ω^{-i}·τ − 1) = L_i(τ)` -/
theorem lagrangeF_eq_inv_form (hn : 0 < n) (h : IsPrimitiveRoot ω n) (τ : K) (i : ℕ) :
    (τ ^ n - 1) * (n : K)⁻¹ * ((ω⁻¹) ^ i * τ - 1)⁻¹ = lagrangeF n ω τ i := by
  have hω : ω ^ i ≠ 0 := pow_ne_zero _ (h.ne_zero hn.ne')
  -- `ω⁻ⁱ·τ − 1 = ω⁻ⁱ·(τ − ωⁱ)`; with `0⁻¹ = 0` no case distinction on `τ = ωⁱ` is needed
  have e : (ω⁻¹) ^ i * τ - 1 = (ω ^ i)⁻¹ * (τ - ω ^ i) := by
    rw [inv_pow, mul_sub, inv_mul_cancel₀ hω]
  rw [e, mul_inv, inv_inv, lagrangeF, div_eq_mul_inv, mul_inv]
  ring
end

end Plonk.PolyC19
