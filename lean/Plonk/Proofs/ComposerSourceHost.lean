/-
  Host-side lemma for the tie of `add_point_gates` (used by `Plonk/Proofs/ComposerSource.lean`): the witness values the
  Rust code computes with dusk-jubjub's EXTENDED mixed addition (`JubJubExtended::from(p1) + p2`, identity when `Z = 0`,
  projection `(U/Z, V/Z)` otherwise) are the model's AFFINE `edAddOrId p1 p2` — for arbitrary coordinates, on or off the
  curve.  (The extended formulas themselves are the model of the external crate, `Plonk/Model/Jubjub.lean`.)
-/
import Plonk.Proofs.Edwards
import Plonk.GeneratedComposer

namespace Plonk.ComposerSource
open Plonk Plonk.GeneratedComposer

attribute [local irreducible] finv

theorem four_ne_zero_F : (4 : F) ≠ 0 := by
  have : (4 : F) = 2 * 2 := by ring
  rw [this]; exact mul_ne_zero two_ne_zero_F two_ne_zero_F

/-- the mixed extended sum of two affine points -/
def hostSum (p q : Pt) : Ext := Ext.add (Ext.ofAffine p) (Ext.ofAffine q)

abbrev kF (p q : Pt) : F := dF * toF p.1 * toF q.1 * toF p.2 * toF q.2

theorem hostSum_z (p q : Pt) : toF (hostSum p q).z = 4 * (1 - kF p q) * (1 + kF p q) := by
  simp only [hostSum, Ext.add, Ext.ofAffine, toF_fmul, toF_fsub, toF_fadd, toF_mod, toF_one, toF_two, toF_EDWARDS_D, kF]
  ring

theorem hostSum_u (p q : Pt) :
    toF (hostSum p q).u = (2 * (toF p.1 * toF q.2 + toF p.2 * toF q.1)) * (2 * (1 - kF p q)) := by
  simp only [hostSum, Ext.add, Ext.ofAffine, toF_fmul, toF_fsub, toF_fadd, toF_mod, toF_one, toF_two, toF_EDWARDS_D, kF]
  ring

theorem hostSum_v (p q : Pt) :
    toF (hostSum p q).v = (2 * (1 + kF p q)) * (2 * (toF p.2 * toF q.2 + toF p.1 * toF q.1)) := by
  simp only [hostSum, Ext.add, Ext.ofAffine, toF_fmul, toF_fsub, toF_fadd, toF_mod, toF_one, toF_two, toF_EDWARDS_D, kF]
  ring

theorem edAddOrId_of_some {p q s : Pt} (h : edAdd? p q = some s) : edAddOrId p q = s := by
  unfold edAddOrId; rw [h]; rfl

theorem edAddOrId_of_none {p q : Pt} (h : edAdd? p q = none) : edAddOrId p q = Pt.id := by
  unfold edAddOrId; rw [h]; rfl

theorem proj_u (N A B : F) (hA : A ≠ 0) (hB : B ≠ 0) :
    (2 * N) * (2 * B) * (4 * B * A)⁻¹ = N / A := by
  have h4 := four_ne_zero_F
  field_simp
  ring

theorem proj_v (M A B : F) (hA : A ≠ 0) (hB : B ≠ 0) :
    (2 * A) * (2 * M) * (4 * B * A)⁻¹ = M / B := by
  have h4 := four_ne_zero_F
  field_simp
  ring

/-- the host-side projection with the `Z = 0` guard, for an arbitrary extended point -/
def projOrId (S : Ext) : Pt := if S.z == 0 then Pt.id else jjAffineFromExt S

theorem projOrId_of_zero (S : Ext) (h : (S.z == 0) = true) : projOrId S = Pt.id := by
  unfold projOrId; rw [if_pos h]

theorem projOrId_of_ne (S : Ext) (h : ¬ (S.z == 0) = true) :
    projOrId S = (fmul S.u (finv S.z), fmul S.v (finv S.z)) := by
  unfold projOrId jjAffineFromExt Ext.toAffine?
  rw [if_neg h, if_neg h]
  simp only [Option.getD_some]

/-- field-level characterisation: if `S` has the coordinates of the mixed sum of `p` and `q`, then `projOrId S` is the
    model's affine `edAddOrId p q` -/
theorem projOrId_eq (p q : Pt) (S : Ext) (hlt : S.z < R)
    (hz : toF S.z = 4 * (1 - kF p q) * (1 + kF p q))
    (hu : toF S.u = (2 * (toF p.1 * toF q.2 + toF p.2 * toF q.1)) * (2 * (1 - kF p q)))
    (hv : toF S.v = (2 * (1 + kF p q)) * (2 * (toF p.2 * toF q.2 + toF p.1 * toF q.1))) :
    projOrId S = edAddOrId p q := by
  by_cases hpole : (1 + kF p q) = 0 ∨ (1 - kF p q) = 0
  · have hz0 : toF S.z = 0 := by
      rw [hz]; rcases hpole with h | h <;> rw [h] <;> ring
    rw [projOrId_of_zero S ((beq_zero_iff hlt).mpr hz0)]
    exact (edAddOrId_of_none ((edAdd?_eq_none_iff p q).mpr hpole)).symm
  · rw [not_or] at hpole
    obtain ⟨hA, hB⟩ := hpole
    have hz0 : toF S.z ≠ 0 := by
      rw [hz]; exact mul_ne_zero (mul_ne_zero four_ne_zero_F hB) hA
    have hne : ¬ (S.z == 0) = true := fun h => hz0 ((beq_zero_iff hlt).mp h)
    rw [projOrId_of_ne S hne]
    refine (edAddOrId_of_some ((edAdd?_eq_some_iff p q _).mpr ⟨hA, hB, fmul_lt _ _, fmul_lt _ _, ?_, ?_⟩)).symm
    · show toF (fmul S.u (finv S.z)) = _
      rw [toF_fmul, toF_finv, hu, hz]
      exact proj_u _ _ _ hA hB
    · show toF (fmul S.v (finv S.z)) = _
      rw [toF_fmul, toF_finv, hv, hz]
      exact proj_v _ _ _ hA hB

/-- in the exact shape the translator emits (`sum.get_z() == BlsScalar::zero()`) -/
theorem host_sum_eq (p q : Pt) :
    (if (Ext.add (Ext.ofAffine p) (Ext.ofAffine q)).z == intoScalar 0 then Pt.id
     else jjAffineFromExt (Ext.add (Ext.ofAffine p) (Ext.ofAffine q))) = edAddOrId p q :=
  projOrId_eq p q (hostSum p q) (fmul_lt _ _) (hostSum_z p q) (hostSum_u p q) (hostSum_v p q)

end Plonk.ComposerSource
