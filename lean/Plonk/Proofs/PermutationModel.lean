/-
  C05 (permutation half), part 7: the grand-product argument instantiated with the model's
  permutation `σ = sigmaFn lay` (the function tabulated by `sigmaMaps lay n`), the labels
  `id(col, i) = K_col · ω^i` and the position set `{0..3} × {0..n-1}`.
-/
import Plonk.Proofs.PermutationCosets
import Plonk.Proofs.PermutationCopy
import Plonk.Proofs.PermutationProduct
import Mathlib.Algebra.BigOperators.Intervals

namespace Plonk
namespace Perm

/-- the position set `{0..3} × {0..n-1}` -/
def posSet (n : Nat) : Finset Pos := Finset.range 4 ×ˢ Finset.range n

theorem mem_posSet (n : Nat) (p : Pos) : p ∈ posSet n ↔ p.1 < 4 ∧ p.2 < n := by
  simp [posSet, Finset.mem_product]

theorem posSet_card (n : Nat) : (posSet n).card = 4 * n := by
  simp [posSet, Finset.card_product]

/-- reading the model's table gives `σ` -/
theorem readS_sigmaMaps (c : Composer) (n : Nat) (p : Pos) (h1 : p.1 < 4) (h2 : p.2 < n) :
    ((sigmaMaps c n).getD p.1 #[]).getD p.2 p = sigmaFn c p := by
  rw [sigmaMaps_eq_table]
  simp [tableOf, Array.getD_eq_getD_getElem?, h1, h2]

/-- `σ` maps the position set bijectively onto itself -/
theorem sigmaFn_bijOn (c : Composer) (n : Nat) (hn : c.gates.size ≤ n) :
    Set.BijOn (sigmaFn c) (posSet n : Set Pos) (posSet n : Set Pos) := by
  refine ⟨?_, (sigmaFn_injective c).injOn, ?_⟩
  · intro p hp
    have hp' := (mem_posSet n p).mp hp
    exact (mem_posSet n _).mpr (sigmaFn_mem_pos c n hn p hp'.1 hp'.2)
  · intro q hq
    obtain ⟨p, rfl⟩ := sigmaFn_surjective c q
    have hq' := (mem_posSet n _).mp hq
    exact ⟨p, (mem_posSet n p).mpr (sigmaFn_preimage_mem_pos c n hn p hq'.1 hq'.2), rfl⟩

theorem idLabel_injOn_posSet {ω : F} {k : Nat} (hk : k ≤ 32) (hω : IsPrimitiveRoot ω (2 ^ k)) :
    Set.InjOn (idLabel ω) (posSet (2 ^ k) : Set Pos) := by
  intro p hp q hq h
  have hp' := (mem_posSet _ p).mp hp
  have hq' := (mem_posSet _ q).mp hq
  exact idLabel_injOn hk hω hp'.1 hp'.2 hq'.1 hq'.2 h

/-- soundness of the grand-product check for the model's permutation: for wire values
    `val` (committed before `β` is drawn) there are at most `(4n)²` bad `β`; for any other `β`,
    agreement of the two products for more than `4n` values of `γ` forces `val ∘ σ = val`. -/
theorem perm_product_sound_model (lay : Composer) (n : Nat) (hn : lay.gates.size ≤ n)
    (idl : Pos → F) (hinj : Set.InjOn idl (posSet n : Set Pos)) (val : Pos → F) :
    ∃ B : Finset F, B.card ≤ (4 * n) * (4 * n) ∧
      ∀ β, β ∉ B → ∀ Γ : Finset F, 4 * n < Γ.card →
        (∀ γ ∈ Γ, ∏ p ∈ posSet n, (val p + β * idl p + γ) =
                  ∏ p ∈ posSet n, (val p + β * idl (sigmaFn lay p) + γ)) →
        ∀ p, val (sigmaFn lay p) = val p := by
  classical
  obtain ⟨B, hB, h⟩ := perm_product_sound (posSet n) val idl (sigmaFn lay)
    (fun p hp => (sigmaFn_bijOn lay _ hn).mapsTo hp) hinj
  rw [posSet_card] at hB h
  refine ⟨B, hB, ?_⟩
  intro β hβ Γ hΓ hprod p
  by_cases hp : p ∈ posSet n
  · exact h β hβ Γ hΓ hprod p hp
  · have : ¬ Active lay p := by
      intro ha
      exact hp ((mem_posSet _ p).mpr ⟨ha.1.1, Nat.lt_of_lt_of_le ha.1.2 hn⟩)
    rw [sigmaFn_of_not_active this]

/-- completeness: values that respect `σ` make the two products agree for all `β`, `γ` -/
theorem perm_product_complete_model (lay : Composer) (n : Nat) (hn : lay.gates.size ≤ n)
    (idl : Pos → F) (val : Pos → F) (hval : ∀ p, val (sigmaFn lay p) = val p) (β γ : F) :
    ∏ p ∈ posSet n, (val p + β * idl p + γ) = ∏ p ∈ posSet n, (val p + β * idl (sigmaFn lay p) + γ) := by
  have hb := sigmaFn_bijOn lay n hn
  exact perm_product_complete (posSet n) val idl (sigmaFn lay) (fun p hp => hb.mapsTo hp)
    hb.injOn hb.surjOn (fun p _ => hval p) β γ

/-- the chain down to the model's decision procedure: if the grand products built from the wire
    values of the proving-time composer `c` agree (good `β`, enough `γ`), then
    `copyViolation lay c = none` -/
theorem grand_product_no_copy_violation (lay c : Composer) {k : Nat} (hk : k ≤ 32)
    (hn : lay.gates.size ≤ 2 ^ k) {ω : F} (hω : IsPrimitiveRoot ω (2 ^ k))
    (hred : ∀ p, valAt c p < R) :
    ∃ B : Finset F, B.card ≤ (4 * 2 ^ k) * (4 * 2 ^ k) ∧
      ∀ β, β ∉ B → ∀ Γ : Finset F, 4 * 2 ^ k < Γ.card →
        (∀ γ ∈ Γ, ∏ p ∈ posSet (2 ^ k), (toF (valAt c p) + β * idLabel ω p + γ) =
                  ∏ p ∈ posSet (2 ^ k), (toF (valAt c p) + β * idLabel ω (sigmaFn lay p) + γ)) →
        Composer.copyViolation lay c = none := by
  obtain ⟨B, hB, h⟩ := perm_product_sound_model lay _ hn _ (idLabel_injOn_posSet hk hω) (fun p => toF (valAt c p))
  refine ⟨B, hB, ?_⟩
  intro β hβ Γ hΓ hprod
  have := h β hβ Γ hΓ hprod
  rw [copyViolation_eq_none_iff, ← respects_iff_const]
  intro p
  exact (toF_inj_of_lt (hred _) (hred _)).mp (this p)

/-! ### links to `compile` (the interpolated σ columns) and to `permVec` (row factors) -/

/-- column `col` of the model's table, as the list that `compile` interpolates -/
theorem sigmaMaps_column (c : Composer) (n col : Nat) (hcol : col < 4) :
    ((sigmaMaps c n).getD col #[]).toList = (List.range n).map fun i => sigmaFn c (col, i) := by
  rw [sigmaMaps_eq_table]
  simp [tableOf, Array.getD_eq_getD_getElem?, hcol]

/-- the evaluation vector of `s_sigma_{col+1}` built by `compile` -/
theorem sigma_column_evals (c : Composer) (n col : Nat) (hcol : col < 4) (roots : Array Nat) :
    ((sigmaMaps c n).getD col #[]).toList.map (fun (cc, i) => fmul (kOf cc) (roots.getD i 0)) =
      (List.range n).map fun i =>
        fmul (kOf (sigmaFn c (col, i)).1) (roots.getD (sigmaFn c (col, i)).2 0) := by
  rw [sigmaMaps_column c n col hcol, List.map_map]
  rfl

/-- the model's label `K_col · root_i` is `idLabel` when `root_i` represents `ω^i` -/
theorem toF_label (ω : F) (roots : Array Nat) (p : Pos) (h : toF (roots.getD p.2 0) = ω ^ p.2) :
    toF (fmul (kOf p.1) (roots.getD p.2 0)) = idLabel ω p := by
  rw [toF_fmul, h]; rfl

/-- a product over the position set is the product over the rows of the four column factors
    (the shape of `permVec`'s `nums` / `dens`) -/
theorem prod_posSet_rows (n : Nat) (f : Pos → F) :
    ∏ p ∈ posSet n, f p = ∏ i ∈ Finset.range n, (f (0, i) * f (1, i) * f (2, i) * f (3, i)) := by
  unfold posSet
  rw [Finset.prod_product_right]
  refine Finset.prod_congr rfl (fun i _ => ?_)
  simp [Finset.prod_range_succ]

/-- the row numerator of `compute_permutation_vec` (the expression of the model's `permVec`) is
    the product of the four identity-side factors of that row -/
theorem toF_permVec_num (ω : F) (a b c d root beta gamma i : Nat) (h : toF root = ω ^ i) :
    toF (fmul (fmul (fmul (fadd (fadd a (fmul beta root)) gamma)
          (fadd (fadd b (fmul (fmul beta root) Generated.K1)) gamma))
          (fadd (fadd c (fmul (fmul beta root) Generated.K2)) gamma))
          (fadd (fadd d (fmul (fmul beta root) Generated.K3)) gamma)) =
      (toF a + toF beta * idLabel ω (0, i) + toF gamma) * (toF b + toF beta * idLabel ω (1, i) + toF gamma) *
      (toF c + toF beta * idLabel ω (2, i) + toF gamma) * (toF d + toF beta * idLabel ω (3, i) + toF gamma) := by
  simp only [toF_fmul, toF_fadd, idLabel, h]
  have e0 : toF (kOf 0) = 1 := by show toF 1 = 1; exact toF_one
  have e1 : kOf 1 = Generated.K1 := rfl
  have e2 : kOf 2 = Generated.K2 := rfl
  have e3 : kOf 3 = Generated.K3 := rfl
  rw [e0, e1, e2, e3]
  ring

/-- the row denominator of `compute_permutation_vec` is the product of the four σ-side factors -/
theorem toF_permVec_den (a b c d s0 s1 s2 s3 beta gamma : Nat) :
    toF (fmul (fmul (fmul (fadd (fadd a (fmul beta s0)) gamma) (fadd (fadd b (fmul beta s1)) gamma))
          (fadd (fadd c (fmul beta s2)) gamma)) (fadd (fadd d (fmul beta s3)) gamma)) =
      (toF a + toF beta * toF s0 + toF gamma) * (toF b + toF beta * toF s1 + toF gamma) *
      (toF c + toF beta * toF s2 + toF gamma) * (toF d + toF beta * toF s3 + toF gamma) := by
  simp only [toF_fmul, toF_fadd]

end Perm
end Plonk
