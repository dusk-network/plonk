/-
  Passes over an array.  An operation that reads and writes only the entries in a set `S` of
  indices is `LocalOn S`; operations local to disjoint sets commute, and after a loop of operations
  local to pairwise disjoint sets every entry holds what the one operation that owns it computes on
  the initial array (`LocalOn.pass`).  The loops of the iterative FFT are such passes: the swaps of
  `bitreversePermute`, the butterflies of a `butterflyRange`, the chunks of a stage, the pieces of
  a `parallelButterflyChunk`.
-/
import Plonk.Proofs.FftThreads

namespace Plonk
open List

/-! ### arrays through `getD` -/

theorem getD_setIfInBounds (a : Array Nat) (i j v : Nat) :
    (a.setIfInBounds i v).getD j 0 = if i = j ∧ i < a.size then v else a.getD j 0 := by
  simp only [Array.getD_eq_getD_getElem?, Array.getElem?_setIfInBounds]
  by_cases h : i = j
  · subst h
    by_cases h2 : i < a.size
    · simp [h2]
    · simp [h2]
  · simp [h]

theorem array_getD_of_lt (a : Array Nat) (i : Nat) (h : i < a.size) : a.getD i 0 = a[i] := by
  simp [Array.getD_eq_getD_getElem?, h]

theorem array_getD_of_le (a : Array Nat) (i : Nat) (h : a.size ≤ i) : a.getD i 0 = 0 := by
  simp [Array.getD_eq_getD_getElem?, h]

theorem array_ext_getD (a b : Array Nat) (hs : a.size = b.size)
    (h : ∀ i, i < a.size → a.getD i 0 = b.getD i 0) : a = b := by
  apply Array.ext hs
  intro i h1 h2
  rw [← array_getD_of_lt a i h1, ← array_getD_of_lt b i h2]
  exact h i h1

theorem getD_toArray (l : List Nat) (i : Nat) : l.toArray.getD i 0 = l.getD i 0 := by
  simp [Array.getD_eq_getD_getElem?, List.getD_eq_getElem?_getD]

theorem getD_toList (a : Array Nat) (i : Nat) : a.toList.getD i 0 = a.getD i 0 := by
  simp [Array.getD_eq_getD_getElem?, List.getD_eq_getElem?_getD]

/-- `f` reads and writes only the entries whose index satisfies `S` -/
structure LocalOn (S : Nat → Prop) (f : Array Nat → Array Nat) : Prop where
  size : ∀ a, (f a).size = a.size
  frame : ∀ a i, ¬ S i → (f a).getD i 0 = a.getD i 0
  congr : ∀ a b, a.size = b.size → (∀ i, S i → a.getD i 0 = b.getD i 0) →
    ∀ i, S i → (f a).getD i 0 = (f b).getD i 0

namespace LocalOn
variable {S T : Nat → Prop} {f g : Array Nat → Array Nat}

theorem mono [DecidablePred S] (h : ∀ i, S i → T i) (hf : LocalOn S f) : LocalOn T f where
  size := hf.size
  frame a i hi := hf.frame a i fun hs => hi (h i hs)
  congr a b hs hab i hi := by
    by_cases his : S i
    · exact hf.congr a b hs (fun j hj => hab j (h j hj)) i his
    · rw [hf.frame a i his, hf.frame b i his, hab i hi]

theorem comp (hf : LocalOn S f) (hg : LocalOn S g) : LocalOn S fun a => g (f a) where
  size a := (hg.size _).trans (hf.size a)
  frame a i hi := (hg.frame _ i hi).trans (hf.frame a i hi)
  congr a b hs hab := hg.congr _ _ (by rw [hf.size, hf.size, hs]) (hf.congr a b hs hab)

theorem foldl {ι : Type} {g : Array Nat → ι → Array Nat} :
    ∀ ks : List ι, (∀ k ∈ ks, LocalOn S (g · k)) → LocalOn S (ks.foldl g ·)
  | [], _ => ⟨fun _ => rfl, fun _ _ _ => rfl, fun _ _ _ h => h⟩
  | k :: ks, h => (h k mem_cons_self).comp (foldl ks fun k' hk' => h k' (mem_cons_of_mem _ hk'))

/-- after an operation on a disjoint set, `g` still computes on `T` what it computes alone -/
theorem after (hf : LocalOn S f) (hg : LocalOn T g) (disj : ∀ i, S i → ¬ T i) (a : Array Nat)
    {i : Nat} (hi : T i) : (g (f a)).getD i 0 = (g a).getD i 0 :=
  hg.congr _ _ (hf.size a) (fun j hj => hf.frame a j fun hs => disj j hs hj) i hi

theorem comm [DecidablePred S] [DecidablePred T] (hf : LocalOn S f) (hg : LocalOn T g)
    (disj : ∀ i, S i → ¬ T i) (a : Array Nat) :
    g (f a) = f (g a) := by
  refine array_ext_getD _ _ (by rw [hg.size, hf.size, hf.size, hg.size]) fun i _ => ?_
  by_cases ht : T i
  · rw [hf.after hg disj a ht, hf.frame _ i fun hs => disj i hs ht]
  · rw [hg.frame _ i ht]
    by_cases hs : S i
    · rw [hg.after hf (fun j hj hs => disj j hs hj) a hs]
    · rw [hf.frame _ i hs, hf.frame _ i hs, hg.frame _ i ht]

/-- **a pass**: a loop of operations local to pairwise disjoint sets leaves in each set what its
    own operation computes on the initial array, and nothing changes elsewhere -/
theorem pass {ι : Type} {S : ι → Nat → Prop} {g : Array Nat → ι → Array Nat}
    (hg : ∀ k, LocalOn (S k) (g · k)) : ∀ (ks : List ι),
    ks.Pairwise (fun k k' => ∀ i, S k i → ¬ S k' i) → ∀ a : Array Nat,
      (ks.foldl g a).size = a.size ∧
      (∀ k ∈ ks, ∀ i, S k i → (ks.foldl g a).getD i 0 = (g a k).getD i 0) ∧
      ∀ i, (∀ k ∈ ks, ¬ S k i) → (ks.foldl g a).getD i 0 = a.getD i 0
  | [], _, a => ⟨rfl, fun _ h => (not_mem_nil h).elim, fun _ _ => rfl⟩
  | k :: ks, hd, a => by
    obtain ⟨hk, hks⟩ := pairwise_cons.mp hd
    obtain ⟨h1, h2, h3⟩ := pass hg ks hks (g a k)
    refine ⟨h1.trans ((hg k).size a), fun k' hk' i hi => ?_, fun i hi => ?_⟩
    · rcases mem_cons.mp hk' with rfl | hk'
      · exact h3 i fun k'' hk'' hs => hk k'' hk'' i hi hs
      · exact (h2 k' hk' i hi).trans ((hg k).after (hg k') (hk k' hk') a hi)
    · exact (h3 i fun k' hk' => hi k' (mem_cons_of_mem _ hk')).trans
        ((hg k).frame a i (hi k mem_cons_self))

/-- the same for a counting loop -/
theorem pass_range {S : Nat → Nat → Prop} {g : Array Nat → Nat → Array Nat}
    (hg : ∀ k, LocalOn (S k) (g · k)) (n : Nat)
    (hd : ∀ k k', k < k' → k' < n → ∀ i, S k i → ¬ S k' i) (a : Array Nat) :
    ((range n).foldl g a).size = a.size ∧
    (∀ k < n, ∀ i, S k i → ((range n).foldl g a).getD i 0 = (g a k).getD i 0) ∧
    ∀ i, (∀ k < n, ¬ S k i) → ((range n).foldl g a).getD i 0 = a.getD i 0 := by
  obtain ⟨h1, h2, h3⟩ := pass hg (range n)
    (pairwise_lt_range.imp_of_mem fun _ hk' h => hd _ _ h (mem_range.mp hk')) a
  exact ⟨h1, fun k hk => h2 k (mem_range.mpr hk), fun i hi => h3 i fun k hk => hi k (mem_range.mp hk)⟩

theorem id (S : Nat → Prop) : LocalOn S fun a => a :=
  ⟨fun _ => rfl, fun _ _ _ => rfl, fun _ _ _ h => h⟩

end LocalOn

/-! ### one butterfly -/

/-- the butterfly on the entries `l`, `r` with twiddle `w` -/
def bfly (a : Array Nat) (l r w : Nat) : Array Nat :=
  (a.setIfInBounds r (fsub (a.getD l 0) (fmul (a.getD r 0) w))).setIfInBounds l
    (fadd (a.getD l 0) (fmul (a.getD r 0) w))

theorem bfly_getD (a : Array Nat) (l r w i : Nat) :
    (bfly a l r w).getD i 0 =
      if l = i ∧ l < a.size then fadd (a.getD l 0) (fmul (a.getD r 0) w)
      else if r = i ∧ r < a.size then fsub (a.getD l 0) (fmul (a.getD r 0) w)
      else a.getD i 0 := by
  rw [bfly, getD_setIfInBounds, getD_setIfInBounds, Array.size_setIfInBounds]

theorem bfly_localOn (l r w : Nat) : LocalOn (fun i => i = l ∨ i = r) (bfly · l r w) where
  size _ := Array.size_setIfInBounds.trans Array.size_setIfInBounds
  frame a i hi := by
    rw [bfly_getD, if_neg fun h => hi (Or.inl h.1.symm), if_neg fun h => hi (Or.inr h.1.symm)]
  congr a b hs hab i hi := by
    rw [bfly_getD, bfly_getD, hs, hab l (Or.inl rfl), hab r (Or.inr rfl), hab i hi]

/-! ### the twiddle runs beside the array -/

/-- `butterflyRange` is the loop of the butterflies `(lo+off+j, lo+m+off+j)` with the twiddles
    `t j`, for any sequence `t` that starts at `w` and is multiplied by `wm` at each step -/
theorem brState_eq_bfly (a : Array Nat) (lo m off len wm : Nat) (t : Nat → Nat)
    (ht : ∀ j, t (j + 1) = fmul (t j) wm) :
    brState a lo m off len wm (t 0)
      = ((range len).foldl (fun a j => bfly a (lo + off + j) (lo + m + off + j) (t j)) a, t len) :=
  foldl_range_beside (fun a w j => bfly a (lo + off + j) (lo + m + off + j) w) (fmul · wm) t ht a len

theorem butterflyRange_eq_bfly (a : Array Nat) (lo m off len wm w : Nat) :
    butterflyRange a lo m off len wm w
      = (range len).foldl (fun a j => bfly a (lo + off + j) (lo + m + off + j) (geom w wm j)) a :=
  congrArg Prod.fst (brState_eq_bfly a lo m off len wm (geom w wm) fun _ => rfl)

/-- the two index windows written (and read) by `butterflyRange a lo m off len` -/
def InWin (lo m off len idx : Nat) : Prop :=
  (lo + off ≤ idx ∧ idx < lo + off + len) ∨ (lo + m + off ≤ idx ∧ idx < lo + m + off + len)

instance (lo m off len idx : Nat) : Decidable (InWin lo m off len idx) :=
  inferInstanceAs (Decidable (_ ∨ _))

theorem butterflyRange_localOn (lo m off len wm w : Nat) :
    LocalOn (InWin lo m off len) (butterflyRange · lo m off len wm w) := by
  simp only [butterflyRange_eq_bfly]
  refine LocalOn.foldl _ fun j hj => (bfly_localOn ..).mono ?_
  have hj := mem_range.mp hj
  rintro i (rfl | rfl)
  · exact Or.inl ⟨Nat.le_add_right _ _, Nat.add_lt_add_left hj _⟩
  · exact Or.inr ⟨Nat.le_add_right _ _, Nat.add_lt_add_left hj _⟩

/-- ranges with disjoint windows commute, inside the array or not -/
theorem butterflyRange_comm (a : Array Nat) {lo₁ m₁ o₁ l₁ lo₂ m₂ o₂ l₂ : Nat} (wm₁ w₁ wm₂ w₂ : Nat)
    (disj : ∀ j, InWin lo₁ m₁ o₁ l₁ j → ¬ InWin lo₂ m₂ o₂ l₂ j) :
    butterflyRange (butterflyRange a lo₁ m₁ o₁ l₁ wm₁ w₁) lo₂ m₂ o₂ l₂ wm₂ w₂
      = butterflyRange (butterflyRange a lo₂ m₂ o₂ l₂ wm₂ w₂) lo₁ m₁ o₁ l₁ wm₁ w₁ :=
  (butterflyRange_localOn ..).comm (butterflyRange_localOn ..) disj a

/-! ### what a range, a chunk and a stage compute -/

/-- butterfly `j` of a range inside the array whose two windows do not meet -/
theorem brState_getD (a : Array Nat) (lo m off wm : Nat) (t : Nat → Nat)
    (ht : ∀ j, t (j + 1) = fmul (t j) wm) {len j : Nat} (hj : j < len) (hlen : off + len ≤ m)
    (hb : lo + m + off + len ≤ a.size) :
    (brState a lo m off len wm (t 0)).1.getD (lo + off + j) 0
      = fadd (a.getD (lo + off + j) 0) (fmul (a.getD (lo + m + off + j) 0) (t j)) ∧
    (brState a lo m off len wm (t 0)).1.getD (lo + m + off + j) 0
      = fsub (a.getD (lo + off + j) 0) (fmul (a.getD (lo + m + off + j) 0) (t j)) := by
  rw [brState_eq_bfly a lo m off len wm t ht]
  obtain ⟨-, h, -⟩ := LocalOn.pass_range (S := fun j i => i = lo + off + j ∨ i = lo + m + off + j)
    (fun j => bfly_localOn _ _ (t j)) len (fun k k' _ _ i => by omega) a
  rw [h j hj _ (Or.inl rfl), h j hj _ (Or.inr rfl), bfly_getD, bfly_getD,
    if_pos ⟨rfl, by omega⟩, if_neg (by omega), if_pos ⟨rfl, by omega⟩]
  exact ⟨rfl, rfl⟩

/-- the chunk at `lo` is local to `[lo, lo + 2m)` -/
theorem butterflyChunk_localOn (lo m wm : Nat) :
    LocalOn (fun i => lo ≤ i ∧ i < lo + 2 * m) (butterflyChunk · lo m wm) :=
  (butterflyRange_localOn lo m 0 m wm (1 % R)).mono fun i => by unfold InWin; omega

end Plonk
