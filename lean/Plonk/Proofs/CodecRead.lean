/-
  What the readers of `Plonk/Model/Verifier.lean` return: `readScalars`, `readG1s` as instances of one
  fixed-width item reader, and the two record decoders built from them (`ProofM.fromBytes?`,
  `VKey.fromBytes?`) as "the lists read, put into the record".  Shared by the codec theorems
  (`CodecRoundtrip`) and the transcript theorems (`TranscriptInj`).
-/
import Plonk.Proofs.CodecG1
import Plonk.Proofs.PrimeP

set_option Elab.async false

theorem Except.ite_error_eq_ok {ε α : Type} {c : Prop} [Decidable c] {e : ε} {x : Except ε α} {a : α} :
    (if c then Except.error e else x) = .ok a ↔ ¬ c ∧ x = .ok a := by
  by_cases h : c
  · simp [h]
  · simp [h]

theorem Except.bind_eq_ok {ε α β : Type} {x : Except ε α} {f : α → Except ε β} {b : β} :
    x.bind f = .ok b ↔ ∃ a, x = .ok a ∧ f a = .ok b := by
  cases x with
  | error e => simp [Except.bind]
  | ok a => simp [Except.bind]

theorem Option.elim_error_eq_ok {ε α β : Type} {o : Option α} {e : ε} {f : α → Except ε β} {b : β} :
    o.elim (.error e) f = .ok b ↔ ∃ a, o = some a ∧ f a = .ok b := by
  cases o with
  | none => simp
  | some a => simp

namespace Plonk

theorem splitAt?_eq_some {bs : List Nat} {n : Nat} (h : n ≤ bs.length) :
    splitAt? bs n = some (bs.take n, bs.drop n) := by
  unfold splitAt?; rw [if_neg (by omega)]

theorem splitAt?_eq_none {bs : List Nat} {n : Nat} (h : bs.length < n) : splitAt? bs n = none := by
  unfold splitAt?; rw [if_pos h]

/-- `k` items of `w` bytes each, read by `dec`: the common shape of `readScalars` and `readG1s` -/
def readItems {α : Type} (w : Nat) (dec : List Nat → Option α) : Nat → List Nat → Option (List α × List Nat)
  | 0, bs => some ([], bs)
  | k + 1, bs =>
    if bs.length < w then none else
    (dec (bs.take w)).bind fun a => (readItems w dec k (bs.drop w)).bind fun q => some (a :: q.1, q.2)

theorem readScalars_eq (k : Nat) (bs : List Nat) : readScalars k bs = readItems 32 scalarFromBytes? k bs := by
  induction k generalizing bs with
  | zero => rfl
  | succ k ih =>
    rw [readScalars, readItems, ← ih]
    by_cases h : bs.length < 32
    · rw [splitAt?_eq_none h, if_pos h]; rfl
    · rw [splitAt?_eq_some (by omega), if_neg h]; rfl

theorem readG1s_eq (k : Nat) (bs : List Nat) : readG1s k bs = readItems 48 G1.fromCompressed? k bs := by
  induction k generalizing bs with
  | zero => rfl
  | succ k ih =>
    rw [readG1s, readItems, ← ih]
    by_cases h : bs.length < 48
    · rw [splitAt?_eq_none h, if_pos h]; rfl
    · rw [splitAt?_eq_some (by omega), if_neg h]; rfl

section
variable {α : Type} {w : Nat} {dec : List Nat → Option α} {enc : α → List Nat} {Good : α → Prop}

theorem readItems_encode (hw : ∀ a, (enc a).length = w) (hdec : ∀ a, Good a → dec (enc a) = some a)
    (xs : List α) (rest : List Nat) (hx : ∀ x ∈ xs, Good x) :
    readItems w dec xs.length (xs.flatMap enc ++ rest) = some (xs, rest) := by
  induction xs with
  | nil => rfl
  | cons x xs ih =>
    rw [List.length_cons, readItems, List.flatMap_cons, List.append_assoc,
      if_neg (by rw [List.length_append, hw]; omega), List.take_left' (hw x), List.drop_left' (hw x),
      hdec x (hx x (by simp)), Option.bind_some, ih (fun y hy => hx y (List.mem_cons_of_mem _ hy)), Option.bind_some]

/-- what a reader returns: exactly `k` good items, consuming exactly `w·k` bytes, and (for a canonical
    decoder) re-encoding to the bytes consumed -/
theorem readItems_decode (hgood : ∀ bs a, dec bs = some a → Good a)
    (hcanon : ∀ bs a, AllBytes bs → bs.length = w → dec bs = some a → enc a = bs)
    {k : Nat} {bs r : List Nat} {ss : List α} (h : readItems w dec k bs = some (ss, r)) :
    ss.length = k ∧ r.length + w * k = bs.length ∧ r = bs.drop (w * k) ∧ (∀ s ∈ ss, Good s) ∧
    (AllBytes bs → ss.flatMap enc ++ r = bs) := by
  induction k generalizing bs ss r with
  | zero =>
    simp only [readItems, Option.some.injEq, Prod.mk.injEq] at h
    obtain ⟨rfl, rfl⟩ := h
    simp
  | succ k ih =>
    rw [readItems] at h
    simp only [Option.ite_none_left_eq_some, Option.bind_eq_some_iff, Option.some.injEq, Prod.mk.injEq, Prod.exists] at h
    obtain ⟨hlen, s, hs, ss', r', hq, rfl, rfl⟩ := h
    obtain ⟨i1, i2, i3, i4, i5⟩ := ih hq
    rw [List.length_drop] at i2
    refine ⟨by simp [i1], by rw [Nat.mul_succ]; omega, ?_, ?_, ?_⟩
    · rw [i3, List.drop_drop, Nat.mul_succ, Nat.add_comm]
    · intro x hx
      rcases List.mem_cons.mp hx with rfl | hx
      · exact hgood _ _ hs
      · exact i4 x hx
    · intro hb
      rw [List.flatMap_cons, List.append_assoc, i5 (hb.drop w),
        hcanon _ _ (hb.take w) (by rw [List.length_take]; omega) hs, List.take_append_drop]
end

theorem readScalars_encode (xs : List Nat) (rest : List Nat) (hx : ∀ x ∈ xs, x < R) :
    readScalars xs.length (xs.flatMap scalarBytesLE ++ rest) = some (xs, rest) := by
  rw [readScalars_eq]
  exact readItems_encode scalarBytesLE_length (fun _ h => scalarFromBytes_scalarBytesLE h) xs rest hx

/-- what `readScalars` returns: exactly `k` canonical scalars, consuming exactly `32·k` bytes -/
theorem readScalars_decode {k : Nat} {bs ss r : List Nat} (h : readScalars k bs = some (ss, r)) :
    ss.length = k ∧ r.length + 32 * k = bs.length ∧ r = bs.drop (32 * k) ∧ (∀ s ∈ ss, s < R) ∧
    (AllBytes bs → ss.flatMap scalarBytesLE ++ r = bs) := by
  rw [readScalars_eq] at h
  exact readItems_decode (fun _ _ => scalarFromBytes_lt) (fun _ _ hb _ hs => (scalarFromBytes_canonical hb hs).1) h

theorem readG1s_encode (ps : List G1) (rest : List Nat) (hp : ∀ p ∈ ps, p.Valid ∧ p.torsionFree = true) :
    readG1s ps.length (ps.flatMap G1.toCompressed ++ rest) = some (ps, rest) := by
  rw [readG1s_eq]
  exact readItems_encode G1.toCompressed_length (fun _ h => G1.fromCompressed_toCompressed h.1 h.2) ps rest hp

/-- what `readG1s` returns: exactly `k` reduced, on-curve, torsion-free points, consuming `48·k` bytes -/
theorem readG1s_decode {k : Nat} {bs r : List Nat} {ps : List G1} (h : readG1s k bs = some (ps, r)) :
    ps.length = k ∧ r.length + 48 * k = bs.length ∧ r = bs.drop (48 * k) ∧
    (∀ p ∈ ps, p.Valid ∧ p.torsionFree = true) ∧
    (AllBytes bs → ps.flatMap G1.toCompressed ++ r = bs) := by
  rw [readG1s_eq] at h
  exact readItems_decode (fun _ _ => G1.fromCompressed_wf) (fun _ _ hb _ hs => (G1.fromCompressed_canonical hb hs).1) h

/-- the eleven commitments of a proof, in serialization order -/
def ProofM.points (p : ProofM) : List G1 :=
  [p.aC, p.bC, p.cC, p.dC, p.zC, p.tLow, p.tMid, p.tHigh, p.tFourth, p.wz, p.wzw]

/-- the last step of `ProofM.fromBytes?`: eleven points and fifteen scalars make a proof -/
def ProofM.ofLists (ps : List G1) (ss : List Nat) : Option ProofM :=
  match ps, ss with
  | [a, b, c, d, z, tl, tm, th, tf, wz, wzw], [ea, eb, ec, ed, eaw, ebw, edw, eqa, eqc, eql, eqr, es1, es2, es3, ez] =>
    some { aC := a, bC := b, cC := c, dC := d, zC := z, tLow := tl, tMid := tm, tHigh := th, tFourth := tf,
           wz := wz, wzw := wzw,
           ev := { a := ea, b := eb, c := ec, d := ed, aw := eaw, bw := ebw, dw := edw, qarith := eqa, qc := eqc,
                   ql := eql, qr := eqr, s1 := es1, s2 := es2, s3 := es3, z := ez } }
  | _, _ => none

theorem ProofM.ofLists_eq_some {ps : List G1} {ss : List Nat} {p : ProofM} :
    ProofM.ofLists ps ss = some p ↔ ps = p.points ∧
      ss = [p.ev.a, p.ev.b, p.ev.c, p.ev.d, p.ev.aw, p.ev.bw, p.ev.dw, p.ev.qarith, p.ev.qc, p.ev.ql, p.ev.qr,
        p.ev.s1, p.ev.s2, p.ev.s3, p.ev.z] := by
  constructor
  · intro h
    unfold ProofM.ofLists at h
    split at h
    · cases h; exact ⟨rfl, rfl⟩
    · cases h
  · rintro ⟨rfl, rfl⟩; rfl

/-- the `do` block of the model as `bind`s (likewise `VKey.fromBytes?_eq`, `OpeningKeyM.fromBytes?_eq`) -/
theorem ProofM.fromBytes?_eq (bs : List Nat) : ProofM.fromBytes? bs =
    if bs.length < 1008 then none else
    (readG1s 11 bs).bind fun q => (readScalars 15 q.2).bind fun w => ProofM.ofLists q.1 w.1 := by
  unfold ProofM.fromBytes?
  split
  · rfl
  · rfl

theorem ProofM.fromBytes?_eq_some {bs : List Nat} {p : ProofM} : ProofM.fromBytes? bs = some p ↔
    ¬ bs.length < 1008 ∧ ∃ r r2, readG1s 11 bs = some (p.points, r) ∧
      readScalars 15 r = some ([p.ev.a, p.ev.b, p.ev.c, p.ev.d, p.ev.aw, p.ev.bw, p.ev.dw, p.ev.qarith, p.ev.qc, p.ev.ql,
        p.ev.qr, p.ev.s1, p.ev.s2, p.ev.s3, p.ev.z], r2) := by
  rw [ProofM.fromBytes?_eq]
  simp only [Option.ite_none_left_eq_some, Option.bind_eq_some_iff, ProofM.ofLists_eq_some, Prod.exists]
  constructor
  · rintro ⟨h, ps, r, hG, ss, r2, hS, rfl, rfl⟩; exact ⟨h, r, r2, hG, hS⟩
  · rintro ⟨h, r, r2, hG, hS⟩; exact ⟨h, _, r, hG, _, r2, hS, rfl, rfl⟩

/-- the fifteen commitments of a verifier key, in serialization order -/
def VKey.points (k : VKey) : List G1 :=
  [k.qm, k.ql, k.qr, k.qo, k.qf, k.qc, k.qarith, k.qlogic, k.qrange, k.qfixed, k.qvar, k.s1, k.s2, k.s3, k.s4]

/-- the last step of `VKey.fromBytes?`: the size and fifteen points make a verifier key -/
def VKey.ofList (n : Nat) (ps : List G1) : Option VKey :=
  match ps with
  | [qm, ql, qr, qo, qf, qc, qa, qlg, qrg, qfx, qv, s1, s2, s3, s4] =>
    some { n := n, qm := qm, ql := ql, qr := qr, qo := qo, qf := qf, qc := qc, qarith := qa,
           qlogic := qlg, qrange := qrg, qfixed := qfx, qvar := qv, s1 := s1, s2 := s2, s3 := s3, s4 := s4 }
  | _ => none

theorem VKey.ofList_eq_some {n : Nat} {ps : List G1} {k : VKey} :
    VKey.ofList n ps = some k ↔ n = k.n ∧ ps = k.points := by
  constructor
  · intro h
    unfold VKey.ofList at h
    split at h
    · cases h; exact ⟨rfl, rfl⟩
    · cases h
  · rintro ⟨rfl, rfl⟩; rfl

theorem VKey.fromBytes?_eq (bs : List Nat) : VKey.fromBytes? bs =
    if bs.length < 968 then none else
    (splitAt? bs 8).bind fun h => (readG1s 15 h.2).bind fun q => VKey.ofList (bytesToNatLE h.1) q.1 := by
  unfold VKey.fromBytes?
  split
  · rfl
  · rfl

theorem VKey.fromBytes?_eq_some {bs : List Nat} {k : VKey} : VKey.fromBytes? bs = some k ↔
    ¬ bs.length < 968 ∧ bytesToNatLE (bs.take 8) = k.n ∧ ∃ r2, readG1s 15 (bs.drop 8) = some (k.points, r2) := by
  rw [VKey.fromBytes?_eq]
  by_cases hlen : bs.length < 968
  · rw [if_pos hlen]; simp only [reduceCtorEq, hlen, not_true_eq_false, false_and]
  · rw [if_neg hlen, splitAt?_eq_some (by omega)]
    simp only [Option.bind_some, Option.bind_eq_some_iff, VKey.ofList_eq_some, Prod.exists, hlen, not_false_eq_true,
      true_and]
    constructor
    · rintro ⟨ps, r2, hG, hn, rfl⟩; exact ⟨hn, r2, hG⟩
    · rintro ⟨hn, r2, hG⟩; exact ⟨_, r2, hG, hn, rfl⟩

end Plonk
