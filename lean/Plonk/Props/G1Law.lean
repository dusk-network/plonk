/-
  G1Law — the group law of the executable BLS12-381 `G1` model (`Plonk/Model/Bls.lean`).

  Closes the gap stated in C03 / C02 / C20 ("the group law of the executable G1 model is not
  proved"): the model's affine and Jacobian arithmetic, scalar multiplication, subgroup test and
  multi-scalar multiplication are the corresponding operations of the Mathlib group of points
  `WeierstrassCurve.Affine.Point` of `y² = x³ + 4` over `ZMod P` (`P` proved prime in `PrimeP.lean`).

  Vocabulary
  * `G1.W` — the curve, `G1.Pt := G1.W.toAffine.Point` (an `AddCommGroup`, Mathlib).
  * `G1.Valid p` (from `CodecG1.lean`) — `p` is the identity, or has reduced coordinates `< P`
    satisfying `G1.onCurve`.  Everything the decoders accept and everything the arithmetic returns
    is valid.
  * `G1.toPoint : {p // p.onCurve} → G1.Pt`, and its total version `G1.pt : G1 → G1.Pt`
    (`pt_is_toPoint`; off-curve junk ↦ 0).
  * `J1.Rep j p` — the Jacobian triple `j` (reduced) represents the valid affine point `p`:
    `Z = 0 ∧ p = ∞`, or `Z ≠ 0 ∧ X = x·Z² ∧ Y = y·Z³`.
  * `G1.Sub = E(F_p)[r]`, an `F`-module (`F = ZMod R`), and `G1.ιR : G1 → G1.Sub` the canonical
    interpretation of model points; `evalTerms` is the symbolic MSM of `VerifierAlgebra.lean`.

  All statements are at full strength; no `_partial` theorem.  Hypotheses forced by the proofs
  (each is a property of the model's representation, none points at a defect of the Rust code):
  * **reduced coordinates** (`Valid`): `G1.add` and `J1.add/double` compare raw `Nat`s
    (`x1 == x2`, `z == 0`), so `x` and `x + P` would be treated as different abscissae.  The Rust
    field type has a unique representation per residue, and all model values are reduced.
  * **scalars**: `G1.smul k` reads 256 bits of `k` (`smul_refines'`: the result is
    `(k mod 2^256)•P`), `G1.msum` first reduces every scalar mod `r` and reads 255 bits
    (`msum_refines`: the result is `Σ (kᵢ mod r)•Pᵢ`).  This is `Σ kᵢ•Pᵢ` exactly when the points
    are in the prime-order subgroup (`msum_refines_torsionFree`); for a point with a cofactor
    component the two differ (BLS12-381 `G1` has cofactor ≠ 1) — the subgroup checks of the
    decoders (C16/C17) are what makes scalar reduction sound.
  * `J1.add` needs **no** side condition: `P = Q` falls back to `double`, `P = −Q` and `Z = 0`
    return / pass infinity, and these branches are proved (`jac_add_rep`).  `J1.double` returns
    infinity when `Y = 0`; on this curve no such point exists (`−4` is not a cube), so the branch
    is dead for valid inputs.
  * `verifier_equation_in_group`: the term lists must consist of valid subgroup points; this is
    discharged from well-formedness of key, proof and generator (`VKey.WF`, `ProofM.WF`: what the
    decoders guarantee, `G1.fromCompressed_wf`, C16/C17) by `verifier_terms_wf`, giving
    `accept_iff_group_equation`.  The trapdoor `x` must be below `2^256` (`G1.smul` reads 256 bits).
-/
import Plonk.Proofs.G1GroupVerifier
import Plonk.Proofs.CodecExamples

set_option Elab.async false

namespace Plonk.Props.G1Law
open Plonk WeierstrassCurve

/-- the curve is `y² = x³ + 4` -/
theorem curve_coefficients :
    G1.W.a₁ = 0 ∧ G1.W.a₂ = 0 ∧ G1.W.a₃ = 0 ∧ G1.W.a₄ = 0 ∧ G1.W.a₆ = 4 := ⟨rfl, rfl, rfl, rfl, rfl⟩

/-- it is an elliptic curve over `ZMod P` (discriminant `−6912 = −432·16 ≠ 0`) -/
theorem curve_isElliptic : G1.W.IsElliptic ∧ G1.W.Δ = -6912 := ⟨inferInstance, G1.W_Δ⟩

/-- its (nonsingular) points are the solutions of the equation the model tests -/
theorem onCurve_iff_point (x y : Nat) :
    (G1.aff x y).onCurve = true ↔ G1.W.toAffine.Nonsingular (toP x) (toP y) := by
  rw [G1.W_nonsingular_iff, G1.onCurve_aff_iff]

theorem toPoint_inf (h : G1.inf.onCurve = true) : G1.toPoint ⟨.inf, h⟩ = 0 := rfl

theorem toPoint_aff (x y : Nat) (h : (G1.aff x y).onCurve = true) :
    G1.toPoint ⟨.aff x y, h⟩ = .some (toP x) (toP y) (G1.nonsingular_of_onCurve h) := rfl

theorem pt_is_toPoint {p : G1} (h : p.onCurve = true) : G1.pt p = G1.toPoint ⟨p, h⟩ :=
  G1.pt_eq_toPoint h

/-- valid model points denote distinct group elements -/
theorem pt_injective {p q : G1} (hp : p.Valid) (hq : q.Valid) (h : G1.pt p = G1.pt q) : p = q :=
  G1.pt_injective hp hq h

theorem gen_valid : G1.gen.Valid := CodecEx.gen_valid

-- non-vacuity: the generator is a valid point and denotes a non-zero group element
example : G1.gen.Valid ∧ G1.pt G1.gen ≠ 0 :=
  ⟨gen_valid, fun h => absurd ((G1.pt_eq_zero_iff gen_valid).mp h) (by decide)⟩

theorem neg_refines {p : G1} (hp : p.Valid) : p.neg.Valid ∧ G1.pt p.neg = - G1.pt p :=
  G1.neg_spec hp

/-- **`G1.add` is the group law** (every branch: infinity, opposite points, doubling, chord),
    and it preserves validity. -/
theorem add_refines {p q : G1} (hp : p.Valid) (hq : q.Valid) :
    (p.add q).Valid ∧ G1.pt (p.add q) = G1.pt p + G1.pt q :=
  G1.add_spec hp hq

/-- the same, spelled with `toPoint` on the subtype of on-curve points -/
theorem add_refines_toPoint {p q : G1} (hp : p.Valid) (hq : q.Valid) :
    ∃ h : (p.add q).onCurve = true,
      G1.toPoint ⟨p.add q, h⟩ = G1.toPoint ⟨p, hp.onCurve⟩ + G1.toPoint ⟨q, hq.onCurve⟩ := by
  refine ⟨(G1.add_valid hp hq).onCurve, ?_⟩
  rw [← G1.pt_eq_toPoint, ← G1.pt_eq_toPoint, ← G1.pt_eq_toPoint]
  exact G1.pt_add hp hq

-- non-vacuity: doubling and the opposite-point branch on the generator
example : (G1.gen.add G1.gen).Valid ∧ G1.pt (G1.gen.add G1.gen) = G1.pt G1.gen + G1.pt G1.gen :=
  add_refines gen_valid gen_valid
example : G1.gen.add G1.gen.neg = .inf := by decide +kernel

theorem jac_ofAffine_rep {p : G1} (hp : p.Valid) : J1.Rep (J1.ofAffine p) p := J1.ofAffine_rep hp

theorem jac_toAffine_rep {j : J1} {p : G1} (h : J1.Rep j p) : j.toAffine = p := J1.toAffine_rep h

theorem jac_double_rep {j : J1} {p : G1} (h : J1.Rep j p) : J1.Rep j.double (p.add p) :=
  J1.double_rep h

/-- `J1.add` (add-2007-bl with fall-backs) agrees with the affine law on **all** inputs,
    including `P = Q`, `P = −Q` and infinity — no side condition. -/
theorem jac_add_rep {j k : J1} {p q : G1} (h1 : J1.Rep j p) (h2 : J1.Rep k q) :
    J1.Rep (j.add k) (p.add q) :=
  J1.add_rep h1 h2

-- non-vacuity: a representative with `Z ≠ 1`, and the `P = Q` branch of `J1.add`
example : J1.Rep (J1.ofAffine G1.gen).double (G1.gen.add G1.gen) :=
  jac_double_rep (jac_ofAffine_rep gen_valid)
example : J1.Rep ((J1.ofAffine G1.gen).add (J1.ofAffine G1.gen)) (G1.gen.add G1.gen) :=
  jac_add_rep (jac_ofAffine_rep gen_valid) (jac_ofAffine_rep gen_valid)
example : ((J1.ofAffine G1.gen).double).z ≠ 1 := by decide +kernel

/-- double-and-add over `bits` bits computes `(k mod 2^bits)•P` -/
theorem jac_mul_rep {p : G1} (hp : p.Valid) (k bits : Nat) :
    ((J1.ofAffine p).mul k bits).toAffine.Valid ∧
      G1.pt ((J1.ofAffine p).mul k bits).toAffine = (k % 2 ^ bits) • G1.pt p :=
  (J1.mul_repPt (J1.RepPt.ofAffine hp) k bits).toAffine

theorem smul_refines' (k : Nat) {p : G1} (hp : p.Valid) :
    (G1.smul k p).Valid ∧ G1.pt (G1.smul k p) = (k % 2 ^ 256) • G1.pt p :=
  G1.smul_spec_mod k hp

/-- **`G1.smul` is scalar multiplication** for scalars below `2^256` -/
theorem smul_refines {k : Nat} (hk : k < 2 ^ 256) {p : G1} (hp : p.Valid) :
    (G1.smul k p).Valid ∧ G1.pt (G1.smul k p) = k • G1.pt p :=
  G1.smul_spec hk hp

/-- the model's subgroup test is `r•P = 0` -/
theorem torsionFree_iff {p : G1} (hp : p.Valid) : p.torsionFree = true ↔ R • G1.pt p = 0 :=
  G1.torsionFree_iff hp

theorem gen_torsionFree : G1.gen.torsionFree = true := CodecEx.gen_torsionFree

-- non-vacuity: the generator has order dividing `r` in the Mathlib group
example : R • G1.pt G1.gen = 0 := (torsionFree_iff gen_valid).mp gen_torsionFree
example : (12345 : Nat) < 2 ^ 256 := by decide

/-- **`G1.msum` (Straus loop) is `Σ (kᵢ mod r)•Pᵢ`** -/
theorem msum_refines {ps : List (Nat × G1)} (hv : ∀ t ∈ ps, t.2.Valid) :
    (G1.msum ps).Valid ∧ G1.pt (G1.msum ps) = (ps.map fun t => (t.1 % R) • G1.pt t.2).sum :=
  G1.msum_spec hv

/-- … which is `Σ kᵢ•Pᵢ` for points of the prime-order subgroup, and stays in the subgroup -/
theorem msum_refines_torsionFree {ps : List (Nat × G1)} (hv : ∀ t ∈ ps, t.2.Valid)
    (ht : ∀ t ∈ ps, t.2.torsionFree = true) :
    G1.pt (G1.msum ps) = (ps.map fun t => t.1 • G1.pt t.2).sum ∧ (G1.msum ps).torsionFree = true :=
  ⟨G1.msum_spec_torsionFree hv ht, G1.msum_torsionFree hv ht⟩

-- non-vacuity: a term list with an unreduced scalar and the identity
example : ∀ t ∈ [(5, G1.gen), (R + 3, G1.gen), (7, G1.inf)], t.2.Valid ∧ t.2.torsionFree = true := by
  intro t ht
  simp only [List.mem_cons, List.not_mem_nil, or_false] at ht
  rcases ht with rfl | rfl | rfl
  · exact ⟨gen_valid, gen_torsionFree⟩
  · exact ⟨gen_valid, gen_torsionFree⟩
  · exact ⟨trivial, torsionFree_inf⟩

/-- every additive map from the curve group to an `F`-module sends the model's MSM result to the
    symbolic `F`-linear combination of `VerifierAlgebra.lean` -/
theorem msum_evalTerms_hom {G : Type*} [AddCommGroup G] [Module F G] (φ : G1.Pt →+ G)
    {ts : List (Nat × G1)} (hv : ∀ t ∈ ts, t.2.Valid) :
    φ (G1.pt (G1.msum ts)) = evalTerms (fun p => φ (G1.pt p)) ts :=
  G1.msum_evalTerms_hom φ hv

/-- with the canonical interpretation `ιR` of model points in the `F`-module
    `E(F_p)[r]`, the model's MSM *is* `evalTerms`; `ιR` is additive and faithful on valid subgroup
    points, so statements about `evalTerms ιR` are statements about the model's values. -/
theorem msum_evalTerms {ts : List (Nat × G1)} (hv : ∀ t ∈ ts, t.2.Valid)
    (ht : ∀ t ∈ ts, t.2.torsionFree = true) : G1.ιR (G1.msum ts) = evalTerms G1.ιR ts :=
  G1.msum_evalTerms hv ht

theorem ιR_faithful {p q : G1} (hp : p.Valid) (hq : q.Valid) (tp : p.torsionFree = true)
    (tq : q.torsionFree = true) :
    (G1.ιR p = G1.ιR q → p = q) ∧ G1.ιR (p.add q) = G1.ιR p + G1.ιR q ∧
      ((G1.ιR p : G1.Pt) = G1.pt p) ∧ (G1.ιR p = 0 ↔ p = .inf) :=
  ⟨G1.ιR_injective hp hq tp tq, G1.ιR_add hp hq tp tq, G1.coe_ιR hp tp, G1.ιR_eq_zero_iff hp tp⟩

theorem ιR_smul {k : Nat} (hk : k < 2 ^ 256) {p : G1} (hp : p.Valid) (tp : p.torsionFree = true) :
    G1.ιR (G1.smul k p) = toF k • G1.ιR p :=
  G1.ιR_smul hk hp tp

-- non-vacuity: `ιR` is not the zero interpretation
example : G1.ιR G1.gen ≠ 0 :=
  fun h => absurd ((G1.ιR_eq_zero_iff gen_valid gen_torsionFree).mp h) (by decide)

/-- **The verifier's check, in the curve group.**  For term lists of valid subgroup points (what
    `verifyTerms` builds from decoded keys and proofs) the model's executable test
    `[x]·msum(left) + msum(right) = O` — the one `VerifierM.verify` / C03 `accept_iff_equation`
    decides — is the equation `x·(−(W_z + u·W_zω)) + (textbook right-hand side) = 0` in `E(F_p)[r]`:
    `verifyCode_eq_verifyRef` applies to the model's actual MSM values. -/
theorem verifier_equation_in_group (vkey : VKey) (g : G1) (d : Domain) (roots pis : List Nat)
    (p : ProofM) (ch : Challenges) (legacy : Bool) (right left ref : List (Nat × G1))
    (hc : verifyTerms vkey g d roots pis p ch legacy = some (right, left))
    (hr : verifyRefTerms vkey g d roots pis p ch legacy = some ref)
    {x : Nat} (hx : x < 2 ^ 256)
    (hvl : ∀ t ∈ left, t.2.Valid) (htl : ∀ t ∈ left, t.2.torsionFree = true)
    (hvr : ∀ t ∈ right, t.2.Valid) (htr : ∀ t ∈ right, t.2.torsionFree = true) :
    (G1.ιR (G1.msum right) = evalTerms G1.ιR ref ∧
      G1.ιR (G1.msum left) = -(G1.ιR p.wz + toF ch.u • G1.ιR p.wzw)) ∧
    (G1.add (G1.smul x (G1.msum left)) (G1.msum right) = .inf ↔
      toF x • -(G1.ιR p.wz + toF ch.u • G1.ιR p.wzw) + evalTerms G1.ιR ref = 0) := by
  obtain ⟨e1, e2⟩ := verifyCode_eq_verifyRef G1.ιR vkey g d roots pis p ch legacy right left ref hc hr
  refine ⟨⟨?_, ?_⟩, ?_⟩
  · rw [G1.msum_evalTerms hvr htr, e1]
  · rw [G1.msum_evalTerms hvl htl, e2]
  · rw [G1.add_smul_msum_eq_inf_iff hx hvl htl hvr htr, e1, e2]

-- non-vacuity: both term lists are defined on a concrete domain record / challenge point
example (vkey : VKey) (g : G1) (p : ProofM) (legacy : Bool) :
    ∃ right left ref,
      verifyTerms vkey g { size := 4, logSize := 2, sizeInv := 0, groupGen := 1, groupGenInv := 1, generatorInv := 0 }
        [] [] p { (default : Challenges) with z := 5 } legacy = some (right, left) ∧
      verifyRefTerms vkey g { size := 4, logSize := 2, sizeInv := 0, groupGen := 1, groupGenInv := 1, generatorInv := 0 }
        [] [] p { (default : Challenges) with z := 5 } legacy = some ref :=
  verifyTerms_some_of_lagrange _ _ _ _ _ _ _ _ (by decide +kernel)

/-- every point of the verifier's grouped MSM is a key point, a proof point or the generator; so
    well-formed inputs give term lists of valid subgroup points -/
theorem verifier_terms_wf (vkey : VKey) (g : G1) (d : Domain) (roots pis : List Nat)
    (p : ProofM) (ch : Challenges) (legacy : Bool) (right left : List (Nat × G1))
    (hc : verifyTerms vkey g d roots pis p ch legacy = some (right, left)) :
    (∀ t, t ∈ right ∨ t ∈ left → t.2 ∈ vkey.points ++ p.points ++ [g]) ∧
    (vkey.WF → p.WF → g.Valid ∧ g.torsionFree = true →
      ∀ t, t ∈ right ∨ t ∈ left → t.2.Valid ∧ t.2.torsionFree = true) :=
  ⟨verifyTerms_points vkey g d roots pis p ch legacy right left hc,
   verifyTerms_wf vkey g d roots pis p ch legacy right left hc⟩

/-- **Acceptance = the textbook equation in the curve group.**  For a well-formed key, proof and
    generator, the model verifier (C03 `accept_iff_equation`, pairing decided with the trapdoor
    `x < 2^256`) returns `.ok` exactly when the public-input length matches, the domain exists, the
    textbook term list is defined and
    `x·(−(W_z + u·W_zω)) + ([D] + Σ vⁱCᵢ + u Σ v_wⁱC'ᵢ − E·g + z·W_z + u·z·ω·W_zω) = 0` holds in
    `E(F_p)[r]` under the canonical (faithful, additive) interpretation `ιR` of the model's points. -/
theorem accept_iff_group_equation (v : VerifierM) {x : Nat} (hx : x < 2 ^ 256) (p : ProofM)
    (pis : List Nat) (ver : PVersion) (hk : v.vk.WF) (hp : p.WF)
    (hg : v.ok.g.Valid ∧ v.ok.g.torsionFree = true) :
    v.verify x p pis ver = .ok ↔
      pis.length = v.piIndexes.length ∧ ∃ d, Domain.new? v.vk.n = some d ∧ ∃ ref,
        verifyRefTerms v.vk v.ok.g d (v.piIndexes.map fun i => fpow d.groupGenInv (i % 2 ^ 64)) pis p
          (verifierChallenges v.label v.vk v.constraints (ver == .v3) pis p) (ver == .v1) = some ref ∧
        toF x • -(G1.ιR p.wz +
            toF (verifierChallenges v.label v.vk v.constraints (ver == .v3) pis p).u • G1.ιR p.wzw) +
          evalTerms G1.ιR ref = 0 :=
  verify_ok_iff_group v hx p pis ver hk hp hg

-- non-vacuity: a well-formed verifier record, proof and generator (from the codec examples)
example : CodecEx.exVerifier.vk.WF ∧ CodecEx.exProof.WF ∧
    (CodecEx.exVerifier.ok.g.Valid ∧ CodecEx.exVerifier.ok.g.torsionFree = true) ∧ (7 : Nat) < 2 ^ 256 :=
  ⟨CodecEx.exVKey_wf 4 (by norm_num), CodecEx.exProof_wf, CodecEx.gen_ok, by norm_num⟩

end Plonk.Props.G1Law
