/-
  C05 (permutation half; the same facts serve C18 and C15) — the copy-constraint argument.

  What is proved (all FULL, no `_partial`):

  1. `cosets_disjoint`, `id_label_injective` — for `ω` a primitive `2^k`-th root of unity in
     `F = ZMod R`, `k ≤ 32`: `K_a ω^i = K_b ω^j → a = b ∧ i ≡ j (mod 2^k)` for the coset
     representatives `kOf 0..3 = 1, K1, K2, K3`; `(col, i) ↦ K_col ω^i` is injective on
     `{0..3} × {0..2^k-1}`.
  2. `sigmaMaps_is_permutation` — the model's `sigmaMaps c n` (`compute_sigma_permutations`) is the
     table of the function `σ = Perm.sigmaFn c`, which (a) is a bijection of the position set
     `{0..3} × {0..n-1}` (for `n ≥` number of gates), (b) sends every position to a position wired
     to the same witness, (c) reaches, by iteration, every position of the same class, and never
     leaves the class; rows `≥ c.gates.size` are fixed.  "Class" = positions of the gate table
     wired to the same *allocated* witness (`Perm.SameClass`).
     FINDING (model vs Rust): a wire index `≥ c.wit.size` is silently ignored by the model's
     `wirePositions` (`Array.modify` out of range) — such positions are fixed points of `σ`; the
     Rust code asserts `valid_witnesses` instead.  Everything here is proved without assuming
     that wires are in range; the classes are restricted to allocated witnesses accordingly.
  3. `perm_respects_iff` — `(∀ p, val (σ p) = val p)` ⇔ `val` constant on every class ⇔
     `Composer.copyViolation lay c = none` (values read from the proving-time composer `c`).
  4. `perm_product_sound` — soundness of the grand-product check with an explicit bad set:
     for fixed wire values there are at most `(4n)²` bad `β`; for every other `β`, if
     `∏_p (val p + β·id p + γ) = ∏_p (val p + β·id(σ p) + γ)` for more than `4n` values of `γ`,
     then `val (σ p) = val p` for all `p`; `perm_product_sound_poly` is the two-variable
     polynomial-identity form (no bad set), `perm_product_complete` the converse, and
     `grand_product_no_copy_violation` chains soundness down to `copyViolation = none`.
     This is the mathematical (field-level) statement; `Perm.toF_permVec_num/den`,
     `Perm.prod_posSet_rows`, `Perm.sigma_column_evals` (Proofs/PermutationModel) relate the
     factors to the expressions of the model's `permVec` / `compile`, but the closing of the
     accumulator `z` by the quotient identity is not part of this file.
  5. `sigma_order_independent` — `Perm.sigmaMapsOrder c n order` (the model's loop, visiting the
     witnesses in the order `order`) equals `sigmaMaps c n` for every permutation `order` of the
     witness indices (C18: `HashMap` iteration order is irrelevant).
  6. `relabel_sigma` — relabelling the witnesses by a map injective on the wires in use (and
     preserving "allocated") does not change `sigmaMaps` (C15; the corollaries for
     `decompressCompress` / `compile` are delivered by the C15 files, which consume this theorem).
-/
import Plonk.Proofs.Permutation
import Plonk.Proofs.FftDomain

namespace Plonk.Props.C05Perm
open Plonk Plonk.Perm

/-! ### the running example: 3 gates, 4 witnesses -/

/-- a three-gate layout: witness 0 sits at (a,0) (c,1) (d,2); witness 1 at (b,0) (b,1) (a,2) (b,2);
    witness 2 at (c,0) (a,1) (c,2); witness 3 at (d,0) (d,1) -/
def exLay : Composer :=
  { gates := #[{ a := 0, b := 1, c := 2, d := 3 }, { a := 2, b := 1, c := 0, d := 3 },
               { a := 1, b := 1, c := 2, d := 0 }],
    wit := #[5, 7, 12, 0] }

/-- a proving-time composer with the same number of gates whose wiring disagrees with `exLay`
    at position (c,1) -/
def exBad : Composer :=
  { gates := #[{ a := 0, b := 1, c := 2, d := 3 }, { a := 2, b := 1, c := 1, d := 3 },
               { a := 1, b := 1, c := 2, d := 0 }],
    wit := #[5, 7, 12, 0] }

/-- a primitive 4th root of unity of `F` -/
theorem exOmega : IsPrimitiveRoot (toF ROOT_OF_UNITY ^ 2 ^ 30) (2 ^ 2) := by
  have h := root_of_unity_primitive.pow_of_dvd (p := 2 ^ 30) (by decide) (by decide)
  have e : 2 ^ 32 / 2 ^ 30 = 2 ^ 2 := by decide
  rwa [e] at h

/-! ### 1. disjoint cosets -/

theorem cosets_disjoint {ω : F} {k : Nat} (hk : k ≤ 32) (hω : IsPrimitiveRoot ω (2 ^ k))
    {a b : Nat} (ha : a < 4) (hb : b < 4) {i j : Nat}
    (h : toF (kOf a) * ω ^ i = toF (kOf b) * ω ^ j) : a = b ∧ i ≡ j [MOD 2 ^ k] :=
  coset_disjoint_mod hk hω ha hb h

theorem id_label_injective {ω : F} {k : Nat} (hk : k ≤ 32) (hω : IsPrimitiveRoot ω (2 ^ k))
    {p q : Nat × Nat} (hp1 : p.1 < 4) (hp2 : p.2 < 2 ^ k) (hq1 : q.1 < 4) (hq2 : q.2 < 2 ^ k)
    (h : toF (kOf p.1) * ω ^ p.2 = toF (kOf q.1) * ω ^ q.2) : p = q :=
  idLabel_injOn hk hω hp1 hp2 hq1 hq2 h

/-- non-vacuity: the hypotheses hold for the crate's root of unity (`k = 32`) and for `k = 2` -/
example : (32 ≤ 32) ∧ IsPrimitiveRoot (toF ROOT_OF_UNITY) (2 ^ 32) ∧ IsPrimitiveRoot (toF ROOT_OF_UNITY ^ 2 ^ 30) (2 ^ 2) :=
  ⟨le_refl _, root_of_unity_primitive, exOmega⟩

/-! ### 2. `sigmaMaps` is a permutation whose cycles are the wiring classes -/

theorem sigmaMaps_is_permutation (c : Composer) (n : Nat) (hn : c.gates.size ≤ n) :
    -- the model's table is the table of `σ`
    (sigmaMaps c n = (Array.range 4).map fun col => (Array.range n).map fun i => sigmaFn c (col, i)) ∧
    (∀ p : Nat × Nat, p.1 < 4 → p.2 < n → ((sigmaMaps c n).getD p.1 #[]).getD p.2 p = sigmaFn c p) ∧
    -- (a) bijection of the position set
    Set.BijOn (sigmaFn c) (posSet n : Set (Nat × Nat)) (posSet n : Set (Nat × Nat)) ∧
    -- (b) same witness
    (∀ p, wireAt c (sigmaFn c p) = wireAt c p) ∧
    -- (c) the orbit of `p` is exactly its class
    (∀ p q, SameClass c p q → ∃ t, (sigmaFn c)^[t] p = q) ∧
    (∀ p t, SameClass c p p → SameClass c p ((sigmaFn c)^[t] p)) ∧
    -- padded rows are fixed
    (∀ p : Nat × Nat, c.gates.size ≤ p.2 → sigmaFn c p = p) :=
  ⟨sigmaMaps_eq_table c n, readS_sigmaMaps c n, sigmaFn_bijOn c n hn, wireAt_sigmaFn c,
   fun p q h => sigmaFn_reaches ((sameClass_iff_mem c p q).mp h).1 ((sameClass_iff_mem c p q).mp h).2,
   fun p t h => (sameClass_iff_mem c p _).mpr
     ⟨((sameClass_iff_mem c p p).mp h).1, sigmaFn_iterate_mem ((sameClass_iff_mem c p p).mp h).1 t⟩,
   sigmaFn_fixed_of_row_ge c⟩

/-- non-vacuity: on the example (padded to `n = 4 ≥ 3`) the table is a non-trivial permutation -/
example : exLay.gates.size ≤ 4 ∧
    sigmaMaps exLay 4 =
      #[#[(2, 1), (2, 2), (1, 2), (0, 3)], #[(1, 1), (0, 2), (1, 0), (1, 3)],
        #[(0, 1), (3, 2), (2, 0), (2, 3)], #[(3, 1), (3, 0), (0, 0), (3, 3)]] := by
  decide +kernel

example : SameClass exLay (0, 0) (3, 2) ∧ (sigmaFn exLay)^[2] (0, 0) = (3, 2) := by
  decide +kernel

/-! ### 3. respecting `σ` ⇔ constant on classes ⇔ no copy violation -/

theorem perm_respects_iff (lay c : Composer) :
    ((∀ p, valAt c (sigmaFn lay p) = valAt c p) ↔ (∀ p q, SameClass lay p q → valAt c p = valAt c q)) ∧
    ((∀ p q, SameClass lay p q → valAt c p = valAt c q) ↔ Composer.copyViolation lay c = none) :=
  Perm.perm_respects_iff lay c

/-- the first equivalence for arbitrary values (e.g. field elements chosen by an adversary) -/
theorem perm_respects_iff_const {α : Type} (lay : Composer) (val : Nat × Nat → α) :
    (∀ p, val (sigmaFn lay p) = val p) ↔ (∀ p q, SameClass lay p q → val p = val q) :=
  respects_iff_const lay val

/-- non-vacuity: both outcomes occur -/
example : Composer.copyViolation exLay exLay = none ∧ Composer.copyViolation exLay exBad = some 0 := by
  decide +kernel

/-! ### 4. the grand-product check -/

theorem perm_product_sound (lay : Composer) {k : Nat} (hk : k ≤ 32) (hn : lay.gates.size ≤ 2 ^ k)
    {ω : F} (hω : IsPrimitiveRoot ω (2 ^ k)) (val : Nat × Nat → F) :
    ∃ B : Finset F, B.card ≤ (4 * 2 ^ k) * (4 * 2 ^ k) ∧
      ∀ β, β ∉ B → ∀ Γ : Finset F, 4 * 2 ^ k < Γ.card →
        (∀ γ ∈ Γ, ∏ p ∈ posSet (2 ^ k), (val p + β * idLabel ω p + γ) =
                  ∏ p ∈ posSet (2 ^ k), (val p + β * idLabel ω (sigmaFn lay p) + γ)) →
        ∀ p, val (sigmaFn lay p) = val p :=
  perm_product_sound_model lay _ hn _ (idLabel_injOn_posSet hk hω) val

open Polynomial in
theorem perm_product_sound_poly (lay : Composer) {k : Nat} (hk : k ≤ 32) (hn : lay.gates.size ≤ 2 ^ k)
    {ω : F} (hω : IsPrimitiveRoot ω (2 ^ k)) (val : Nat × Nat → F)
    (h : (∏ p ∈ posSet (2 ^ k), (X + C (C (val p) + X * C (idLabel ω p))) : F[X][X]) =
         ∏ p ∈ posSet (2 ^ k), (X + C (C (val p) + X * C (idLabel ω (sigmaFn lay p))))) :
    ∀ p ∈ posSet (2 ^ k), val (sigmaFn lay p) = val p :=
  Perm.perm_product_sound_poly (posSet (2 ^ k)) val (idLabel ω) (sigmaFn lay)
    (fun _ hp => (sigmaFn_bijOn lay _ hn).mapsTo hp) (idLabel_injOn_posSet hk hω) h

theorem perm_product_complete (lay : Composer) (n : Nat) (hn : lay.gates.size ≤ n)
    (idl : Nat × Nat → F) (val : Nat × Nat → F) (hval : ∀ p, val (sigmaFn lay p) = val p) (β γ : F) :
    ∏ p ∈ posSet n, (val p + β * idl p + γ) = ∏ p ∈ posSet n, (val p + β * idl (sigmaFn lay p) + γ) :=
  perm_product_complete_model lay n hn idl val hval β γ

theorem grand_product_no_copy_violation (lay c : Composer) {k : Nat} (hk : k ≤ 32)
    (hn : lay.gates.size ≤ 2 ^ k) {ω : F} (hω : IsPrimitiveRoot ω (2 ^ k))
    (hred : ∀ p, valAt c p < R) :
    ∃ B : Finset F, B.card ≤ (4 * 2 ^ k) * (4 * 2 ^ k) ∧
      ∀ β, β ∉ B → ∀ Γ : Finset F, 4 * 2 ^ k < Γ.card →
        (∀ γ ∈ Γ, ∏ p ∈ posSet (2 ^ k), (toF (valAt c p) + β * idLabel ω p + γ) =
                  ∏ p ∈ posSet (2 ^ k), (toF (valAt c p) + β * idLabel ω (sigmaFn lay p) + γ)) →
        Composer.copyViolation lay c = none :=
  Perm.grand_product_no_copy_violation lay c hk hn hω hred

/-- non-vacuity: for the example (`k = 2`, `n = 4`) the structural hypotheses hold, and the
    product hypothesis is satisfiable — the honest values satisfy it for all `β`, `γ` -/
example : (2 ≤ 32) ∧ exLay.gates.size ≤ 2 ^ 2 ∧ IsPrimitiveRoot (toF ROOT_OF_UNITY ^ 2 ^ 30) (2 ^ 2) ∧
    (∀ p, valAt exLay p < R) ∧
    (∀ β γ : F, ∏ p ∈ posSet (2 ^ 2), (toF (valAt exLay p) + β * idLabel (toF ROOT_OF_UNITY ^ 2 ^ 30) p + γ) =
      ∏ p ∈ posSet (2 ^ 2), (toF (valAt exLay p) +
        β * idLabel (toF ROOT_OF_UNITY ^ 2 ^ 30) (sigmaFn exLay p) + γ)) := by
  have hcv : Composer.copyViolation exLay exLay = none := by decide +kernel
  have hresp : ∀ p, valAt exLay (sigmaFn exLay p) = valAt exLay p :=
    (Perm.perm_respects_iff exLay exLay).1.mpr ((Perm.perm_respects_iff exLay exLay).2.mpr hcv)
  refine ⟨by decide, by decide, exOmega, ?_, ?_⟩
  · intro p
    have hw : ∀ w, exLay.val w < R := by
      intro w
      unfold Composer.val exLay
      rw [Array.getD_eq_getD_getElem?]
      rcases w with _ | _ | _ | _ | w
      · decide +kernel
      · decide +kernel
      · decide +kernel
      · decide +kernel
      · have : (#[5, 7, 12, 0] : Array Nat)[w + 4]? = none := by simp
        rw [this]; exact R_pos
    unfold valAt Composer.rowVals
    split <;> split <;> first | exact hw _ | exact R_pos
  · intro β γ
    exact perm_product_complete_model exLay _ (by decide) _ _
      (fun p => by rw [hresp p]) β γ

/-! ### 5. order independence (C18) -/

theorem sigma_order_independent (c : Composer) (n : Nat) (order : List Nat)
    (h : order.Perm (List.range c.wit.size)) : sigmaMapsOrder c n order = sigmaMaps c n :=
  Perm.sigma_order_independent c n order h

/-- non-vacuity: a non-identity visiting order -/
example : [2, 0, 3, 1].Perm (List.range exLay.wit.size) ∧
    sigmaMapsOrder exLay 4 [2, 0, 3, 1] = sigmaMaps exLay 4 := by
  decide +kernel

/-! ### 6. relabelling invariance (C15) -/

theorem relabel_sigma (f : Nat → Nat) (c c' : Composer) (n : Nat)
    (hg : c'.gates = c.gates.map (relabelGate f))
    (hinj : ∀ p q : Nat × Nat, p.1 < 4 → p.2 < c.gates.size → q.1 < 4 → q.2 < c.gates.size →
      f (wireAt c p) = f (wireAt c q) → wireAt c p = wireAt c q)
    (hrg : ∀ p : Nat × Nat, p.1 < 4 → p.2 < c.gates.size →
      (wireAt c p < c.wit.size ↔ f (wireAt c p) < c'.wit.size)) :
    sigmaMaps c' n = sigmaMaps c n :=
  Perm.relabel_sigma f c c' n hg hinj hrg

theorem sigmaMaps_congr (c c' : Composer) (n : Nat) (hsz : c.gates.size = c'.gates.size)
    (heq : ∀ p q : Nat × Nat, p.1 < 4 → p.2 < c.gates.size → q.1 < 4 → q.2 < c.gates.size →
      (wireAt c p = wireAt c q ↔ wireAt c' p = wireAt c' q))
    (hrg : ∀ p : Nat × Nat, p.1 < 4 → p.2 < c.gates.size →
      (wireAt c p < c.wit.size ↔ wireAt c' p < c'.wit.size)) :
    sigmaMaps c n = sigmaMaps c' n :=
  Perm.sigmaMaps_congr c c' n hsz heq hrg

/-- non-vacuity: reversing the four witness labels of the example -/
example : sigmaMaps (mapWires (fun w => if w < 4 then 3 - w else w) exLay) 4 = sigmaMaps exLay 4 ∧
    (mapWires (fun w => if w < 4 then 3 - w else w) exLay).gates ≠ exLay.gates := by
  refine ⟨relabel_sigma_of_injective _ ?_ exLay 4 ?_, by decide +kernel⟩
  · intro a b h
    simp only at h
    split at h <;> split at h <;> omega
  · intro w
    show w < 4 ↔ (if w < 4 then 3 - w else w) < 4
    split <;> omega

end Plonk.Props.C05Perm
