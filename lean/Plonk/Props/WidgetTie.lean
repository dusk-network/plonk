/-
  Tie by translation (used by C02, C03, C05): the Rust formulas of every widget — regenerated from
  `src/proof_system/widget/**/{proverkey,verifierkey}.rs` into `Plonk/GeneratedWidgets.lean` by `tools/rs2lean.py`
  on every run — are the model's formulas. Three statements, one per site of the code; each is the conjunction over
  the six widgets (arithmetic, range, logic, fixed-base, curve addition, permutation).
-/
import Plonk.Proofs.WidgetSource

namespace Plonk.Props.WidgetTie
open Plonk Plonk.GeneratedWidgets Plonk.WidgetSource

/-- **Verifier** (`VerifierKey::compute_linearization_commitment` of every widget): the scalars pushed next to the
    selector / `z` / `s_sigma_4` commitments are the model's `linearizationTerms` scalars. -/
theorem verifier_terms_are_the_source (sepR sepL sepF sepV : Nat) (e : Evals) (ch : Challenges) (l1 : Nat) :
    arith_verifier (A := F) (evaluations_a_eval := toF e.a) (evaluations_b_eval := toF e.b)
        (evaluations_c_eval := toF e.c) (evaluations_d_eval := toF e.d) (evaluations_q_arith_eval := toF e.qarith)
      = [(toF (fmul (fmul e.a e.b) e.qarith), "self_q_m_0"), (toF (fmul e.a e.qarith), "self_q_l_0"),
         (toF (fmul e.b e.qarith), "self_q_r_0"), (toF (fmul e.c e.qarith), "self_q_o_0"),
         (toF (fmul e.d e.qarith), "self_q_f_0"), (toF e.qarith, "self_q_c_0")] ∧
    range_verifier (A := F) (evaluations_a_eval := toF e.a) (evaluations_b_eval := toF e.b)
        (evaluations_c_eval := toF e.c) (evaluations_d_eval := toF e.d) (evaluations_d_w_eval := toF e.dw)
        (range_separation_challenge := toF sepR)
      = [(toF (rangeScalar sepR e), "self_q_range_0")] ∧
    logic_verifier (A := F) (evaluations_a_eval := toF e.a) (evaluations_a_w_eval := toF e.aw)
        (evaluations_b_eval := toF e.b) (evaluations_b_w_eval := toF e.bw) (evaluations_c_eval := toF e.c)
        (evaluations_d_eval := toF e.d) (evaluations_d_w_eval := toF e.dw) (evaluations_q_c_eval := toF e.qc)
        (logic_separation_challenge := toF sepL)
      = [(toF (logicScalar sepL e), "self_q_logic_0")] ∧
    fixed_verifier (A := F) (EDWARDS_D := dF) (ecc_separation_challenge := toF sepF)
        (evaluations_a_eval := toF e.a) (evaluations_a_w_eval := toF e.aw) (evaluations_b_eval := toF e.b)
        (evaluations_b_w_eval := toF e.bw) (evaluations_c_eval := toF e.c) (evaluations_d_eval := toF e.d)
        (evaluations_d_w_eval := toF e.dw) (evaluations_q_c_eval := toF e.qc) (evaluations_q_l_eval := toF e.ql)
        (evaluations_q_r_eval := toF e.qr)
      = [(toF (fixedScalar sepF e), "self_q_fixed_group_add_0")] ∧
    var_verifier (A := F) (EDWARDS_D := dF) (curve_add_separation_challenge := toF sepV)
        (evaluations_a_eval := toF e.a) (evaluations_a_w_eval := toF e.aw) (evaluations_b_eval := toF e.b)
        (evaluations_b_w_eval := toF e.bw) (evaluations_c_eval := toF e.c) (evaluations_d_eval := toF e.d)
        (evaluations_d_w_eval := toF e.dw)
      = [(toF (varScalar sepV e), "self_q_variable_group_add_0")] ∧
    perm_verifier (A := F) (K1 := toF Generated.K1) (K2 := toF Generated.K2) (K3 := toF Generated.K3)
        (alpha := toF ch.alpha) (beta := toF ch.beta) (evaluations_a_eval := toF e.a) (evaluations_b_eval := toF e.b)
        (evaluations_c_eval := toF e.c) (evaluations_d_eval := toF e.d) (evaluations_s_sigma_1_eval := toF e.s1)
        (evaluations_s_sigma_2_eval := toF e.s2) (evaluations_s_sigma_3_eval := toF e.s3)
        (evaluations_z_eval := toF e.z) (gamma := toF ch.gamma) (l1_eval := toF l1) (u_challenge := toF ch.u)
        (z_challenge := toF ch.z)
      = [(toF (permZScalar e ch l1), "z_comm"), (toF (permS4Scalar e ch), "self_s_sigma_4_0")] := by
  -- each custom widget's verifier scalar is its linearisation term with the selector polynomial replaced by `1`
  refine ⟨?_, ?_, ?_, ?_, ?_, ?_⟩
  · simp only [arith_verifier, toF_fmul]
  · rw [← one_mul (toF (rangeScalar sepR e)), ← range_linearization_source sepR e 1]
    simp only [range_verifier, range_linearization, one_mul]
  · rw [← one_mul (toF (logicScalar sepL e)), ← logic_linearization_source sepL e 1]
    simp only [logic_verifier, logic_linearization, one_mul]
  · rw [← one_mul (toF (fixedScalar sepF e)), ← fixed_linearization_source sepF e 1]
    simp only [fixed_verifier, fixed_linearization, one_mul]
  · rw [← one_mul (toF (varScalar sepV e)), ← var_linearization_source sepV e 1]
    simp only [var_verifier, var_linearization, one_mul]
  · simp only [perm_verifier, permZScalar, permS4Scalar, toF_fmul, toF_fadd, toF_fsq, toF_fneg]

/-- the copied permutation scalars ARE entries 10 and 11 of the model's `linearizationTerms` -/
theorem perm_scalars_are_the_models (k : VKey) (p : ProofM) (ch : Challenges) (zh l1 : Nat) :
    (linearizationTerms k p ch zh l1)[10]? = some (permZScalar p.ev ch l1, p.zC) ∧
    (linearizationTerms k p ch zh l1)[11]? = some (permS4Scalar p.ev ch, k.s4) :=
  linearizationTerms_perm k p ch zh l1

/-- **Prover, quotient** (`ProverKey::compute_quotient_i` of every widget): the term of row `i` is the selector value
    times the SAME model scalar evaluated on the row's wire values (and `arithVal` for the arithmetic widget,
    `permQuotTerm` = the model's `idp + cpp + (z − 1)·l1α²` for the permutation). -/
theorem prover_quotient_terms_are_the_source (g : Gate) (sep a aw b bw c d dw ql qr qc : Nat) (q : F)
    (z zw x s1 s2 s3 s4 alpha beta gamma l1a2 : Nat) :
    arith_quotient_i (A := F) (a_i := toF a) (b_i := toF b) (c_i := toF c) (d_i := toF d)
        (self_q_arith_1_index := toF g.qarith) (self_q_c_1_index := toF g.qc) (self_q_f_1_index := toF g.qf)
        (self_q_l_1_index := toF g.ql) (self_q_m_1_index := toF g.qm) (self_q_o_1_index := toF g.qo)
        (self_q_r_1_index := toF g.qr)
      = toF (arithVal g a b c d 0) ∧
    range_quotient_i (A := F) (a_i := toF a) (b_i := toF b) (c_i := toF c) (d_i := toF d) (d_i_w := toF dw)
        (range_separation_challenge := toF sep) (self_q_range_1_index := q)
      = q * toF (rangeScalar sep (rowEvals a b c d 0 0 dw 0 0 0)) ∧
    logic_quotient_i (A := F) (a_i := toF a) (a_i_w := toF aw) (b_i := toF b) (b_i_w := toF bw) (c_i := toF c)
        (d_i := toF d) (d_i_w := toF dw) (logic_separation_challenge := toF sep) (self_q_c_1_index := toF qc)
        (self_q_logic_1_index := q)
      = q * toF (logicScalar sep (rowEvals a b c d aw bw dw 0 0 qc)) ∧
    fixed_quotient_i (A := F) (EDWARDS_D := dF) (a_i := toF a) (a_i_w := toF aw) (b_i := toF b) (b_i_w := toF bw)
        (c_i := toF c) (d_i := toF d) (d_i_w := toF dw) (ecc_separation_challenge := toF sep)
        (self_q_c_1_index := toF qc) (self_q_fixed_group_add_1_index := q) (self_q_l_1_index := toF ql)
        (self_q_r_1_index := toF qr)
      = q * toF (fixedScalar sep (rowEvals a b c d aw bw dw ql qr qc)) ∧
    var_quotient_i (A := F) (EDWARDS_D := dF) (a_i := toF a) (a_i_w := toF aw) (b_i := toF b) (b_i_w := toF bw)
        (c_i := toF c) (curve_add_separation_challenge := toF sep) (d_i := toF d) (d_i_w := toF dw)
        (self_q_variable_group_add_1_index := q)
      = q * toF (varScalar sep (rowEvals a b c d aw bw dw 0 0 0)) ∧
    perm_quotient_i (A := F) (K1 := toF Generated.K1) (K2 := toF Generated.K2) (K3 := toF Generated.K3)
        (a_i := toF a) (alpha := toF alpha) (b_i := toF b) (beta := toF beta) (c_i := toF c) (d_i := toF d)
        (gamma := toF gamma) (l1_alpha_sq := toF l1a2) (self_linear_evaluations_index := toF x)
        (self_s_sigma_1_1_index := toF s1) (self_s_sigma_2_1_index := toF s2) (self_s_sigma_3_1_index := toF s3)
        (self_s_sigma_4_1_index := toF s4) (z_i := toF z) (z_i_w := toF zw)
      = toF (permQuotTerm a b c d z zw x s1 s2 s3 s4 alpha beta gamma l1a2) := by
  refine ⟨?_, range_quotient_source sep a b c d dw q, logic_quotient_source sep a aw b bw c d dw qc q,
    fixed_quotient_source sep a aw b bw c d dw ql qr qc q, var_quotient_source sep a aw b bw c d dw q, ?_⟩
  · rw [toF_arithVal]
    simp only [arith_quotient_i, arithF]
    simp
  · simp only [perm_quotient_i, perm_quotient_identity_i, perm_quotient_copy_i, perm_quotient_one_i, permQuotTerm,
      toF_fmul, toF_fadd, toF_fsub, toF_fneg, toF_one]

/-- **Prover, linearisation** (`ProverKey::compute_linearization` of every widget): the multiplier of each selector
    polynomial is the verifier's scalar for the same commitment. -/
theorem prover_linearization_terms_are_the_source (sepR sepL sepF sepV : Nat) (e : Evals) (ch : Challenges)
    (qR qL qF qV qm ql qr qo qf qc zpoly s4poly : F) :
    arith_linearization (A := F) (evaluations_a_eval := toF e.a) (evaluations_b_eval := toF e.b)
        (evaluations_c_eval := toF e.c) (evaluations_d_eval := toF e.d) (evaluations_q_arith_eval := toF e.qarith)
        (self_q_c_0 := qc) (self_q_f_0 := qf) (self_q_l_0 := ql) (self_q_m_0 := qm) (self_q_o_0 := qo) (self_q_r_0 := qr)
      = toF (fmul (fmul e.a e.b) e.qarith) * qm + toF (fmul e.a e.qarith) * ql + toF (fmul e.b e.qarith) * qr
        + toF (fmul e.c e.qarith) * qo + toF (fmul e.d e.qarith) * qf + toF e.qarith * qc ∧
    range_linearization (A := F) (evaluations_a_eval := toF e.a) (evaluations_b_eval := toF e.b)
        (evaluations_c_eval := toF e.c) (evaluations_d_eval := toF e.d) (evaluations_d_w_eval := toF e.dw)
        (range_separation_challenge := toF sepR) (self_q_range_0 := qR)
      = qR * toF (rangeScalar sepR e) ∧
    logic_linearization (A := F) (evaluations_a_eval := toF e.a) (evaluations_a_w_eval := toF e.aw)
        (evaluations_b_eval := toF e.b) (evaluations_b_w_eval := toF e.bw) (evaluations_c_eval := toF e.c)
        (evaluations_d_eval := toF e.d) (evaluations_d_w_eval := toF e.dw) (evaluations_q_c_eval := toF e.qc)
        (logic_separation_challenge := toF sepL) (self_q_logic_0 := qL)
      = qL * toF (logicScalar sepL e) ∧
    fixed_linearization (A := F) (EDWARDS_D := dF) (ecc_separation_challenge := toF sepF)
        (evaluations_a_eval := toF e.a) (evaluations_a_w_eval := toF e.aw) (evaluations_b_eval := toF e.b)
        (evaluations_b_w_eval := toF e.bw) (evaluations_c_eval := toF e.c) (evaluations_d_eval := toF e.d)
        (evaluations_d_w_eval := toF e.dw) (evaluations_q_c_eval := toF e.qc) (evaluations_q_l_eval := toF e.ql)
        (evaluations_q_r_eval := toF e.qr) (self_q_fixed_group_add_0 := qF)
      = qF * toF (fixedScalar sepF e) ∧
    var_linearization (A := F) (EDWARDS_D := dF) (curve_add_separation_challenge := toF sepV)
        (evaluations_a_eval := toF e.a) (evaluations_a_w_eval := toF e.aw) (evaluations_b_eval := toF e.b)
        (evaluations_b_w_eval := toF e.bw) (evaluations_c_eval := toF e.c) (evaluations_d_eval := toF e.d)
        (evaluations_d_w_eval := toF e.dw) (self_q_variable_group_add_0 := qV)
      = qV * toF (varScalar sepV e) ∧
    perm_linearizer_identity (A := F) (K1 := toF Generated.K1) (K2 := toF Generated.K2) (K3 := toF Generated.K3)
        (a_eval := toF e.a) (alpha := toF ch.alpha) (b_eval := toF e.b) (beta := toF ch.beta) (c_eval := toF e.c)
        (d_eval := toF e.d) (gamma := toF ch.gamma) (z_challenge := toF ch.z) (z_poly := zpoly)
      + perm_linearizer_copy (A := F) (a_eval := toF e.a) (alpha := toF ch.alpha) (b_eval := toF e.b)
        (beta := toF ch.beta) (c_eval := toF e.c) (gamma := toF ch.gamma) (s_sigma_4_poly := s4poly)
        (sigma_1_eval := toF e.s1) (sigma_2_eval := toF e.s2) (sigma_3_eval := toF e.s3) (z_eval := toF e.z)
      = zpoly * (toF (permZScalar e ch 0) - toF ch.u) + s4poly * toF (permS4Scalar e ch) := by
  refine ⟨?_, range_linearization_source sepR e qR, logic_linearization_source sepL e qL,
    fixed_linearization_source sepF e qF, var_linearization_source sepV e qV, ?_⟩
  · simp only [arith_linearization, toF_fmul]
    ring1
  · simp only [perm_linearizer_identity, perm_linearizer_copy, permZScalar, permS4Scalar, toF_fmul, toF_fadd, toF_fsq,
      toF_fneg, toF_zero]
    -- the two sides differ only in bracketing, in `K·(β·z)` for `β·K·z`, and by `+ 0·α² + u − u`
    have h : ∀ K : F, K * (toF ch.beta * toF ch.z) = toF ch.beta * K * toF ch.z := fun K => by ring
    simp only [h, zero_mul, add_zero, add_sub_cancel_right, mul_assoc]

/-- **`proof.rs`**: the widget terms are appended in the model's order; the four quotient terms and `r_0` (both
    verification routes) are the model's. -/
theorem verify_assembly_is_the_source (k : VKey) (p : ProofM) (e : Evals) (ch : Challenges) (zh l1 pi : Nat) :
    verify_lin_terms_calls = ["arithmetic", "range", "logic", "fixed_base", "variable_base", "permutation"] ∧
    (linearizationTerms k p ch zh l1).drop 12
      = [((quotientScalars zh).getD 0 0, p.tLow), ((quotientScalars zh).getD 1 0, p.tMid),
         ((quotientScalars zh).getD 2 0, p.tHigh), ((quotientScalars zh).getD 3 0, p.tFourth)] ∧
    verify_lin_terms (A := F) (z_h_eval := toF zh)
      = [(toF ((quotientScalars zh).getD 0 0), "self_t_low_comm_0"), (toF ((quotientScalars zh).getD 1 0), "self_t_mid_comm_0"),
         (toF ((quotientScalars zh).getD 2 0), "self_t_high_comm_0"), (toF ((quotientScalars zh).getD 3 0), "self_t_fourth_comm_0")] ∧
    verify_r0 (A := F) (alpha := toF ch.alpha) (beta := toF ch.beta) (gamma := toF ch.gamma) (l1_eval := toF l1)
      (pi_eval := toF pi) (self_evaluations_a_eval := toF e.a) (self_evaluations_b_eval := toF e.b)
      (self_evaluations_c_eval := toF e.c) (self_evaluations_d_eval := toF e.d)
      (self_evaluations_s_sigma_1_eval := toF e.s1) (self_evaluations_s_sigma_2_eval := toF e.s2)
      (self_evaluations_s_sigma_3_eval := toF e.s3) (self_evaluations_z_eval := toF e.z)
      = toF (r0Eval e ch l1 pi) ∧
    verify_legacy_r0 (A := F) (alpha := toF ch.alpha) (beta := toF ch.beta) (gamma := toF ch.gamma) (l1_eval := toF l1)
      (pi_eval := toF pi) (self_evaluations_a_eval := toF e.a) (self_evaluations_b_eval := toF e.b)
      (self_evaluations_c_eval := toF e.c) (self_evaluations_d_eval := toF e.d)
      (self_evaluations_s_sigma_1_eval := toF e.s1) (self_evaluations_s_sigma_2_eval := toF e.s2)
      (self_evaluations_s_sigma_3_eval := toF e.s3) (self_evaluations_z_eval := toF e.z)
      = toF (r0Eval e ch l1 pi) := by
  refine ⟨rfl, linearizationTerms_quotient k p ch zh l1, ?_, (verify_r0_source e ch l1 pi).1, (verify_r0_source e ch l1 pi).2⟩
  simp only [verify_lin_terms, quotientScalars, List.getD_cons_zero, List.getD_cons_succ, toF_fmul, toF_fadd, toF_fsq,
    toF_fneg, toF_one]

/-- non-vacuity: the translated range verifier scalar on a concrete row (c − 4d = 5 is not a quad) is non-zero -/
example : range_verifier (A := F) (evaluations_a_eval := 0) (evaluations_b_eval := 0) (evaluations_c_eval := 5)
    (evaluations_d_eval := 0) (evaluations_d_w_eval := 0) (range_separation_challenge := 1)
    = [((5 * (5 - 1) * (5 - 2) * (5 - 3) + (-20) * (-20 - 1) * (-20 - 2) * (-20 - 3) : F), "self_q_range_0")] := by
  simp only [range_verifier, range_delta]
  congr 2

end Plonk.Props.WidgetTie
