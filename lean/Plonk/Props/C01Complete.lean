/-
  C01 — "Completeness: for every circuit that compiles and every witness assignment that satisfies
  all of its gates, copy constraints and public inputs, `Prover::prove` returns a proof and the
  matching `Verifier::verify` accepts it (degenerate blinders excepted)."

  This file is the ALGEBRAIC COMPLETENESS COMPOSITION, the mirror image of the soundness
  composition of `Props/C02.lean`.  It talks about the SAME objects: a compiled layout `lay`
  (`lay.gateAt`, `lay.piAt`, `Perm.sigmaFn lay`), prover polynomials `P : ProverPolys F` with
  `Sound.KeyInterp ω n lay P`, the row predicate `Sound.rowOKP` (the model's `Plonk.rowHolds` on the
  values read off the wire polynomials, next row cyclic), the per-row quantities `gateAtRow`,
  `permAtRow`, `l1AtRow`, and the SAME numerator polynomial `Quot.NumP` (whose coset values are the
  entries of the model's `quotientEvals`, C05 `quotient_in_prove`).  The domain size `n` is
  arbitrary (`soundness_algebraic` is stated for `n = 2^k`).

  What IS proved (all FULL, no `_partial`):

   1. `accumulator_exists`, `perm_vec_is_accumulator`, `perm_identities_vanish`
   2. `gate_identity_vanishes`
   3. `numerator_divisible`, `quotient_degree_bound`, `quotient_fits`
   4. `verifier_equation_holds`, `verifier_accepts`, `verifier_accepts_legacy` (the model verifier's
      OWN grouped MSM `verifyTerms` vanishes on the honest prover's data, V2/V3 and V1)
   5. `completeness_algebraic`, `completeness_witness`, `completeness_witness_self`
   6. `completeness_model_polys` (the polynomials the specification prover builds — `ifft` columns,
      `blindPoly` wires and accumulator of the model's `permVec`, ANY blinders — satisfy every
      hypothesis of `completeness_algebraic`, for a layout whose own witness satisfies all rows),
      `quotient_in_prove_complete` (the `tPoly` that the model's `prove` interpolates from
      `quotientEvals` IS the quotient `T`; it has `≤ 4n + 7` coefficients, passes the `len > 7n` test
      for `n ≥ 3`, and its shares fit the commit key)

  How the pieces compose into "satisfied ⇒ proves and verifies": by `completeness_witness` the
  model's own notions (`sysSat` / `rowHolds` on the padded table, `copyViolation = none`) give the
  row predicate and the class-constancy of the values of ANY wire polynomials interpolating the
  table — `blindPoly` with arbitrary blinders does (C05 `blind_agrees_on_domain`); by
  `perm_vec_is_accumulator` the model's `permVec` returns a vector exactly when `γ ∉ denBadM β`
  (at most `4n` values per `β`: the "degenerate" exception, explicit) and every polynomial
  interpolating it satisfies `AccInterp`; by `completeness_algebraic` the numerator is
  `T·(Xⁿ − 1)` for EVERY `α` and every separation challenge, `deg T ≤ 4n + 6` for the honest degree
  profile, so the quotient has at most `4n + 7` coefficients and the four shares fit the commit key
  (`quotient_fits` + C01 `commitments_fit`); and for EVERY `z, v, v_w, u` the batched opening check
  in the trapdoor view — the field equation of `Props/C02.forged_evaluation_rejected`, which C20
  `pairing_check_iff` turns into the pairing check — holds for the honest openings; in the code's
  own grouping (`verifier_accepts`): `[x]·Σ left + Σ right = O` for the term lists of the model's
  `verifyTerms`, the condition under which `VerifierM.verify` returns `.ok` (C03
  `accept_iff_equation`), once every point is read as `[q(x)]g`.

  What is NOT covered (stated, not hidden):

  (N1) the executable curve arithmetic: commitments are `[p(x)]g` (C20 `commit_eval`, level (A));
       the statement is about an arbitrary `F`-module `G` and ANY `g` (no non-degeneracy needed in
       this direction);
  (N2) Fiat–Shamir only fixes WHICH challenges are used: the theorems hold for all of them (except
       `γ ∈ denBadM β`), so nothing about the transcript is needed beyond C03
       `prover_verifier_transcripts_agree`;
  (N3) that the model's `prove` computes exactly these polynomials: wires / accumulator /
       openings are tied by C06 `proof_commitments_blinded`, `proof_openings_masked`, the quotient
       shares by `ProverMask.split_recombine` (hypothesis `hq` below) and C05
       `quotient_in_prove` (coset values of `Num/Z_H`) and `quotient_in_prove_complete` below
       (`tPoly` of `prove` IS the `T` of `numerator_divisible`); that `lagrangeAndPi` computes
       `L₁(z)`, `PI(z)` are the hypotheses `hl1`, `hpi` (as in C02; C03/C12 `lagrangeAndPi_some`).
       The walk through the `match` chain of `prove` that identifies its local arrays with the
       arguments of these theorems (they are syntactically the same expressions) is not done here;
  (N4) the opening witness of the model prover is the quotient of `r + Σ vʲ pⱼ` where `r` differs
       from the verifier's `D − u·Z` by a constant; dividing by `X − z` kills constants, so the
       witness polynomial is the `agg … /ₘ (X − C z)` used here.

  Findings:
   * The coarse bound of C02 `numerator_degree_bound` (`deg Num ≤ 5e + n`, one bound `e` for all
     polynomials) gives, for the honest `e = n + 2`, only `deg T ≤ 5n + 10`: NOT enough for
     `commitments_fit` (`t.length ≤ 4n + 7`).  The refined bound `quotient_degree_bound`
     (accumulator kept apart: `deg Num ≤ 4e + f`) gives exactly `deg T ≤ 4n + 6`, i.e. `4n + 7`
     coefficients: the capacity `n + 7` of the trimmed key is tight, with the permutation term
     `Z·∏(w + β·k·X + γ)` of degree `(n+2) + 4(n+1)` as the extremal one.
   * `4n + 7 ≤ 7n` only for `n ≥ 3`: for domains of size `n ≤ 2` the code's rule
     `tPoly.length > 7n ⇒ circuitUnsatisfied` can misfire on a SATISFIED circuit whenever the bound
     is attained (`deg T = 4n + 6`, length `4n + 7 > 7n`; that generic blinders attain it is NOT
     proved here — only the upper bound is).  `Composer::initialized` already has four
     gates (`n ≥ 4`), so this is not reachable through the public API of the crate; the model's
     `prove` accepts any composer, hence the hypothesis `3 ≤ n` in `quotient_in_prove_complete`.
   * No `SelReduced` hypothesis is needed in the completeness direction (`gate_identity_vanishes`
     holds for arbitrary, possibly non-canonical, selectors), unlike C05 `gate_sum_zero_iff`.
   * `completeness_witness` needs canonical witness values (`c.val x < R`): `rowHolds` is evaluated
     on the `Nat` representatives.  The composer reduces every appended witness, so this is a
     property of the model's representation, as `SelReduced` in C05.
-/
import Plonk.Proofs.CompletenessExamples

namespace Plonk.Props.C01Complete
open Plonk Polynomial Plonk.Quot Plonk.Perm Plonk.Sound Plonk.Complete
open Plonk.KzgMath (agg)

/-- **`accumulator_exists`.**  Layout `lay` on a domain `⟨ω⟩` of size `n ≥` number of gates; wire
    values (read off ARBITRARY wire polynomials `P.a … P.d`) constant on the wiring classes —
    equivalently `copyViolation = none`, see `completeness_witness`.  For every `β` the bad set
    `denBadM β` of `γ` (some factor `w + β·id(σ p) + γ` of a denominator vanishes) has at most `4n`
    elements, and it is contained in the soundness bad set `gammaBadM β`.  For `γ ∉ denBadM β` the
    running product `z_i = ∏_{j<i} num_j/den_j` (`accVal`) satisfies `z₀ = 1`,
    `z_{i+1}·den_i = z_i·num_i` and CLOSES: `z_n = 1 = z₀`; there is a polynomial `Z` of degree `< n`
    interpolating it, and for every blinding `Z + B·(Xⁿ − 1)` both permutation identities vanish on
    every row of the domain (`permAtRow`, `l1AtRow`: the summands of `Num`, as in C02). -/
theorem accumulator_exists {ω : F} {n : ℕ} (hn0 : 0 < n) (hω : IsPrimitiveRoot ω n) (lay : Composer)
    (hn : lay.gates.size ≤ n) (P : ProverPolys F)
    (hconst : ∀ p q, SameClass lay p q → wireVal ω P p = wireVal ω P q) (β : F) :
    (denBadM ω n lay P β).card ≤ 4 * n ∧ denBadM ω n lay P β ⊆ gammaBadM ω n lay P β ∧
    ∀ γ, γ ∉ denBadM ω n lay P β →
      (∀ i < n, denRow ω lay P β γ i ≠ 0) ∧
      accVal ω lay P β γ 0 = 1 ∧
      (∀ i < n, accVal ω lay P β γ (i + 1) * denRow ω lay P β γ i =
        accVal ω lay P β γ i * numRow ω P β γ i) ∧
      accVal ω lay P β γ n = 1 ∧
      ∃ Z : F[X], Z.degree < n ∧ ∀ B : F[X],
        AccInterp ω n lay (withZ P (Z + B * (X ^ n - 1))) β γ ∧
        (∀ i < n, permAtRow ω n lay (withZ P (Z + B * (X ^ n - 1))) β γ i = 0) ∧
        (∀ i < n, l1AtRow ω (withZ P (Z + B * (X ^ n - 1))) i = 0) := by
  have hres := (respects_iff_const lay (wireVal ω P)).mpr hconst
  refine ⟨denBadM_card_le ω n lay P β, denBad_subset_gammaBad _ _ _ _ _, fun γ hγ => ?_⟩
  have hden := (notMem_denBadM_iff ω n lay P β γ).mp hγ
  refine ⟨hden, accSeq_zero _ _, fun i hi => accSeq_step _ _ i (hden i hi),
    (accSeq_eq_one_iff n _ _ hden).mpr (prod_rows_eq ω n lay hn P hres β γ), ?_⟩
  obtain ⟨Z, hd, hZ⟩ := accumulator_exists_core hω lay P β γ
  refine ⟨Z, hd, fun B => ⟨hZ B, ?_⟩⟩
  exact perm_rows_vanish ω n hn0 lay hn _ (fun p => by simp only [wireVal_withZ]; exact hres p) β γ
    (by rw [denBadM_withZ]; exact hγ) (hZ B)

/-- non-vacuity: the instance `cLay / cP` (two rows on the SAME four witnesses, `σ` swaps the rows,
    domain `{1, −1}`): the structural hypotheses hold, the values are constant on the classes, `σ` is
    not the identity, and a good `γ` exists for every `β` -/
example : 0 < 2 ∧ IsPrimitiveRoot (-1 : F) 2 ∧ cLay.gates.size ≤ 2 ∧
    (∀ p q, SameClass cLay p q → wireVal (-1) cP p = wireVal (-1) cP q) ∧
    sigmaFn cLay (0, 0) = (0, 1) ∧ ∀ β : F, ∃ γ, γ ∉ denBadM (-1) 2 cLay cP β :=
  ⟨cStruct.1, cStruct.2.1, cStruct.2.2, cConst, cLay_sigma_nontrivial, c_good_gamma⟩

/-- **The permutation identities vanish** for ANY accumulator polynomial interpolating the running
    product (`AccInterp`) — row form (`permAtRow`, `l1AtRow`) and polynomial form
    (`Z(ωX)·Den − Z·Num`, `(Z − 1)·L₁` vanish on the domain; mirror of C02
    `accumulator_telescopes_poly`). -/
theorem perm_identities_vanish {ω : F} {n : ℕ} (hn0 : 0 < n) (hω : IsPrimitiveRoot ω n)
    (lay : Composer) (hn : lay.gates.size ≤ n) (P : ProverPolys F) (I : KeyInterp ω n lay P)
    (hconst : ∀ p q, SameClass lay p q → wireVal ω P p = wireVal ω P q) (β γ : F)
    (hγ : γ ∉ denBadM ω n lay P β) (hz : AccInterp ω n lay P β γ) :
    (∀ i < n, permAtRow ω n lay P β γ i = 0) ∧ (∀ i < n, l1AtRow ω P i = 0) ∧
    (∀ i < n, (shiftP ω P.z * permDenP P β γ - P.z * permNumP P β γ).eval (ω ^ i) = 0) ∧
    (∀ i < n, ((P.z - 1) * L1P n).eval (ω ^ i) = 0) := by
  have hres := (respects_iff_const lay (wireVal ω P)).mpr hconst
  obtain ⟨h1, h2⟩ := perm_rows_vanish ω n hn0 lay hn P hres β γ hγ hz
  refine ⟨h1, h2, fun i hi => ?_, fun i hi => ?_⟩
  · have := h1 i hi
    rw [permAtRow_eq] at this
    rw [eval_sub, eval_mul, eval_mul, eval_shiftP, omega_mul_pow hω.pow_eq_one, eval_permNumP,
      eval_permDenP I β γ hi]
    linear_combination -this
  · have := h2 i hi
    unfold l1AtRow at this
    rw [eval_mul, eval_L1P_root hω (FftMath.natCast_ne_zero_of_primitive hn0 hω) hi, eval_sub, eval_one]
    linear_combination this

/-- non-vacuity: for the instance, an accumulator satisfying `AccInterp` exists (with the key
    polynomials interpolating the layout) -/
example : KeyInterp (-1) 2 cLay cP ∧ ∀ β γ : F, ∃ Z : F[X],
    KeyInterp (-1) 2 cLay (withZ cP Z) ∧ AccInterp (-1) 2 cLay (withZ cP Z) β γ := by
  refine ⟨cKey, fun β γ => ?_⟩
  obtain ⟨Z, -, hZ⟩ := accumulator_exists_core cStruct.2.1 cLay cP β γ
  refine ⟨Z + 0 * (X ^ 2 - 1), keyInterp_withZ cKey _, hZ 0⟩

/-- **`perm_vec_is_accumulator`** (the model's `permVec`, `compute_permutation_vec`).  When
    `permVec` returns `some z`: `z` has `n` entries, no denominator vanishes, and `z` IS the running
    product of its row numerators / denominators.  For polynomials `P` interpolating the table and
    `z` (`Interpolates`: true of the `ifft` / `blindPoly` polynomials of the specification prover with
    ANY blinders, C05 `model_polys_interpolate`) whose key polynomials interpolate the layout:
    `AccInterp` holds, and `permVec` returns `some _` — i.e. does not hit the Rust
    `assert!(denominators != 0)` — EXACTLY when `γ ∉ denBadM β`. -/
theorem perm_vec_is_accumulator {ω : F} {n : ℕ} (lay : Composer) (P : ProverPolys F) (G : Nat → Gate)
    (roots aS bS cS dS piS : List Nat) (sigE : List (List Nat)) (beta gamma : Nat) :
    (∀ z, permVec n roots aS bS cS dS sigE beta gamma = some z →
      z.length = n ∧ (∀ i < n, denF aS bS cS dS sigE beta gamma i ≠ 0) ∧
      (∀ i < n, toF (z.getD i 0) =
        accSeq (numF roots aS bS cS dS beta gamma) (denF aS bS cS dS sigE beta gamma) i) ∧
      (Interpolates ω n P G roots aS bS cS dS piS sigE z → KeyInterp ω n lay P →
        AccInterp ω n lay P (toF beta) (toF gamma))) ∧
    (∀ z0, Interpolates ω n P G roots aS bS cS dS piS sigE z0 → KeyInterp ω n lay P →
      ((∃ z, permVec n roots aS bS cS dS sigE beta gamma = some z) ↔
        toF gamma ∉ denBadM ω n lay P (toF beta))) := by
  refine ⟨fun z hz => ?_, fun z0 hI I => permVec_some_iff hI I beta gamma⟩
  obtain ⟨h1, h2, h3⟩ := permVec_is_accSeq n roots aS bS cS dS sigE beta gamma z hz
  exact ⟨h1, h2, h3, fun hI I => accInterp_of_permVec hI I beta gamma hz⟩

/-- non-vacuity: the model's `permVec` does return a vector on a two-row table (C05 instance) -/
example : ∃ (n : Nat) (roots sig : _) (z : List Nat), 0 < n ∧
    permVec n roots [1, 2] [2, 3] [3, 5] [0, 0] sig 5 9 = some z := by
  obtain ⟨d, z, _, hs, hz⟩ := ex_permVec
  exact ⟨d.size, d.elements, exSig d, z, by omega, hz⟩

/-- **`gate_identity_vanishes`.**  If the model's row check `rowHolds` holds on a row (for its `Nat`
    arguments — no canonicity of the selectors is needed), the gate expression
    `arith + q_range·range(ρ) + q_logic·logic(λ) + q_fixed·fixed(φ) + q_var·var(ν) + PI` of that row
    vanishes for ALL separation challenges: completeness needs no bad set here.  In particular, if
    `rowOKP` (the row predicate of `soundness_algebraic`: values read off the wire polynomials, next
    row cyclic) holds on every row of the domain, the gate part of `Num` (`gateAtRow`) vanishes on
    the domain.  Blinding terms — multiples of `Xⁿ − 1` — do not change the values on the domain
    (C05 `blind_agrees_on_domain`), so this applies to the blinded wire polynomials. -/
theorem gate_identity_vanishes :
    (∀ (g : Gate) (a b c d an bn dn pi : Nat), rowHolds g a b c d an bn dn pi = true →
      ∀ s : Seps F, gateSumR (Quot.selF g) (wiresF a b c d an bn dn) (toF pi) s = 0) ∧
    (∀ (ω : F) (n : ℕ) (lay : Composer) (P : ProverPolys F),
      (∀ i < n, rowOKP ω n lay P i) → ∀ s : Seps F, ∀ i < n, gateAtRow ω n lay P i s = 0) :=
  ⟨fun g a b c d an bn dn pi h s => gate_sum_zero_of_rowHolds g a b c d an bn dn pi h s,
    fun ω n lay P h s i hi => gate_row_vanishes ω n lay P i (h i hi) s⟩

/-- non-vacuity: a row with a NON-canonical selector (`q_range = R ≡ 0`) that holds, and the rows of
    the instance -/
example : rowHolds { qrange := R } 0 0 0 0 0 0 0 0 = true ∧
    ∀ i < 2, rowOKP (-1) 2 cLay cP i := by
  refine ⟨by decide +kernel, cRows⟩

/-- **`numerator_divisible`.**  Key polynomials interpolating the layout (`KeyInterp`), every row of
    the padded table holding (`rowOKP`), wire values constant on the wiring classes, `γ ∉ denBadM β`
    and an accumulator interpolating the running product: for EVERY `α` and EVERY separation
    challenge, `Num` vanishes on the whole domain, `(Xⁿ − 1) ∣ Num`, and there is `T` with
    `Num = T·(Xⁿ − 1)`. -/
theorem numerator_divisible {ω : F} {n : ℕ} (hn0 : 0 < n) (hω : IsPrimitiveRoot ω n)
    (lay : Composer) (hn : lay.gates.size ≤ n) (P : ProverPolys F) (I : KeyInterp ω n lay P)
    (hrows : ∀ i < n, rowOKP ω n lay P i)
    (hconst : ∀ p q, SameClass lay p q → wireVal ω P p = wireVal ω P q) (β γ : F)
    (hγ : γ ∉ denBadM ω n lay P β) (hz : AccInterp ω n lay P β γ) (α : F) (s : Seps F) :
    (∀ i : ℕ, (NumP ω n P ⟨β, γ, α⟩ s).eval (ω ^ i) = 0) ∧
    (X ^ n - 1 : F[X]) ∣ NumP ω n P ⟨β, γ, α⟩ s ∧
    ∃ T : F[X], NumP ω n P ⟨β, γ, α⟩ s = T * (X ^ n - 1) := by
  have hres := (respects_iff_const lay (wireVal ω P)).mpr hconst
  have hv := numerator_vanishes hn0 hω lay hn P I hrows hres β γ hγ hz α s
  obtain ⟨T, hT⟩ := exists_quotient_of_vanishes hn0 hω _ hv
  refine ⟨fun i => ?_, (divisible_iff_vanishes hn0 hω _).mpr hv, T, hT⟩
  rw [hT, ← zero_add (T * _), eval_add_mul_vanishing hω.pow_eq_one, eval_zero]

/-- non-vacuity: every hypothesis is satisfiable on the instance (`σ ≠ id`), for every `β`, a good
    `γ` and a suitable accumulator -/
example : 0 < 2 ∧ IsPrimitiveRoot (-1 : F) 2 ∧ cLay.gates.size ≤ 2 ∧ ∀ β : F, ∃ γ Z,
    KeyInterp (-1) 2 cLay (withZ cP Z) ∧ (∀ i < 2, rowOKP (-1) 2 cLay (withZ cP Z) i) ∧
    (∀ p q, SameClass cLay p q → wireVal (-1) (withZ cP Z) p = wireVal (-1) (withZ cP Z) q) ∧
    γ ∉ denBadM (-1) 2 cLay (withZ cP Z) β ∧ AccInterp (-1) 2 cLay (withZ cP Z) β γ := by
  refine ⟨cStruct.1, cStruct.2.1, cStruct.2.2, fun β => ?_⟩
  obtain ⟨γ, hγ⟩ := c_good_gamma β
  obtain ⟨Z, -, hZ⟩ := accumulator_exists_core cStruct.2.1 cLay cP β γ
  refine ⟨γ, Z + 0 * (X ^ 2 - 1), keyInterp_withZ cKey _,
    fun i hi => (rowOKP_withZ _ _ _ _ _ _).mpr (cRows i hi),
    fun p q h => by simp only [wireVal_withZ]; exact cConst p q h,
    by rw [denBadM_withZ]; exact hγ, hZ 0⟩

/-- **Degree of the quotient.**  If the selector, public-input, sigma and wire polynomials have
    degree `≤ e` and the accumulator degree `≤ f` (`1 ≤ e ≤ f`, `n ≤ 4e + 1`), then
    `deg Num ≤ 4e + f`, and every `T` with `Num = T·(Xⁿ − 1)` has `deg T ≤ 4e + f − n`.  For the
    honest profile — wires blinded with two scalars (`e = n + 1`), accumulator with three
    (`f = n + 2`) — `deg Num ≤ 5n + 6` and `deg T ≤ 4n + 6`.  (The one-parameter bound of C02
    `numerator_degree_bound`, `5e + n` with `e = n + 2`, gives only `deg T ≤ 5n + 10`.) -/
theorem quotient_degree_bound (ω : F) (n : ℕ) (hn0 : 0 < n) (P : ProverPolys F) (ch : Chal F)
    (s : Seps F) (T : F[X]) (hT : NumP ω n P ch s = T * (X ^ n - 1)) :
    (∀ e f : ℕ, 1 ≤ e → e ≤ f → n ≤ 4 * e + 1 → PolysDeg2 P e f →
      (NumP ω n P ch s).natDegree ≤ 4 * e + f ∧ T.natDegree ≤ 4 * e + f - n) ∧
    (PolysDeg2 P (n + 1) (n + 2) →
      (NumP ω n P ch s).natDegree ≤ 5 * n + 6 ∧ T.natDegree ≤ 4 * n + 6) :=
  ⟨fun e f he hef hn hP => ⟨natDegree_NumP_le2 ω n P ch s e f he hef hn hP,
      natDegree_quotient_le2 ω n hn0 P ch s e f he hef hn hP T hT⟩,
    fun hP => natDegree_quotient_honest ω n hn0 P ch s hP T hT⟩

/-- non-vacuity: the instance with an accumulator of degree `< 2` has the honest degree profile
    (`n = 2`) -/
example (Z : F[X]) (hZ : Z.degree < (2 : ℕ)) : PolysDeg2 (withZ cP Z) (2 + 1) (2 + 2) := cDeg Z hZ

/-- **The quotient fits the commit key.**  A reduced, trimmed coefficient list `t` (what
    `Poly.ofCoeffs` returns: the model's `tPoly`) representing a polynomial `T` of degree `≤ 4n + 6`
    has at most `4n + 7` entries — the hypothesis of C01 `commitments_fit` under which the four
    re-randomised shares of `splitQuotient` are accepted by the degree guard of `commit`. -/
theorem quotient_fits (n : ℕ) (t : List Nat) (hr : Reduced t) (ht : Trimmed t) (T : F[X])
    (hT : toPoly t = T) (hdeg : T.natDegree ≤ 4 * n + 6) : t.length ≤ 4 * n + 7 :=
  quotient_list_fits t hr ht (4 * n + 6) (hT ▸ hdeg)

example : Reduced (Poly.ofCoeffs [1, 2, 3]) ∧ Trimmed (Poly.ofCoeffs [1, 2, 3]) :=
  ⟨reduced_ofCoeffs _, trimmed_ofCoeffs _⟩

/-- **`verifier_equation_holds`.**  `ι` interprets the commitments of the verifier key and of the
    proof as the polynomials they commit to (`AgmRep`; for the honest prover these ARE the committed
    polynomials, (N1)), the fifteen evaluations of the proof are the true evaluations (`TrueEvals`:
    the honest prover computes them with `Poly.evaluate`), `zh = zⁿ − 1`, `l1 = L₁(z)`,
    `piEval = PI(z)`; the numerator is `T·(Xⁿ − 1)` and the four quotient shares recombine to `T`
    (`quotientOf ι p n = T`; C01 `quotient_shares_eval` / `ProverMask.split_recombine` for the model's
    `splitQuotient`).  Then
      (a) the model verifier's opening claim holds: `(D − u·Z)(z) = −r₀` for the model's own
          `linearizationTerms` and `r0Eval`, at EVERY `z`;
      (b) the batched opening check in the trapdoor view — the equation of
          `Props/C02.forged_evaluation_rejected` with the two points `z`, `ωz`, the polynomials
          `D − u·Z, a, b, c, d, σ₁, σ₂, σ₃, q_arith, q_c, q_l, q_r` (the last four only for
          `legacy = false`) resp. `Z, a, b, d`, claimed values `−r₀` and the evaluations of the proof,
          aggregation challenges `v`, `v_w`, batching challenge `u`, honest witnesses — HOLDS, for
          every trapdoor `x`, every `g` and all challenges. -/
theorem verifier_equation_holds {G : Type*} [AddCommGroup G] [Module F G] (g : G) (x : F)
    (ι : G1 → F[X]) (k : VKey) (p : ProofM) (ch : Challenges) (zh l1 piEval : Nat)
    (ω : F) (n : ℕ) (P : ProverPolys F) (A : AgmRep ι k p P) (E : TrueEvals ω (toF ch.z) p.ev P)
    (hzh : toF zh = toF ch.z ^ n - 1) (hl1 : toF l1 = (L1P n).eval (toF ch.z))
    (hpi : toF piEval = P.pi.eval (toF ch.z)) (T : F[X]) (hq : quotientOf ι p n = T)
    (hT : NumP ω n P ⟨toF ch.beta, toF ch.gamma, toF ch.alpha⟩
      ⟨toF ch.rangeSep, toF ch.logicSep, toF ch.fixedSep, toF ch.varSep⟩ = T * (X ^ n - 1))
    (legacy : Bool) :
    (evalTerms ι (linearizationTerms k p ch zh l1) - toF ch.u • ι p.zC).eval (toF ch.z) =
      - toF (r0Eval p.ev ch l1 piEval) ∧
    (let D := linPoly ι k p ch zh l1
     let r0 := toF (r0Eval p.ev ch l1 piEval)
     let v := openChal (toF ch.v) (toF ch.vw)
     let pt := openPoint ω (toF ch.z)
     let cnt := openCount legacy
     x • agg (toF ch.u) 2 (fun i =>
          KzgMath.commit x g (agg (v i) (cnt i) (openPolys D P i) /ₘ (X - C (pt i))))
      = agg (toF ch.u) 2 (fun i =>
            agg (v i) (cnt i) (fun j => KzgMath.commit x g (openPolys D P i j))
            + pt i • KzgMath.commit x g (agg (v i) (cnt i) (openPolys D P i) /ₘ (X - C (pt i))))
          - agg (toF ch.u) 2 (fun i => agg (v i) (cnt i) (openEvals r0 p.ev i)) • g) :=
  have hD := linPoly_eval ι k p ch zh l1 piEval ω n P A E hzh hl1 hpi T hq hT
  ⟨hD, batch_check_of_true_evals g x (toF ch.u) 2 _ _ _ _ _ (open_evals_true E _ _ hD legacy)⟩

/-- non-vacuity: the polynomials `exP2` of the soundness instance (numerator identically zero,
    `T = 0`), a verifier key and a proof whose commitments are interpreted by `vIota`, `z = 5`,
    `n = 2`, `ω = −1` (`zh = 24`, `L₁(5) = 3`): every hypothesis holds -/
example : AgmRep vIota vKey vProof exP2 ∧
    TrueEvals (-1) (toF ({ (default : Challenges) with z := 5 } : Challenges).z) vProof.ev exP2 ∧
    toF 24 = toF 5 ^ 2 - 1 ∧ toF 3 = (L1P 2).eval (toF 5) ∧ toF 0 = exP2.pi.eval (toF 5) ∧
    quotientOf vIota vProof 2 = 0 ∧
    ∀ (β γ α : F) (s : Seps F), NumP (-1) 2 exP2 ⟨β, γ, α⟩ s = 0 * (X ^ 2 - 1) :=
  ⟨v_agmRep, v_trueEvals, v_side.1, v_side.2.1, v_side.2.2, v_quotient, v_numerator⟩

/-- **`completeness_algebraic`.**  Compiled layout `lay` (selector rows `lay.gateAt`, public inputs
    `lay.piAt`, permutation `σ = sigmaFn lay`) on the domain `⟨ω⟩` of size `n ≥` number of gates;
    preprocessed polynomials interpolating the layout (`KeyInterp`); wire polynomials `P.a … P.d`
    with ARBITRARY blinding whose values on the domain satisfy the model's row check on EVERY row of
    the padded table (`rowOKP`, next row cyclic) and are constant on the wiring classes (no copy
    violation); `β` arbitrary, `γ ∉ denBadM β` (at most `4n` values); accumulator `P.z` — any
    polynomial interpolating the running product (`AccInterp`; it exists, `accumulator_exists`, and
    the model's `permVec` computes it, `perm_vec_is_accumulator`).  Then for EVERY `α` and EVERY
    separation challenges `(ρ,λ,φ,ν)` there is a quotient `T` with
      * `Num = T·(Xⁿ − 1)`, hence the quotient identity `Num(z) = T(z)·(zⁿ − 1)` — the hypothesis
        `hid` of `soundness_algebraic` — at EVERY `z`;
      * `deg T ≤ 4n + 6` for the honest degree profile;
      * for every verifier key / proof / challenges whose commitments are interpreted by these
        polynomials (`AgmRep`), with true evaluations, the shares recombining to `T`, and the
        challenges `β γ α ρ λ φ ν` of `ch` being the ones above: the verifier's opening claim
        `(D − u·Z)(z) = −r₀` holds and the batched opening check in the trapdoor view holds, for
        every `z, v, v_w, u`, every trapdoor `x` and every `g`. -/
theorem completeness_algebraic {G : Type*} [AddCommGroup G] [Module F G] (g : G) (x : F)
    {ω : F} {n : ℕ} (hn0 : 0 < n) (hω : IsPrimitiveRoot ω n) (lay : Composer)
    (hn : lay.gates.size ≤ n) (P : ProverPolys F) (I : KeyInterp ω n lay P)
    (hrows : ∀ i < n, rowOKP ω n lay P i)
    (hconst : ∀ p q, SameClass lay p q → wireVal ω P p = wireVal ω P q) (β γ : F)
    (hγ : γ ∉ denBadM ω n lay P β) (hz : AccInterp ω n lay P β γ) (α : F) (t : F × F × F × F) :
    ∃ T : F[X],
      NumP ω n P ⟨β, γ, α⟩ (sepsOf t) = T * (X ^ n - 1) ∧
      (∀ z : F, (NumP ω n P ⟨β, γ, α⟩ (sepsOf t)).eval z = T.eval z * (z ^ n - 1)) ∧
      (PolysDeg2 P (n + 1) (n + 2) → T.natDegree ≤ 4 * n + 6) ∧
      ∀ (ι : G1 → F[X]) (k : VKey) (p : ProofM) (ch : Challenges) (zh l1 piEval : Nat)
        (legacy : Bool),
        AgmRep ι k p P → TrueEvals ω (toF ch.z) p.ev P → toF zh = toF ch.z ^ n - 1 →
        toF l1 = (L1P n).eval (toF ch.z) → toF piEval = P.pi.eval (toF ch.z) →
        toF ch.beta = β → toF ch.gamma = γ → toF ch.alpha = α →
        (⟨toF ch.rangeSep, toF ch.logicSep, toF ch.fixedSep, toF ch.varSep⟩ : Seps F) = sepsOf t →
        quotientOf ι p n = T →
        (evalTerms ι (linearizationTerms k p ch zh l1) - toF ch.u • ι p.zC).eval (toF ch.z) =
          - toF (r0Eval p.ev ch l1 piEval) ∧
        (let D := linPoly ι k p ch zh l1
         let r0 := toF (r0Eval p.ev ch l1 piEval)
         let v := openChal (toF ch.v) (toF ch.vw)
         let pt := openPoint ω (toF ch.z)
         let cnt := openCount legacy
         x • agg (toF ch.u) 2 (fun i =>
              KzgMath.commit x g (agg (v i) (cnt i) (openPolys D P i) /ₘ (X - C (pt i))))
          = agg (toF ch.u) 2 (fun i =>
                agg (v i) (cnt i) (fun j => KzgMath.commit x g (openPolys D P i j))
                + pt i • KzgMath.commit x g (agg (v i) (cnt i) (openPolys D P i) /ₘ (X - C (pt i))))
              - agg (toF ch.u) 2 (fun i => agg (v i) (cnt i) (openEvals r0 p.ev i)) • g) := by
  obtain ⟨-, -, T, hT⟩ := numerator_divisible hn0 hω lay hn P I hrows hconst β γ hγ hz α (sepsOf t)
  refine ⟨T, hT, fun z => eval_of_quotient _ T hT z,
    fun hP => (natDegree_quotient_honest ω n hn0 P _ _ hP T hT).2, ?_⟩
  intro ι k p ch zh l1 piEval legacy A E hzh hl1 hpi hb hg ha hs hq
  subst hb hg ha
  rw [← hs] at hT
  exact verifier_equation_holds g x ι k p ch zh l1 piEval ω n P A E hzh hl1 hpi T hq hT legacy

/-- non-vacuity: on the instance `cLay / cP` (`σ ≠ id`) all hypotheses are satisfiable — for every
    `β` there are `γ` and an accumulator `Z` with the key polynomials interpolating the layout, all
    rows holding, values constant on the classes, `γ` good, `Z` interpolating the running product and
    the honest degree profile -/
example : 0 < 2 ∧ IsPrimitiveRoot (-1 : F) 2 ∧ cLay.gates.size ≤ 2 ∧ sigmaFn cLay (0, 0) = (0, 1) ∧
    ∀ β : F, ∃ γ Z,
      KeyInterp (-1) 2 cLay (withZ cP Z) ∧ (∀ i < 2, rowOKP (-1) 2 cLay (withZ cP Z) i) ∧
      (∀ p q, SameClass cLay p q → wireVal (-1) (withZ cP Z) p = wireVal (-1) (withZ cP Z) q) ∧
      γ ∉ denBadM (-1) 2 cLay (withZ cP Z) β ∧ AccInterp (-1) 2 cLay (withZ cP Z) β γ ∧
      PolysDeg2 (withZ cP Z) (2 + 1) (2 + 2) := by
  refine ⟨cStruct.1, cStruct.2.1, cStruct.2.2, cLay_sigma_nontrivial, fun β => ?_⟩
  obtain ⟨γ, hγ⟩ := c_good_gamma β
  obtain ⟨Z, hd, hZ⟩ := accumulator_exists_core cStruct.2.1 cLay cP β γ
  have e : Z + 0 * (X ^ 2 - 1) = Z := by ring
  have hZ0 := hZ 0
  rw [e] at hZ0
  exact ⟨γ, Z, keyInterp_withZ cKey _, fun i hi => (rowOKP_withZ _ _ _ _ _ _).mpr (cRows i hi),
    fun p q h => by simp only [wireVal_withZ]; exact cConst p q h,
    by rw [denBadM_withZ]; exact hγ, hZ0, cDeg Z hd⟩

/-- **Bridge from the model's notions of a satisfying witness** (mirror of C02
    `soundness_witness`).  Compiled layout `lay`, proving-time composer `c` with canonical witness
    values; wire polynomials interpolating the padded wire table `c.rowVals` on the domain
    (`WireInterp`; true of `blindPoly` with any blinders).  If the model's row check of the compiled
    gates holds on every row of the padded table of `c` (next row cyclic; for `c = lay` and
    `n = lay.paddedSize` this is `lay.sysSat = true`) and `c` has no copy violation against the
    layout (`copyViolation lay c = none`; automatic for `c = lay`), then the hypotheses `rowOKP` and
    "constant on the wiring classes" of `completeness_algebraic` hold. -/
theorem completeness_witness {ω : F} {n : ℕ} (hn0 : 0 < n) (lay c : Composer)
    (hn : lay.gates.size ≤ n) (P : ProverPolys F) (W : WireInterp ω n c P) (hc : ∀ x, c.val x < R)
    (hrows : ∀ i < n, rowHolds (lay.gateAt i) (c.rowVals i).a (c.rowVals i).b (c.rowVals i).c
      (c.rowVals i).d (c.rowVals ((i + 1) % n)).a (c.rowVals ((i + 1) % n)).b
      (c.rowVals ((i + 1) % n)).d (lay.piAt i) = true)
    (hcopy : Composer.copyViolation lay c = none) :
    (∀ i < n, rowOKP ω n lay P i) ∧
    (∀ p q, SameClass lay p q → wireVal ω P p = wireVal ω P q) ∧
    (∀ p, wireVal ω P (sigmaFn lay p) = wireVal ω P p) := by
  have h2 := const_of_copyViolation lay c hn W hcopy
  exact ⟨rows_of_model hn0 lay c W hc hrows, h2, (respects_iff_const lay (wireVal ω P)).mpr h2⟩

/-- the case `c = lay`: a satisfied system (`sysSat`) has the row hypothesis on its padded domain,
    and no copy violation against itself -/
theorem completeness_witness_self (c : Composer) (h : c.sysSat = true) :
    (∀ i < c.paddedSize, rowHolds (c.gateAt i) (c.rowVals i).a (c.rowVals i).b (c.rowVals i).c
      (c.rowVals i).d (c.rowVals ((i + 1) % c.paddedSize)).a
      (c.rowVals ((i + 1) % c.paddedSize)).b (c.rowVals ((i + 1) % c.paddedSize)).d (c.piAt i)
        = true) ∧
    Composer.copyViolation c c = none :=
  ⟨sysSat_rows c h, copyViolation_self c⟩

/-- non-vacuity: the layout `cLay` (with its own witness values `1, 2, −3, 0`) is a satisfied
    system padded to `2`, with canonical values; the constant wire polynomials interpolate it -/
example : cLay.sysSat = true ∧ cLay.paddedSize = 2 ∧ (∀ x, cLay.val x < R) ∧
    WireInterp (-1) 2 cLay cP := by
  refine ⟨by decide +kernel, by decide +kernel, c_val_lt, cWire⟩

/-- **`verifier_accepts`** (current equation, V2/V3).  `right`, `left` are the term lists of the
    model's OWN `verifyTerms` — `VerifierM.verify` returns `.ok` iff
    `[x]·(Σ left) + Σ right = O` (C03 `accept_iff_equation`).  Every point is interpreted by the
    commitment `ι' c = [ι c (x)]g` of the polynomial it commits to: verifier key and accumulator
    (`AgmRep`), wires, opened key polynomials, the generator `↦ 1` and the two opening witnesses `↦`
    the quotients of the aggregated polynomials by `X − z`, `X − ωz` (`OpenRep`; (N4)).  With true
    evaluations, `Num = T·(Xⁿ − 1)` and the shares recombining to `T`, the combination vanishes:
    the honest proof satisfies the verifier's equation, for every trapdoor `x`, every `g`, all
    challenges.  Missing link to `verify = .ok`: (N1) only. -/
theorem verifier_accepts {G : Type*} [AddCommGroup G] [Module F G] (g : G) (x : F) (ι : G1 → F[X])
    (vk : VKey) (g1 : G1) (d : Domain) (roots pis : List Nat) (p : ProofM) (ch : Challenges)
    (l1 piEval : Nat) (right left : List (Nat × G1))
    (hlp : d.lagrangeAndPi roots pis ch.z = some (l1, piEval))
    (hc : verifyTerms vk g1 d roots pis p ch false = some (right, left))
    (n : ℕ) (P : ProverPolys F) (A : AgmRep ι vk p P)
    (E : TrueEvals (toF d.groupGen) (toF ch.z) p.ev P)
    (hzh : toF (d.evaluateVanishing ch.z) = toF ch.z ^ n - 1)
    (hl1 : toF l1 = (L1P n).eval (toF ch.z)) (hpi : toF piEval = P.pi.eval (toF ch.z))
    (T : F[X]) (hq : quotientOf ι p n = T)
    (hT : NumP (toF d.groupGen) n P ⟨toF ch.beta, toF ch.gamma, toF ch.alpha⟩
      ⟨toF ch.rangeSep, toF ch.logicSep, toF ch.fixedSep, toF ch.varSep⟩ = T * (X ^ n - 1))
    (O : OpenRep ι vk g1 p P
      (agg (toF ch.v) 12 (openPolys (linPoly ι vk p ch (d.evaluateVanishing ch.z) l1) P 0) /ₘ
        (X - C (toF ch.z)))
      (agg (toF ch.vw) 4 (openPolys (linPoly ι vk p ch (d.evaluateVanishing ch.z) l1) P 1) /ₘ
        (X - C (toF d.groupGen * toF ch.z)))) :
    x • evalTerms (fun c => KzgMath.commit x g (ι c)) left +
      evalTerms (fun c => KzgMath.commit x g (ι c)) right = 0 :=
  verify_msm_zero false g x ι vk g1 d roots pis p ch l1 piEval right left hlp hc n P A E hzh hl1 hpi
    T hq hT O

/-- non-vacuity: a domain of `Domain.new? 2`, `z = 5`, the polynomials `exP2` (two addition rows,
    `T = 0`), a key and a proof with nine distinct points interpreted by `aIota`: every hypothesis
    of `verifier_accepts` holds -/
example : ∃ (d : Domain) (l1 piEval : Nat) (right left : List (Nat × G1)) (W W' : F[X]),
    let ch : Challenges := { (default : Challenges) with z := 5 }
    d.lagrangeAndPi [] [] ch.z = some (l1, piEval) ∧
    verifyTerms aKey (.aff 1 0) d [] [] aProof ch false = some (right, left) ∧
    AgmRep (aIota W W') aKey aProof exP2 ∧
    TrueEvals (toF d.groupGen) (toF ch.z) aProof.ev exP2 ∧
    toF (d.evaluateVanishing ch.z) = toF ch.z ^ 2 - 1 ∧
    toF l1 = (L1P 2).eval (toF ch.z) ∧ toF piEval = exP2.pi.eval (toF ch.z) ∧
    quotientOf (aIota W W') aProof 2 = 0 ∧
    NumP (toF d.groupGen) 2 exP2 ⟨toF ch.beta, toF ch.gamma, toF ch.alpha⟩
      ⟨toF ch.rangeSep, toF ch.logicSep, toF ch.fixedSep, toF ch.varSep⟩ = 0 * (X ^ 2 - 1) ∧
    OpenRep (aIota W W') aKey (.aff 1 0) aProof exP2
      (agg (toF ch.v) 12 (openPolys (linPoly (aIota W W') aKey aProof ch
        (d.evaluateVanishing ch.z) l1) exP2 0) /ₘ (X - C (toF ch.z)))
      (agg (toF ch.vw) 4 (openPolys (linPoly (aIota W W') aKey aProof ch
        (d.evaluateVanishing ch.z) l1) exP2 1) /ₘ (X - C (toF d.groupGen * toF ch.z))) :=
  a_hyps_gen false 12

/-- **the same for the legacy V1 equation** (`verify_legacy`: only `a, b, c, d, σ₁, σ₂, σ₃` are opened
    at `z` besides `D − u·Z`) -/
theorem verifier_accepts_legacy {G : Type*} [AddCommGroup G] [Module F G] (g : G) (x : F)
    (ι : G1 → F[X]) (vk : VKey) (g1 : G1) (d : Domain) (roots pis : List Nat) (p : ProofM)
    (ch : Challenges) (l1 piEval : Nat) (right left : List (Nat × G1))
    (hlp : d.lagrangeAndPi roots pis ch.z = some (l1, piEval))
    (hc : verifyTerms vk g1 d roots pis p ch true = some (right, left))
    (n : ℕ) (P : ProverPolys F) (A : AgmRep ι vk p P)
    (E : TrueEvals (toF d.groupGen) (toF ch.z) p.ev P)
    (hzh : toF (d.evaluateVanishing ch.z) = toF ch.z ^ n - 1)
    (hl1 : toF l1 = (L1P n).eval (toF ch.z)) (hpi : toF piEval = P.pi.eval (toF ch.z))
    (T : F[X]) (hq : quotientOf ι p n = T)
    (hT : NumP (toF d.groupGen) n P ⟨toF ch.beta, toF ch.gamma, toF ch.alpha⟩
      ⟨toF ch.rangeSep, toF ch.logicSep, toF ch.fixedSep, toF ch.varSep⟩ = T * (X ^ n - 1))
    (O : OpenRep ι vk g1 p P
      (agg (toF ch.v) 8 (openPolys (linPoly ι vk p ch (d.evaluateVanishing ch.z) l1) P 0) /ₘ
        (X - C (toF ch.z)))
      (agg (toF ch.vw) 4 (openPolys (linPoly ι vk p ch (d.evaluateVanishing ch.z) l1) P 1) /ₘ
        (X - C (toF d.groupGen * toF ch.z)))) :
    x • evalTerms (fun c => KzgMath.commit x g (ι c)) left +
      evalTerms (fun c => KzgMath.commit x g (ι c)) right = 0 :=
  verify_msm_zero true g x ι vk g1 d roots pis p ch l1 piEval right left hlp hc n P A E hzh hl1 hpi
    T hq hT O

/-- non-vacuity: the same instance, with the witness at `z` built from eight polynomials -/
example : ∃ (d : Domain) (l1 piEval : Nat) (right left : List (Nat × G1)) (W W' : F[X]),
    let ch : Challenges := { (default : Challenges) with z := 5 }
    d.lagrangeAndPi [] [] ch.z = some (l1, piEval) ∧
    verifyTerms aKey (.aff 1 0) d [] [] aProof ch true = some (right, left) ∧
    AgmRep (aIota W W') aKey aProof exP2 ∧
    TrueEvals (toF d.groupGen) (toF ch.z) aProof.ev exP2 ∧
    toF (d.evaluateVanishing ch.z) = toF ch.z ^ 2 - 1 ∧
    toF l1 = (L1P 2).eval (toF ch.z) ∧ toF piEval = exP2.pi.eval (toF ch.z) ∧
    quotientOf (aIota W W') aProof 2 = 0 ∧
    NumP (toF d.groupGen) 2 exP2 ⟨toF ch.beta, toF ch.gamma, toF ch.alpha⟩
      ⟨toF ch.rangeSep, toF ch.logicSep, toF ch.fixedSep, toF ch.varSep⟩ = 0 * (X ^ 2 - 1) ∧
    OpenRep (aIota W W') aKey (.aff 1 0) aProof exP2
      (agg (toF ch.v) 8 (openPolys (linPoly (aIota W W') aKey aProof ch
        (d.evaluateVanishing ch.z) l1) exP2 0) /ₘ (X - C (toF ch.z)))
      (agg (toF ch.vw) 4 (openPolys (linPoly (aIota W W') aKey aProof ch
        (d.evaluateVanishing ch.z) l1) exP2 1) /ₘ (X - C (toF d.groupGen * toF ch.z))) :=
  a_hyps_gen true 8

/-- **`quotient_in_prove_complete`.**  The two domains of `prove` (`d` of size `n ≥ 2`, `d8` of size
    `8n`), arbitrary coefficient lists for the key / wire / accumulator / public-input polynomials
    (`polysOf`), whose polynomials satisfy the hypotheses of `completeness_algebraic` for the layout
    `lay` and have the honest lengths (`≤ n + 2` coefficients, accumulator `≤ n + 3`: C06
    `blindPoly_length_le`).  Then for all `α` and separation challenges the list
    `tPoly = ofCoeffs (d8.cosetIfft (quotientEvals …))` that `prove` computes — on exactly the arrays
    `compile` / `prove` build, as in C05 `quotient_in_prove` — represents the quotient `T` of
    `numerator_divisible`; it has at most `4n + 7` entries; for `n ≥ 3` it passes the test
    `tPoly.length > 7n ⇒ circuitUnsatisfied`; and whenever `splitQuotient` succeeds (it fails, with
    the Rust slice panic, only if `tPoly.length ≤ 3n`: degenerate blinders, C01
    `splitQuotient_none_iff`) the four shares are accepted by `commit` for a key of `n + 7`
    points. -/
theorem quotient_in_prove_complete (m : Nat) (d d8 : Domain) (hd : Domain.new? m = some d)
    (hd8 : Domain.new? (8 * d.size) = some d8) (hn2 : 2 ≤ d.size)
    (sel sigma : Array Poly) (aP bP cP dP zP piP : Poly)
    (vh linE : Array Nat) (hvh : vh = (d8.vanishingOverCoset d.size).toArray)
    (hlin : linE = (d8.cosetFft [0, 1]).toArray)
    (hsel : ∀ j, (sel.getD j []).length ≤ d.size + 2)
    (hsig : ∀ j, (sigma.getD j []).length ≤ d.size + 2)
    (ha : aP.length ≤ d.size + 2) (hb : bP.length ≤ d.size + 2) (hc : cP.length ≤ d.size + 2)
    (hdd : dP.length ≤ d.size + 2) (hpi : piP.length ≤ d.size + 2) (hzl : zP.length ≤ d.size + 3)
    (lay : Composer) (hn : lay.gates.size ≤ d.size)
    (I : KeyInterp (toF d.groupGen) d.size lay (polysOf sel sigma aP bP cP dP zP piP))
    (hrows : ∀ i < d.size, rowOKP (toF d.groupGen) d.size lay (polysOf sel sigma aP bP cP dP zP piP) i)
    (hconst : ∀ p q, SameClass lay p q →
      wireVal (toF d.groupGen) (polysOf sel sigma aP bP cP dP zP piP) p =
        wireVal (toF d.groupGen) (polysOf sel sigma aP bP cP dP zP piP) q)
    (beta gamma : Nat)
    (hγ : toF gamma ∉ denBadM (toF d.groupGen) d.size lay (polysOf sel sigma aP bP cP dP zP piP)
      (toF beta))
    (hz : AccInterp (toF d.groupGen) d.size lay (polysOf sel sigma aP bP cP dP zP piP) (toF beta)
      (toF gamma))
    (alpha rSep lSep fSep vSep : Nat) :
    let tPoly := Poly.ofCoeffs (d8.cosetIfft
      (quotientEvals d8.size (sel.map fun p => (d8.cosetFft p).toArray)
        (sigma.map fun p => (d8.cosetFft p).toArray) linE (cosetEvals d8 aP) (cosetEvals d8 bP)
        (cosetEvals d8 cP) (cosetEvals d8 dP) (cosetEvals d8 zP) (d8.cosetFft piP).toArray vh
        (batchInversion ((vh.toList).take 8)).toArray
        (batchInversion (linE.toList.map fun e => fsub e 1)).toArray (fmul d8.sizeInv 8)
        beta gamma alpha rSep lSep fSep vSep))
    ∃ T : F[X],
      NumP (toF d.groupGen) d.size (polysOf sel sigma aP bP cP dP zP piP)
        ⟨toF beta, toF gamma, toF alpha⟩ ⟨toF rSep, toF lSep, toF fSep, toF vSep⟩ =
          T * (X ^ d.size - 1) ∧
      toPoly tPoly = T ∧ tPoly.length ≤ 4 * d.size + 7 ∧
      (3 ≤ d.size → ¬ tPoly.length > 7 * d.size) ∧
      ∀ (k : PKey), d.size + 7 ≤ k.ckLen → ∀ (b12 b13 b14 : Nat) (tl tm th tf : Poly),
        splitQuotient d.size tPoly b12 b13 b14 = some (tl, tm, th, tf) →
        ∃ r, commit4 k tl tm th tf = .ok r := by
  intro tPoly
  have hw := Domain.new?_WF m d hd
  obtain ⟨-, -, T, hT⟩ := numerator_divisible hw.size_pos hw.prim lay hn _ I hrows hconst (toF beta)
    (toF gamma) hγ hz (toF alpha) ⟨toF rSep, toF lSep, toF fSep, toF vSep⟩
  have hP := polysDeg2_of_lengths sel sigma aP bP cP dP zP piP (d.size + 1) (d.size + 2) hsel hsig ha
    hb hc hdd hpi hzl
  have hdeg := (natDegree_quotient_honest _ d.size hw.size_pos _ _ _ hP T hT).2
  have hs8 : d8.size = 8 * d.size := (gen8_pow_eight m d d8 hd hd8).1
  have h1 := tPoly_eq_quotient m d d8 hd hd8 sel sigma aP bP cP dP zP piP vh linE hvh hlin beta gamma
    alpha rSep lSep fSep vSep T hT
    ((degree_le_of_natDegree_le hdeg).trans_lt
      (by rw [hs8]; exact_mod_cast (by omega : 4 * d.size + 6 < 8 * d.size)))
  have h2 : tPoly.length ≤ 4 * d.size + 7 :=
    quotient_list_fits _ (reduced_ofCoeffs _) (trimmed_ofCoeffs _) _ (h1 ▸ hdeg)
  refine ⟨T, hT, h1, h2, fun h3 => by omega, fun k hk b12 b13 b14 tl tm th tf hs => ?_⟩
  exact (ProverMask.commitments_fit k d hw hk).2.1 _ b12 b13 b14 tl tm th tf hs h2

/-- non-vacuity: the two domains exist for `n = 2`, and coefficient lists for `exP2` (`T = 0`) with
    the honest lengths -/
example : ∃ d d8, Domain.new? 2 = some d ∧ Domain.new? (8 * d.size) = some d8 ∧ 2 ≤ d.size ∧
    (∀ j, (qSel.getD j []).length ≤ d.size + 2) ∧ (∀ j, (qSigma.getD j []).length ≤ d.size + 2) ∧
    ∀ (ω : F) (β γ α : F) (s : Seps F),
      NumP ω d.size (polysOf qSel qSigma [1] [2] [R - 3] [] [1] []) ⟨β, γ, α⟩ s =
        0 * (X ^ d.size - 1) := by
  obtain ⟨d, d8, hd, hd8, h2⟩ := q_domains
  refine ⟨d, d8, hd, hd8, h2, fun j => ?_, fun j => ?_, fun ω β γ α s => q_numerator ω _ β γ α s⟩
  · exact le_trans (q_sel_len j) (by omega)
  · exact le_trans (q_sigma_len j) (by omega)

/-- **`completeness_model_polys`.**  Domain `d` of `Domain.new?` (size `n`); layout `lay` with at most
    `n` gates and canonical witness values, every row of whose padded table holds (next row cyclic;
    `lay.sysSat` when `n = lay.paddedSize`) — its copy constraints hold by construction
    (`copyViolation lay lay = none`); dense public inputs `piS` and sigma values `sigE` of the layout
    (what `compile` interpolates, C05Perm `sigma_column_evals`); `z` the vector returned by the
    model's `permVec` on the wire columns of the table for the challenges `β, γ` (it returns one
    iff `γ ∉ denBadM β`, `perm_vec_is_accumulator`); ARBITRARY blinders (at most two per wire, three
    for the accumulator, as `prove` draws them).  Then the polynomials of the specification prover
    (`modelPolys`: `ifft` columns, `blindPoly`) satisfy EVERY hypothesis of `completeness_algebraic`
    and have the honest degree profile; consequently, for every `α` and all separation challenges,
    the numerator is `T·(Xⁿ − 1)` with `deg T ≤ 4n + 6`. -/
theorem completeness_model_polys (m : Nat) (d : Domain) (hd : Domain.new? m = some d)
    (lay : Composer) (hn : lay.gates.size ≤ d.size) (hval : ∀ x, lay.val x < R)
    (hrows : ∀ i < d.size, rowHolds (lay.gateAt i) (lay.rowVals i).a (lay.rowVals i).b
      (lay.rowVals i).c (lay.rowVals i).d (lay.rowVals ((i + 1) % d.size)).a
      (lay.rowVals ((i + 1) % d.size)).b (lay.rowVals ((i + 1) % d.size)).d (lay.piAt i) = true)
    (piS : List Nat) (hpil : piS.length = d.size)
    (hpi : ∀ i < d.size, toF (piS.getD i 0) = toF (lay.piAt i))
    (sigE : List (List Nat)) (hsl : ∀ j < 4, (sigE.getD j []).length = d.size)
    (hs : ∀ col < 4, ∀ i < d.size,
      toF ((sigE.getD col []).getD i 0) = idLabel (toF d.groupGen) (sigmaFn lay (col, i)))
    (beta gamma : Nat) (z : List Nat)
    (hz : permVec d.size d.elements (tableCol d.size lay (·.a)) (tableCol d.size lay (·.b))
      (tableCol d.size lay (·.c)) (tableCol d.size lay (·.d)) sigE beta gamma = some z)
    (ba bb bc bd bz : List Nat) (ha : ba.length ≤ 2) (hb : bb.length ≤ 2) (hc : bc.length ≤ 2)
    (hdd : bd.length ≤ 2) (hbz : bz.length ≤ 3) :
    let P := modelPolys d lay.gateAt (tableCol d.size lay (·.a)) (tableCol d.size lay (·.b))
      (tableCol d.size lay (·.c)) (tableCol d.size lay (·.d)) piS sigE z ba bb bc bd bz
    (0 < d.size ∧ IsPrimitiveRoot (toF d.groupGen) d.size ∧
      KeyInterp (toF d.groupGen) d.size lay P ∧
      (∀ i < d.size, rowOKP (toF d.groupGen) d.size lay P i) ∧
      (∀ p q, SameClass lay p q → wireVal (toF d.groupGen) P p = wireVal (toF d.groupGen) P q) ∧
      toF gamma ∉ denBadM (toF d.groupGen) d.size lay P (toF beta) ∧
      AccInterp (toF d.groupGen) d.size lay P (toF beta) (toF gamma) ∧
      PolysDeg2 P (d.size + 1) (d.size + 2)) ∧
    ∀ (α : F) (s : Seps F), ∃ T : F[X],
      NumP (toF d.groupGen) d.size P ⟨toF beta, toF gamma, α⟩ s = T * (X ^ d.size - 1) ∧
      T.natDegree ≤ 4 * d.size + 6 ∧
      ∀ zz : F, (NumP (toF d.groupGen) d.size P ⟨toF beta, toF gamma, α⟩ s).eval zz =
        T.eval zz * (zz ^ d.size - 1) := by
  intro P
  have hw := Domain.new?_WF m d hd
  have h0 := hw.size_pos
  have hω := hw.prim
  have hI : Interpolates (toF d.groupGen) d.size P lay.gateAt d.elements _ _ _ _ piS sigE z :=
    modelPolys_interpolates hw lay.gateAt d.elements _ _ _ _ piS sigE z ba bb bc bd bz
      (elements_roots d) (tableCol_length _ _ _) (tableCol_length _ _ _) (tableCol_length _ _ _)
      (tableCol_length _ _ _) hpil (permVec_spec _ _ _ _ _ _ _ _ _ z hz).1 hsl
  have I : KeyInterp (toF d.groupGen) d.size lay P :=
    keyInterp_of_interpolates hI (fun _ _ => rfl) hpi hs
  have W : WireInterp (toF d.groupGen) d.size lay P :=
    wireInterp_of_interpolates hI (fun i hi => tableCol_getD _ _ _ i hi)
      (fun i hi => tableCol_getD _ _ _ i hi) (fun i hi => tableCol_getD _ _ _ i hi)
      (fun i hi => tableCol_getD _ _ _ i hi)
  have hr := rows_of_model h0 lay lay W hval hrows
  have hcst := const_of_copyViolation lay lay hn W (copyViolation_self lay)
  have hγ := (permVec_some_iff hI I beta gamma).mp ⟨z, hz⟩
  have hacc := accInterp_of_permVec hI I beta gamma hz
  have hdeg : PolysDeg2 P (d.size + 1) (d.size + 2) :=
    modelPolys_deg hw _ _ _ _ _ _ _ _ _ _ _ _ _ ha hb hc hdd hbz
  refine ⟨⟨h0, hω, I, hr, hcst, hγ, hacc, hdeg⟩, fun α s => ?_⟩
  obtain ⟨-, -, T, hT⟩ := numerator_divisible h0 hω lay hn P I hr hcst (toF beta) (toF gamma) hγ hacc
    α s
  exact ⟨T, hT, (natDegree_quotient_honest _ d.size h0 P _ _ hdeg T hT).2,
    fun zz => eval_of_quotient _ T hT zz⟩

/-- non-vacuity: the layout `cLay` (two rows on the same four witnesses, `σ ≠ id`) on a domain of
    `Domain.new? 2`, `β = 1`, a suitable `γ`: the model's `permVec` returns a vector and every
    hypothesis holds (the blinder lists are arbitrary) -/
example : ∃ (d : Domain) (gamma : Nat) (z : List Nat), Domain.new? 2 = some d ∧
    cLay.gates.size ≤ d.size ∧ (∀ x, cLay.val x < R) ∧
    (∀ i < d.size, rowHolds (cLay.gateAt i) (cLay.rowVals i).a (cLay.rowVals i).b
      (cLay.rowVals i).c (cLay.rowVals i).d (cLay.rowVals ((i + 1) % d.size)).a
      (cLay.rowVals ((i + 1) % d.size)).b (cLay.rowVals ((i + 1) % d.size)).d (cLay.piAt i) = true) ∧
    ([0, 0] : List Nat).length = d.size ∧
    (∀ i < d.size, toF (([0, 0] : List Nat).getD i 0) = toF (cLay.piAt i)) ∧
    (∀ j < 4, ((mSig d cLay).getD j []).length = d.size) ∧
    (∀ col < 4, ∀ i < d.size, toF (((mSig d cLay).getD col []).getD i 0) =
      idLabel (toF d.groupGen) (sigmaFn cLay (col, i))) ∧
    permVec d.size d.elements (tableCol d.size cLay (·.a)) (tableCol d.size cLay (·.b))
      (tableCol d.size cLay (·.c)) (tableCol d.size cLay (·.d)) (mSig d cLay) 1 gamma = some z :=
  m_hyps

end Plonk.Props.C01Complete
