/-
  Property C14 — fixed-base multiplication returns `[s]G` for canonical `s` only.

  Conventions.  `c` is the composer state before the call, `(res, c')` the result of running the
  model's function on `c`, `w : Nat → Nat` an arbitrary assignment of values to witness indices
  (everything a prover may choose: all accumulators, all digits), `c''` any later state
  (`Extends c' c''`), `c''.rowsHoldW w c.gates.size c'.gates.size` says that the rows appended by
  the call hold under `w`, `toF : Nat → F = ZMod R` interprets values in the BLS scalar field,
  `smulF n P` is the `n`-fold sum of `P` under the field-level twisted Edwards addition law `addF`
  (`EdwardsGroup.lean`), `sdPointF G d n k` the iterated Edwards sum
  `Σ_{i<k} d_(n−1−i) • [2^(n−1−i)]G` of the first `k` ladder rounds (`FixedBase.lean`).

  The group-law corollary ("the returned point is `[s]G`") needs associativity of the addition
  law (`addF_assoc`); the hypothesis structure `JubjubGroupFacts` (group order) is not used
  anywhere in this file.

  Forced hypotheses (findings; none of them is a defect of the Rust code):
    * `WF c` (every stored witness value is reduced and no public input is recorded for a row that
      does not exist yet): an invariant of every state reachable from `initialized`
      (`initialized_wf`, preserved: `fixedBase_extends`).
    * `toF (w 0) = 0` in the soundness statements: the padding slots of the two range checks are
      wired to the constant-zero witness (index 0), whose value is pinned by row 0 of
      `Composer::initialized()`, not by the component.
    * `digits.length = 256`: in Rust the digit vector has type `&[i8; 256]`; the model takes a
      list, and a shorter list would move the closing row (`rows.length`), so the layout would no
      longer be the one of the widget.
    * completeness: `s < c.wit.size` (the scalar witness was allocated), `c.val 0 = 0`.
    * `mulGenerator_satisfiable_iff`: the proposed value `v` is canonical in the field (`v < R`)
      and `s = 0 → v = 0` (multiplying by the zero witness itself is satisfiable for `0` only).
    * the generator only has to be *on the curve* for soundness and completeness of the rows;
      prime order is checked by the host (`mulGenerator_error_iff`) and is what makes the result a
      subgroup element, but no row depends on it.
  Remark (not a soundness issue): on the error `UnsupportedWNAF2k` of
  `append_fixed_base_signed_digits` (a digit outside `{−1,0,1}`; unreachable from
  `component_mul_generator`, whose NAF digits are always admissible) the canonical-scalar rows
  have already been appended — the state is *not* unchanged (`fixedBase_bad_digits`).  The two
  errors of `component_mul_generator` leave the state unchanged (`mulGenerator_error_iff`).
-/
import Plonk.Proofs.FixedBase
import Plonk.Proofs.EdwardsExamples
namespace Plonk.Props.C14
open Plonk Plonk.Composer

/-! ## the canonical-scalar gadget -/

/-- `assert_canonical_jubjub_scalar` only appends: 69 gates (two 252-bit range checks of 34 gates
    and the distance gate) and 253 witnesses; no public input; the last gate is plain; `WF` is
    preserved. -/
theorem assertCanonicalJubjubScalar_extends (c : Composer) (s : Nat) :
    let c' := ((assertCanonicalJubjubScalar s).run c).2
    Extends c c' ∧ c'.gates.size = c.gates.size + 69 ∧ c'.wit.size = c.wit.size + 253 ∧
    c'.pis = c.pis ∧ (∀ i, i + 1 = c'.gates.size → Gate.plain (c'.gateAt i)) ∧
    (WF c → WF c') := by
  have S := assertCanonicalJubjubScalar_spec s c
  exact ⟨S.ext, S.gates, S.wit, assertCanonicalJubjubScalar_pis s c, S.appendsL.lastPlain, S.wf⟩

/-- Soundness of `assert_canonical_jubjub_scalar`.  For every assignment `w` with the zero
    witness equal to `0`: if the rows appended by the gadget hold under `w` (read in `c'` or in any
    later state), the canonical value of the scalar witness is below the subgroup order `r_J`. -/
theorem assertCanonicalJubjubScalar_sound (c : Composer) (s : Nat) (hwf : WF c)
    (c'' : Composer) (hext : Extends ((assertCanonicalJubjubScalar s).run c).2 c'')
    (w : Nat → Nat) (h0 : toF (w 0) = 0)
    (h : c''.rowsHoldW w c.gates.size ((assertCanonicalJubjubScalar s).run c).2.gates.size) :
    (toF (w s)).val < RJ :=
  (assertCanonicalJubjubScalar_spec s c).sound hwf.pis_zero hext w h h0

/-- Completeness of `assert_canonical_jubjub_scalar`.  When the stored scalar is below `r_J`
    the model's own witness table (read in any later state) satisfies the rows of the gadget. -/
theorem assertCanonicalJubjubScalar_complete (c : Composer) (s : Nat) (hwf : WF c)
    (hs : s < c.wit.size) (hz : c.val 0 = 0) (hv : c.val s < RJ)
    (c'' : Composer) (hext : Extends ((assertCanonicalJubjubScalar s).run c).2 c'') :
    c''.rowsHoldW c''.val c.gates.size ((assertCanonicalJubjubScalar s).run c).2.gates.size := by
  have S := assertCanonicalJubjubScalar_spec s c
  refine S.complete hwf.pis_zero hext ⟨hs, ?_, ?_⟩
  · rw [(S.ext.trans hext).val_eq (Nat.zero_lt_of_lt hs)]; exact hz
  · rw [(S.ext.trans hext).val_eq hs]; exact hv

/-- non-vacuity: on `initialized`, witness 2 holds `6 < r_J`; the honest table satisfies the rows
    and soundness applies to it. -/
example : (toF (((assertCanonicalJubjubScalar 2).run initialized).2.val 2)).val < RJ :=
  assertCanonicalJubjubScalar_sound initialized 2 initialized_wf _ (Extends.refl _) _
    (by rw [(assertCanonicalJubjubScalar_extends initialized 2).1.val_eq (by decide)]; rfl)
    (assertCanonicalJubjubScalar_complete initialized 2 initialized_wf (by decide) (by decide)
      (by decide +kernel) _ (Extends.refl _))

/-! ## what `append_fixed_base_signed_digits` appends -/

/-- Framing and layout.  With admissible digits the call succeeds and only appends:
    `69 + 3 + 256 + 3 = 331` gates and `253 + 4·256 + 3 = 1280` witnesses, no public input, last
    gate plain, `WF` preserved.  The ladder's witnesses start at `base = c.wit.size + 253`
    (round `i`: `acc_x, acc_y, accumulated_bit, xy_alpha` at `base + 4i ..`), and the returned
    point is the pair of final accumulators `(base + 1024, base + 1025)`. -/
theorem fixedBase_extends (c : Composer) (s : Nat) (g : Pt) (digits : List Int)
    (hd : ValidDigits digits) :
    let r := (appendFixedBaseSignedDigits s g digits).run c
    r.1 = .ok (c.wit.size + 253 + 1024, c.wit.size + 253 + 1025) ∧
    Extends c r.2 ∧ r.2.gates.size = c.gates.size + 331 ∧ r.2.wit.size = c.wit.size + 1280 ∧
    r.2.pis = c.pis ∧ (∀ i, i + 1 = r.2.gates.size → Gate.plain (r.2.gateAt i)) ∧
    (WF c → WF r.2) := by
  have S := appendFixedBaseSignedDigits_spec s g digits c hd
  exact ⟨S.fst, S.ext, S.gates, S.wit, appendFixedBaseSignedDigits_pis s g digits c,
    S.appendsL.lastPlain, S.wf⟩

/-- With an inadmissible digit the call fails with `UnsupportedWNAF2k` — *after* the
    canonical-scalar rows have been appended (the state is the one after
    `assert_canonical_jubjub_scalar`, not `c`). -/
theorem fixedBase_bad_digits (c : Composer) (s : Nat) (g : Pt) (digits : List Int)
    (hbad : ∃ d ∈ digits, d ≠ 0 ∧ d ≠ 1 ∧ d ≠ -1) :
    (appendFixedBaseSignedDigits s g digits).run c =
      (.error .unsupportedWnaf, ((assertCanonicalJubjubScalar s).run c).2) := by
  have hb : digitsBad digits = true := by
    unfold digitsBad
    rw [List.any_eq_true]
    obtain ⟨d, hd, h0, h1, h2⟩ := hbad
    exact ⟨d, hd, by simp [h0, h1, h2]⟩
  rw [appendFixedBaseSignedDigits_eq, if_pos hb, run_bind']
  rfl

/-- non-vacuity: the NAF of any scalar is admissible; a vector containing `2` is not, and then
    the state has grown by the 69 canonical-scalar gates. -/
example (k : Nat) : ValidDigits (wnaf2 k) :=
  validDigits_wnaf2 k
example : ∃ c', (appendFixedBaseSignedDigits 2 exG [2]).run initialized
      = (.error .unsupportedWnaf, c') ∧ c'.gates.size = initialized.gates.size + 69 :=
  ⟨_, fixedBase_bad_digits initialized 2 exG [2] ⟨2, by simp, by decide, by decide, by decide⟩,
    (assertCanonicalJubjubScalar_extends initialized 2).2.1⟩

/-! ## soundness of the ladder -/

open Finset in
/-- Soundness of `append_fixed_base_signed_digits`, for *every* assignment.
    Let the generator `g` be on the curve and the host digits admissible (they only fix the
    layout; their values play no role).  If an assignment `w` (zero witness `0`) satisfies all rows
    appended by the call, then with `base = c.wit.size + 253`:
    * the scalar witness is canonical: `(toF (w s)).val < r_J`;
    * there are integer digits `d_i ∈ {−1, 0, 1}`, `i < 256`, extracted from `w` (they are the
      increments `acc_bit(i+1) − 2·acc_bit(i)` of the scalar accumulator, most significant first),
      whose `FIXED_BASE_LEADING_ZERO_ROUNDS = 3` leading ones vanish and which recompose the
      scalar over ℤ: `Σ d_i·2^i = (toF (w s)).val` — no wrap modulo `r`, so no digit vector
      encodes `s + k·r` or `s + k·r_J` for `k ≠ 0`;
    * the point accumulator of every round `k ≤ 256` is the iterated Edwards sum
      `Σ_{i<k} d_(255−i) • [2^(255−i)]g`;
    * the returned point `(base + 1024, base + 1025)` carries exactly `[s]g`
      (`smulF (toF (w s)).val (toFP g)`): it is the same for every admissible digit vector, not
      only for the NAF, and it is unique. -/
theorem fixedBase_sound (c : Composer) (s : Nat) (g : Pt) (digits : List Int) (hwf : WF c)
    (hg : onCurve g = true) (hd : ValidDigits digits)
    (c'' : Composer) (hext : Extends ((appendFixedBaseSignedDigits s g digits).run c).2 c'')
    (w : Nat → Nat) (h0 : toF (w 0) = 0)
    (h : c''.rowsHoldW w c.gates.size ((appendFixedBaseSignedDigits s g digits).run c).2.gates.size) :
    let base := c.wit.size + 253
    (toF (w s)).val < RJ ∧
    ∃ d : Nat → ℤ,
      (∀ i < 256, d i = -1 ∨ d i = 0 ∨ d i = 1) ∧
      (∀ i < 256, toF (w (base + 4 * (i + 1) + 2)) - 2 * toF (w (base + 4 * i + 2))
          = ((d (255 - i) : ℤ) : F)) ∧
      (∀ j < Generated.FIXED_BASE_LEADING_ZERO_ROUNDS, d (255 - j) = 0) ∧
      (∑ i ∈ range 256, d i * 2 ^ i = ((toF (w s)).val : ℤ)) ∧
      (∀ k ≤ 256, (toF (w (base + 4 * k)), toF (w (base + 4 * k + 1)))
          = sdPointF (toFP g) d 256 k) ∧
      (toF (w (base + 1024)), toF (w (base + 1025))) = smulF (toF (w s)).val (toFP g) := by
  obtain ⟨h1, h2⟩ := (appendFixedBaseSignedDigits_spec s g digits c hd).sound hwf.pis_zero hext w h
  exact ⟨h1 h0, fbRel_sound (fbMults g) (fbMults_length g) (fbMults_on_curve g hg) (toFP g)
    ((onCurve_iff_P g).mp hg) (fbMults_get g hg) (fbBase c) s w h2
    (Nat.lt_of_lt_of_le (h1 h0) RJ_le_two_pow)⟩

/-- the field-level iterated sum is the scalar multiple by the accumulated integer, and the
    full sum of any digit function is `[Σ d_i·2^i]G` — the group-law step of `fixedBase_sound`,
    stated on its own. -/
theorem ladder_sum_is_scalar_mul {G : PtF} (hG : OnCurveP G) (d : Nat → ℤ) (n : Nat) :
    sdPointF G d n n = zsmulF (∑ i ∈ Finset.range n, d i * 2 ^ i) G := by
  rw [sdPointF_eq hG, sdPartZ_full]

/-- non-vacuity of `ladder_sum_is_scalar_mul`: a curve point exists -/
example : OnCurveP (toFP exG) := (onCurve_iff_P exG).mp exG_on_curve

/-! ## completeness of the ladder -/

/-- Completeness of `append_fixed_base_signed_digits`.  For a stored scalar below `r_J`, an
    on-curve generator and the digits the host actually uses (`wnaf2` of the stored scalar), the
    model's own witness table — read in `c'` or any later state — satisfies all rows. -/
theorem fixedBase_complete (c : Composer) (s : Nat) (g : Pt) (hwf : WF c)
    (hs : s < c.wit.size) (hz : c.val 0 = 0) (hg : onCurve g = true) (hv : c.val s < RJ)
    (c'' : Composer)
    (hext : Extends ((appendFixedBaseSignedDigits s g (wnaf2 (c.val s))).run c).2 c'') :
    c''.rowsHoldW c''.val c.gates.size
      ((appendFixedBaseSignedDigits s g (wnaf2 (c.val s))).run c).2.gates.size :=
  fixedBase_complete_naf c s g hwf.pis_zero hs hz hg hv hext

/-- the same for *any* admissible digit vector that recomposes the scalar with three leading
    zero rounds (`sdAccZ d 256 k` is the integer accumulator after `k` rounds, most significant
    digit first) -/
theorem fixedBase_complete_digits (c : Composer) (s : Nat) (g : Pt) (digits : List Int)
    (hwf : WF c) (hs : s < c.wit.size) (hz : c.val 0 = 0) (hg : onCurve g = true)
    (hd : ValidDigits digits)
    (hLz : sdAccZ (fun i => digits.getD i 0) 256 Generated.FIXED_BASE_LEADING_ZERO_ROUNDS = 0)
    (hfin : sdAccZ (fun i => digits.getD i 0) 256 256 = (c.val s : ℤ))
    (hv : c.val s < RJ) (c'' : Composer)
    (hext : Extends ((appendFixedBaseSignedDigits s g digits).run c).2 c'') :
    c''.rowsHoldW c''.val c.gates.size
      ((appendFixedBaseSignedDigits s g digits).run c).2.gates.size :=
  Composer.fixedBase_complete c s g digits hwf.pis_zero hs hz hg hd hLz hfin hv hext

/-- non-vacuity (and the two theorems together): on `initialized` with scalar witness 2 (value
    `6 < r_J`) and the curve point `exG`, the honest table satisfies the rows, hence by soundness
    the returned point carries `[6]·exG`. -/
example :
    let c' := ((appendFixedBaseSignedDigits 2 exG (wnaf2 (initialized.val 2))).run initialized).2
    (toF (c'.val (initialized.wit.size + 253 + 1024)),
      toF (c'.val (initialized.wit.size + 253 + 1025))) = smulF 6 (toFP exG) := by
  intro c'
  have hd := validDigits_wnaf2 (initialized.val 2)
  have hx := (fixedBase_extends initialized 2 exG _ hd).2.1
  have h6 : initialized.val 2 = 6 := by decide +kernel
  have hrows := fixedBase_complete initialized 2 exG initialized_wf (by decide) (by decide)
    exG_on_curve (by decide +kernel) _ (Extends.refl _)
  have hs := fixedBase_sound initialized 2 exG _ initialized_wf exG_on_curve hd _ (Extends.refl _)
    _ (by rw [hx.val_eq (by decide)]; rfl) hrows
  obtain ⟨-, d, -, -, -, -, -, hpt⟩ := hs
  rw [hx.val_eq (show 2 < initialized.wit.size by decide), h6] at hpt
  have : (toF 6).val = 6 := val_toF_of_lt (by decide +kernel)
  rw [this] at hpt
  exact hpt

/-! ## `component_mul_generator` -/

/-- Host-side decision logic of `component_mul_generator`.
    * `JubJubGeneratorNotPrimeOrder` is returned iff `Z = 0`, or the point is not on the curve, or
      it is not of prime order;
    * `JubJubScalarMalformed` is returned iff the generator is accepted and the stored scalar is
      `≥ r_J`;
    * in both cases the composer state is unchanged;
    * otherwise the call succeeds (no other error is possible: the NAF digits are admissible) and
      behaves as `append_fixed_base_signed_digits` on the affine generator and the NAF of the
      stored scalar. -/
theorem mulGenerator_error_iff (c : Composer) (s : Nat) (gen : Ext) :
    let r := (componentMulGenerator s gen).run c
    (r.1 = .error .generatorNotPrime ↔
      (gen.z = 0 ∨ gen.onCurve = false ∨ gen.primeOrder = false)) ∧
    (r.1 = .error .scalarMalformed ↔
      ((gen.z ≠ 0 ∧ gen.onCurve = true ∧ gen.primeOrder = true) ∧ RJ ≤ c.val s)) ∧
    ((∃ e, r.1 = .error e) → r.2 = c) ∧
    ((gen.z ≠ 0 ∧ gen.onCurve = true ∧ gen.primeOrder = true) → c.val s < RJ →
      r = (appendFixedBaseSignedDigits s (genAffine gen) (wnaf2 (c.val s))).run c ∧
      ∃ p, r.1 = .ok p) := by
  intro r
  have hr : r = _ := componentMulGenerator_run s gen c
  have hk := genOk_iff gen
  by_cases h1 : genOk gen = true
  · have h1' := hk.mp h1
    have hne : ¬ (gen.z = 0 ∨ gen.onCurve = false ∨ gen.primeOrder = false) := by
      rintro (h | h | h) <;> simp [h] at h1'
    by_cases h2 : RJ ≤ c.val s
    · rw [if_neg (by simp [h1]), if_pos h2] at hr
      rw [hr]
      refine ⟨⟨fun h => by simp at h, fun h => absurd h hne⟩, ⟨fun _ => ⟨h1', h2⟩, fun _ => rfl⟩,
        fun _ => rfl, fun _ h => absurd h2 (by omega)⟩
    · rw [if_neg (by simp [h1]), if_neg h2] at hr
      have hfst := (appendFixedBaseSignedDigits_spec s (genAffine gen) _ c
        (validDigits_wnaf2 (c.val s))).fst
      rw [← hr] at hfst
      have ok : ∀ e, r.1 ≠ .error e := fun e h => nomatch hfst.symm.trans h
      exact ⟨⟨fun h => absurd h (ok _), fun h => absurd h hne⟩,
        ⟨fun h => absurd h (ok _), fun h => absurd h.2 h2⟩,
        fun ⟨e, he⟩ => absurd he (ok e), fun _ _ => ⟨hr, _, hfst⟩⟩
  · have h1f : genOk gen = false := by simpa using h1
    have hbad := (genOk_eq_false_iff gen).mp h1f
    rw [if_pos h1f] at hr
    rw [hr]
    refine ⟨⟨fun _ => hbad, fun _ => rfl⟩, ⟨fun h => by simp at h, fun h => ?_⟩, fun _ => rfl,
      fun h => ?_⟩
    · exact absurd (hk.mpr h.1) h1
    · exact absurd (hk.mpr h) h1

/-- non-vacuity: the extended form of `exG` is an accepted generator (on the curve, `Z = 1`,
    prime order), the identity is rejected. -/
example : genOk (Ext.ofAffine exG) = true ∧ genOk Ext.id = false := by
  refine ⟨genOk_exG, ?_⟩
  have h : Ext.id.isIdentity = true := by decide
  simp [genOk, Ext.primeOrder, h]

/-- C14, property form.  Let `component_mul_generator(s, gen)` be called in a well-formed
    state in which the scalar witness `s` is allocated and the zero witness holds `0`.
    * If the call succeeds — i.e. (`mulGenerator_error_iff`) the generator is accepted and the
      stored scalar is canonical — then with `G` the affine generator and `p` the returned point:
      (completeness) the model's own table satisfies the appended rows, and (soundness) every
      assignment `w` satisfying them has a canonical scalar, `(toF (w s)).val < r_J`, and carries
      exactly `[(toF (w s)).val]·G` on `p`.  Hence no signed-digit assignment whatsoever — in
      particular none encoding the scalar plus a multiple of `r` or `r_J` — yields another point.
    * Conversely the rows cannot be satisfied with a non-canonical scalar witness (first
      conclusion of the soundness part), and the host refuses to build the circuit for one. -/
theorem mulGenerator_exact (c : Composer) (s : Nat) (gen : Ext) (hwf : WF c)
    (hs : s < c.wit.size) (hz : c.val 0 = 0) (p : Pt) (c' : Composer)
    (hrun : (componentMulGenerator s gen).run c = (.ok p, c')) :
    (gen.z ≠ 0 ∧ gen.onCurve = true ∧ gen.primeOrder = true) ∧ c.val s < RJ ∧
    onCurve (genAffine gen) = true ∧ Extends c c' ∧ WF c' ∧
    p = (c.wit.size + 253 + 1024, c.wit.size + 253 + 1025) ∧
    (∀ c'', Extends c' c'' → c''.rowsHoldW c''.val c.gates.size c'.gates.size) ∧
    (∀ c'', Extends c' c'' → ∀ w : Nat → Nat, toF (w 0) = 0 →
      c''.rowsHoldW w c.gates.size c'.gates.size →
        (toF (w s)).val < RJ ∧
        (toF (w p.1), toF (w p.2)) = smulF (toF (w s)).val (toFP (genAffine gen))) := by
  obtain ⟨h1, hv, hp, rfl⟩ := componentMulGenerator_ok_inv c s gen p c' hrun
  replace hp : p = (c.wit.size + 253 + 1024, c.wit.size + 253 + 1025) := hp
  have hg := genOk_on_curve gen h1
  have hd := validDigits_wnaf2 (c.val s)
  have S := appendFixedBaseSignedDigits_spec s (genAffine gen) _ c hd
  refine ⟨(genOk_iff gen).mp h1, hv, hg, S.ext, S.wf hwf, hp,
    fun c'' hext => fixedBase_complete_naf c s _ hwf.pis_zero hs hz hg hv hext, ?_⟩
  intro c'' hext w h0 hrows
  obtain ⟨r1, d, -, -, -, -, -, r2⟩ := fixedBase_sound c s _ _ hwf hg hd c'' hext w h0 hrows
  rw [hp]
  exact ⟨r1, r2⟩

/-- C14, "satisfiable exactly when".  Take the circuit produced by a successful call and any
    canonical field value `v < r` proposed for the scalar witness `s` (`v = 0` if `s` is the zero
    witness itself).  There is an assignment of *all* witnesses — digits and accumulators
    included — that gives `s` the value `v`, the zero witness the value `0`, and satisfies the
    appended rows iff `v < r_J`; and every such assignment carries `[v]·G` on the returned
    point.  (The layout does not depend on the stored witness values, so this speaks about the
    compiled circuit, not about the particular run.) -/
theorem mulGenerator_satisfiable_iff (c : Composer) (s : Nat) (gen : Ext) (hwf : WF c)
    (hs : s < c.wit.size) (p : Pt) (c' : Composer)
    (hrun : (componentMulGenerator s gen).run c = (.ok p, c'))
    (v : Nat) (hvR : v < R) (hs0 : s = 0 → v = 0) :
    ((∃ w : Nat → Nat, w s = v ∧ w 0 = 0 ∧ c'.rowsHoldW w c.gates.size c'.gates.size) ↔
      v < RJ) ∧
    (∀ w : Nat → Nat, w s = v → w 0 = 0 → c'.rowsHoldW w c.gates.size c'.gates.size →
      (toF (w p.1), toF (w p.2)) = smulF v (toFP (genAffine gen))) := by
  obtain ⟨h1, -, hp, rfl⟩ := componentMulGenerator_ok_inv c s gen p c' hrun
  replace hp : p = (c.wit.size + 253 + 1024, c.wit.size + 253 + 1025) := hp
  have hg := genOk_on_curve gen h1
  have hd := validDigits_wnaf2 (c.val s)
  refine ⟨fixedBase_satisfiable_iff c s _ _ hwf hs hg hd v hvR hs0, ?_⟩
  intro w hws hw0 hrows
  obtain ⟨-, d, -, -, -, -, -, r2⟩ :=
    fixedBase_sound c s _ _ hwf hg hd _ (Extends.refl _) w (by rw [hw0]; exact toF_zero) hrows
  rw [hws, val_toF_of_lt hvR] at r2
  rw [hp]
  exact r2

/-- non-vacuity: `component_mul_generator(2, exG)` on `initialized` succeeds. -/
example : ∃ p c', (componentMulGenerator 2 (Ext.ofAffine exG)).run initialized = (.ok p, c') :=
  ⟨_, _, mulGenerator_exG_run⟩

/-- non-vacuity of `mulGenerator_satisfiable_iff` and both of its directions on that circuit:
    the value `5 < r_J` is satisfiable for the scalar witness, the value `r_J` is not. -/
example : ∃ p c', (componentMulGenerator 2 (Ext.ofAffine exG)).run initialized = (.ok p, c') ∧
    (∃ w : Nat → Nat, w 2 = 5 ∧ w 0 = 0 ∧
      c'.rowsHoldW w initialized.gates.size c'.gates.size) ∧
    ¬ (∃ w : Nat → Nat, w 2 = RJ ∧ w 0 = 0 ∧
      c'.rowsHoldW w initialized.gates.size c'.gates.size) := by
  have hr := mulGenerator_exG_run
  refine ⟨_, _, hr, ?_, ?_⟩
  · exact (mulGenerator_satisfiable_iff initialized 2 _ initialized_wf (by decide) _ _ hr 5
      (by decide +kernel) (by decide)).1.mpr (by decide +kernel)
  · rw [(mulGenerator_satisfiable_iff initialized 2 _ initialized_wf (by decide) _ _ hr RJ
      (by decide +kernel) (by decide)).1]
    exact Nat.lt_irrefl _

/-! ## the no-wrap inequality depends on the extracted constants -/

/-- The soundness proof (`fixedBase_sound` → `signed_digits_no_wrap_generated`) uses exactly the
    following facts about the constants extracted from `fixed_base.rs`; they are re-checked by the
    kernel whenever `Generated.lean` changes.  With `FIXED_BASE_LEADING_ZERO_ROUNDS` lowered below
    `2` the first conjunct is false (third conjunct: with one pinned round `2^255 + 2^252 > r`), so
    the build breaks; likewise if `JUBJUB_SCALAR_BITS` no longer covers `r_J` (soundness), or if
    more rounds are pinned than the 253-digit NAF of a canonical scalar leaves free (last
    conjunct, completeness). -/
theorem no_wrap_depends_on_constants :
    (2 ^ (Generated.FIXED_BASE_SIGNED_DIGIT_ROUNDS - Generated.FIXED_BASE_LEADING_ZERO_ROUNDS)
      + 2 ^ Generated.JUBJUB_SCALAR_BITS ≤ R) ∧
    (2 ^ (Generated.FIXED_BASE_SIGNED_DIGIT_ROUNDS - 2) + 2 ^ Generated.JUBJUB_SCALAR_BITS ≤ R) ∧
    ¬ (2 ^ (Generated.FIXED_BASE_SIGNED_DIGIT_ROUNDS - 1) + 2 ^ Generated.JUBJUB_SCALAR_BITS ≤ R) ∧
    2 ≤ Generated.FIXED_BASE_LEADING_ZERO_ROUNDS ∧
    Generated.FIXED_BASE_LEADING_ZERO_ROUNDS ≤ Generated.FIXED_BASE_SIGNED_DIGIT_ROUNDS ∧
    Generated.FIXED_BASE_SIGNED_DIGIT_ROUNDS = 256 ∧
    RJ ≤ 2 ^ Generated.JUBJUB_SCALAR_BITS ∧
    Generated.JUBJUB_SCALAR_BITS + 1
      ≤ Generated.FIXED_BASE_SIGNED_DIGIT_ROUNDS - Generated.FIXED_BASE_LEADING_ZERO_ROUNDS :=
  ⟨no_wrap, no_wrap_two, no_wrap_fails_below_two, by decide, leading_le_rounds, rfl,
    RJ_le_two_pow, by decide⟩

/-- non-vacuity / sharpness: the wrap the bound excludes really exists as an integer — with all
    256 rounds free, `r` itself is a sum of signed digits (`|Σ| < 2^256`, `r < 2^255`), so without
    the leading pins the closing equality would hold modulo `r` only. -/
example : R < 2 ^ 255 ∧ RJ < R ∧ R - RJ < 2 ^ 255 := by decide +kernel

end Plonk.Props.C14
