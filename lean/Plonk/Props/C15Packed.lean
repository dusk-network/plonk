/-
  C15 / C17 at the BYTE level — the bounded reader of compressed circuit descriptions
  (`Plonk/Model/Packed.lean`: `unpackBounded` = `CompressedCircuit::unpack_bounded`, `pack`, `fromPayload` =
  `CompressedCircuit::from_bytes` on the inflated payload, `rebuild` = its reconstruction loop).

  C15: "Decompression work and memory are bounded by the capacity of the supplied public parameters: a description
  that needs more constraints than they allow, or that carries trailing or out-of-range data, is rejected with an
  error."   C17: "the checked decoders … return a value or an error - they never panic, hang, or allocate beyond a
  small multiple … of the parameters' capacity.  Whatever they accept consists only of canonically encoded field
  elements".

  Totality: every function of `Model/Packed.lean` is a kernel-checked structural recursion (no `partial`), so each
  returns `some/none`, `.ok/.error` on every byte list; what is proved here is WHAT they return.

  Status (all statements are about the model's own functions; everything below is FULL, no `_partial`):
  * T1 trailing data: `readers_prefix_stable`, `no_trailing_data`, `no_trailing_data_payload`,
    `accepted_prefix_unique`.
  * T2 bounded work: `bounded_counts`, `over_capacity_rejected` (declared length checked before any item is read,
    for EVERY item reader), `work_bound` (items ≤ 369·m), `items_backed_by_bytes` (every decoded item is backed by
    an input byte that was present, so work is also ≤ the payload length ≤ 857·m + 30),
    `smaller_capacity_rejected` (the same bytes under a capacity they exceed are rejected).
  * T3 `unpack_pack` (reader ∘ writer = id on representable values within capacity), `pack_within_limit` (the
    canonical encoding never trips the inflate limit), `pack_accepted`.
  * T4 `accepted_is_valid` (ties to `CompressedShape.valid` of `Model/Compress.lean`), `rejected_iff` (exact
    error classification), `accepted_canonical` (32-byte scalars below `R`, every rebuilt selector below `R`).
  * T5 `rebuild_shape` (accepted payload), `rebuild_shape_any` (ANY packed circuit: gate count, wire ranges,
    witness count ≤ 4·constraints whatever the declared `witnesses` field says).
  * T6 `roundtrip_bytes` (FULL): `from_bytes(compress payload) = decompressCompress`, for either setting of the
    hades flag, with `roundtrip_reader`, `encoder_output_good`, `dictionaries_decode`, `scalar_bytes_roundtrip`
    (proofs in `Plonk/Proofs/PackedRoundtrip.lean`).  Hypotheses (`Compressible comp m`): selectors `< R`, gate
    wires `< wit.size < 2^64`, public-input rows `< gates.size` (NOT necessarily distinct: both sides sort and
    de-duplicate), `gates.size ≤ m`, and `11 · gates.size < 2^32` — a sufficient form of a FORCED condition: the four
    vector lengths must fit the `array 32` header (beyond `2^32 - 1` the model's `packArrayLen` truncates).  The length guard needs no hypothesis: `pack_within_limit`.
  Forced hypotheses: in `unpack_pack` the representability bounds (`< 2^64`, `< 2^32`, 32 / 11 / 5 entries) are
  what the Rust types guarantee (`usize`, `[u8; 32]`, structs, msgpack `array 32`); the byte range `< 256` of the
  scalar bytes is NOT needed by the model (its `unpackU8` returns the `Nat` it is given), it is kept in
  `Representable` because the model's bytes are `Nat`s.
-/
import Plonk.Proofs.PackedLemmas
import Plonk.Proofs.PackedRoundtrip
namespace Plonk.Props.C15Packed
open Plonk Plonk.Packed Plonk.PackedLemmas Plonk.PackedRoundtrip

theorem placeholder_consts : Generated.PACKED_BYTES_PER_CONSTRAINT = 857 ∧ Generated.PACKED_FIXED_BYTES = 30 ∧
    Generated.SELECTORS_PER_POLYNOMIAL = 11 := by decide

/-! ### the running example: 3 constraints, rows 0 and 2 public, 2 extra scalars (one with high bytes), a
    declared witness count (300) far above the labels in use, one label (200) that needs the `uint8` form -/

def exP : PackedCircuit :=
  { hades := false, publicInputs := [0, 2], witnesses := 300,
    scalars := [leBytes32 5, leBytes32 (R - 2)],
    polynomials := [[0, 1, 0, 3, 0, 0, 1, 0, 0, 0, 0], [4, 0, 0, 0, 0, 2, 0, 0, 0, 0, 0]],
    constraints := [[0, 4, 1, 4, 0], [1, 1, 3, 0, 0], [0, 3, 3, 4, 200]] }

def exBytes : List Nat := pack exP

theorem exP_representable : Representable exP := by
  refine ⟨by decide, by decide, ?_, by decide, by decide, by decide, by decide, by decide, by decide⟩
  decide +kernel

theorem exP_within : WithinCapacity exP 3 := ⟨by decide, by decide, by decide, by decide⟩

/-- the example is what the writer produces for a representable description within capacity -/
theorem exBytes_accepted : unpackBounded exBytes 3 = some exP := unpackBounded_pack exP_representable exP_within

theorem exBytes_length : exBytes.length = 131 ∧ packedSizeLimit 3 = 2601 := by decide +kernel

theorem exP_valid : validateIndices exP (baseScalars exP.hades).length = true := by decide +kernel

theorem exP_canonical : ∀ s ∈ exP.scalars, leNat s < R := by decide +kernel

/-- the example payload is accepted by `fromPayload` -/
theorem exBytes_ok :
    fromPayload exBytes 3 = .ok (rebuild exP (baseScalars exP.hades ++ exP.scalars.map leNat)) :=
  fromPayload_eq_ok.2 ⟨by rw [exBytes_length.1, exBytes_length.2]; decide, exP, exBytes_accepted, exP_valid,
    exP_canonical, rfl⟩

/-! ## T1. trailing data -/

/-- every primitive reader returns the same value, and the same remainder followed by `e`, when `e` is appended
    to its input -/
theorem readers_prefix_stable :
    Stable unpackUsize ∧ Stable unpackU8 ∧ Stable unpackBool ∧ Stable unpackArrayLen ∧
    (∀ {α : Type} (f : List Nat → Option (α × List Nat)), Stable f → ∀ n, Stable (unpackMany f n)) ∧
    (∀ {α : Type} (f : List Nat → Option (α × List Nat)), Stable f → ∀ maxLen, Stable (unpackVec f maxLen)) :=
  ⟨unpackUsize_stable, unpackU8_stable, unpackBool_stable, unpackArrayLen_stable,
   fun _ hf n => unpackMany_stable hf n, fun _ hf maxLen => unpackVec_stable hf maxLen⟩

example : unpackUsize [0xcd, 1, 44] = some (300, []) ∧ unpackUsize ([0xcd, 1, 44] ++ [9, 9]) = some (300, [9, 9]) := by
  decide

/-- `no_trailing_data`: an accepted byte string followed by anything non-empty is rejected -/
theorem no_trailing_data {bs : List Nat} {m : Nat} {c : PackedCircuit} (h : unpackBounded bs m = some c) :
    ∀ x xs, unpackBounded (bs ++ x :: xs) m = none :=
  unpackBounded_append_none h

example : unpackBounded exBytes 3 = some exP ∧ unpackBounded (exBytes ++ [0]) 3 = none :=
  ⟨exBytes_accepted, by decide +kernel⟩

/-- the same at the `from_bytes` level: accepted payload + any extra byte ⇒ `InvalidCompressedCircuit` -/
theorem no_trailing_data_payload {bs : List Nat} {m : Nat} {comp : Composer} (h : fromPayload bs m = .ok comp) :
    ∀ x xs, fromPayload (bs ++ x :: xs) m = .error .invalid := by
  obtain ⟨-, c, hc, -⟩ := fromPayload_eq_ok.1 h
  intro x xs
  exact fromPayload_eq_error.2 (Or.inl ⟨rfl, Or.inr (Or.inl (unpackBounded_append_none hc x xs))⟩)

example : ∃ comp, fromPayload exBytes 3 = .ok comp := ⟨_, exBytes_ok⟩

/-- at most one prefix of a byte string is an accepted payload -/
theorem accepted_prefix_unique {bs bs' : List Nat} {m : Nat} {c c' : PackedCircuit}
    (h : unpackBounded bs m = some c) (h' : unpackBounded bs' m = some c') (hp : bs <+: bs') : bs = bs' := by
  obtain ⟨t, rfl⟩ := hp
  cases t with
  | nil => simp
  | cons x xs => rw [unpackBounded_append_none h x xs] at h'; cases h'

example : unpackBounded exBytes 3 = some exP ∧ exBytes <+: exBytes := ⟨exBytes_accepted, List.prefix_refl _⟩

/-! ## T2. bounded work and memory -/

/-- `bounded_counts`: every vector of an accepted description is within the capacity, and every item has its
    fixed arity -/
theorem bounded_counts {bs : List Nat} {m : Nat} {c : PackedCircuit} (h : unpackBounded bs m = some c) :
    c.publicInputs.length ≤ m ∧ c.scalars.length ≤ m * Generated.SELECTORS_PER_POLYNOMIAL ∧
    c.polynomials.length ≤ m ∧ c.constraints.length ≤ m ∧
    (∀ s ∈ c.scalars, s.length = 32) ∧ (∀ p ∈ c.polynomials, p.length = 11) ∧
    (∀ k ∈ c.constraints, k.length = 5) :=
  unpackBounded_counts h

example : unpackBounded exBytes 3 = some exP := exBytes_accepted

/-- `over_capacity_rejected`: a declared length above the bound is rejected whatever the item reader is — no item
    is read, nothing is allocated from the length field -/
theorem over_capacity_rejected {α : Type} (f : List Nat → Option (α × List Nat)) {maxLen len : Nat}
    {bs r : List Nat} (h : unpackArrayLen bs = some (len, r)) (hgt : len > maxLen) :
    unpackVec f maxLen bs = none :=
  unpackVec_over_capacity f h hgt

/-- header `array 32` announcing `2^32 - 1` items and no item at all: rejected under capacity 1000 -/
example : unpackArrayLen [0xdd, 0xff, 0xff, 0xff, 0xff] = some (4294967295, []) ∧ 4294967295 > 1000 := by decide

/-- `work_bound`: the number of decoded items (rows, scalar bytes, scalar indices, constraint fields) is at most
    `369 = 1 + 32·11 + 11 + 5` per unit of capacity -/
theorem work_bound {bs : List Nat} {m : Nat} {c : PackedCircuit} (h : unpackBounded bs m = some c) :
    c.publicInputs.length + 32 * c.scalars.length + 11 * c.polynomials.length + 5 * c.constraints.length
      ≤ (1 + 32 * 11 + 11 + 5) * m := by
  obtain ⟨h1, h2, h3, h4, -⟩ := unpackBounded_counts h
  simp only [Generated.SELECTORS_PER_POLYNOMIAL] at h2
  omega

example : unpackBounded exBytes 3 = some exP := exBytes_accepted

/-- every decoded item is backed by at least one input byte that was present (plus one byte for the flag, the
    witness count and each of the four headers): the reader's work is bounded by the payload length, which
    `fromPayload` bounds by `packedSizeLimit m = 857·m + 30` -/
theorem items_backed_by_bytes {bs : List Nat} {m : Nat} {c : PackedCircuit} (h : unpackBounded bs m = some c) :
    6 + c.publicInputs.length + 32 * c.scalars.length + 11 * c.polynomials.length + 5 * c.constraints.length
      ≤ bs.length := by
  obtain ⟨r1, r2, r3, r4, r5, h1, h2, h3, h4, h5, h6⟩ := unpackBounded_eq_some.1 h
  have a1 := unpackBool_consumes _ _ _ h1
  have a2 := unpackVec_consumes unpackUsize_consumes h2
  have a3 := unpackUsize_consumes _ _ _ h3
  have a4 := unpackVec_consumes (unpackMany_consumes unpackU8_consumes 32) h4
  have a5 := unpackVec_consumes (unpackMany_consumes unpackUsize_consumes 11) h5
  have a6 := unpackVec_consumes (unpackMany_consumes unpackUsize_consumes 5) h6
  simp only [List.length_nil] at a6
  omega

example : unpackBounded exBytes 3 = some exP := exBytes_accepted

/-- the capacity only gates: bytes accepted under some capacity are rejected under any capacity that one of
    their vectors exceeds ("a description that needs more constraints than they allow is rejected") -/
theorem smaller_capacity_rejected {bs : List Nat} {m m' : Nat} {c : PackedCircuit}
    (h : unpackBounded bs m = some c)
    (hgt : m' < c.publicInputs.length ∨ m' * Generated.SELECTORS_PER_POLYNOMIAL < c.scalars.length ∨
      m' < c.polynomials.length ∨ m' < c.constraints.length) : unpackBounded bs m' = none := by
  cases h' : unpackBounded bs m' with
  | none => rfl
  | some c' =>
    have e := unpackBounded_bound_irrel h h'
    subst e
    obtain ⟨h1, h2, h3, h4, -⟩ := unpackBounded_counts h'
    omega

example : unpackBounded exBytes 3 = some exP ∧ 2 < exP.constraints.length ∧ unpackBounded exBytes 2 = none :=
  ⟨exBytes_accepted, by decide, by decide +kernel⟩

/-- and `from_bytes` turns that into `InvalidCompressedCircuit` -/
theorem smaller_capacity_invalid {bs : List Nat} {m m' : Nat} {c : PackedCircuit}
    (h : unpackBounded bs m = some c)
    (hgt : m' < c.publicInputs.length ∨ m' * Generated.SELECTORS_PER_POLYNOMIAL < c.scalars.length ∨
      m' < c.polynomials.length ∨ m' < c.constraints.length) : fromPayload bs m' = .error .invalid :=
  fromPayload_eq_error.2 (Or.inl ⟨rfl, Or.inr (Or.inl (smaller_capacity_rejected h hgt))⟩)

example : unpackBounded exBytes 3 = some exP ∧ 2 < exP.constraints.length := ⟨exBytes_accepted, by decide⟩

/-! ## T3. reader ∘ writer -/

/-- `unpack_pack`: what the writer produces for a representable description within capacity is read back
    unchanged -/
theorem unpack_pack {c : PackedCircuit} {m : Nat} (hr : Representable c) (hc : WithinCapacity c m) :
    unpackBounded (pack c) m = some c :=
  unpackBounded_pack hr hc

example : Representable exP ∧ WithinCapacity exP 3 := ⟨exP_representable, exP_within⟩

/-- the key lemmas of `unpack_pack`, for reference -/
theorem primitive_roundtrips :
    (∀ v r, v < 2 ^ 64 → unpackUsize (packUsize v ++ r) = some (v, r)) ∧
    (∀ v r, unpackU8 (packU8 v ++ r) = some (v, r)) ∧
    (∀ b r, unpackBool (packBool b ++ r) = some (b, r)) ∧
    (∀ len r, len < 2 ^ 32 → unpackArrayLen (packArrayLen len ++ r) = some (len, r)) :=
  ⟨unpackUsize_packUsize, unpackU8_packU8, unpackBool_packBool, unpackArrayLen_packArrayLen⟩

example : packUsize 300 = [0xcd, 1, 44] ∧ packUsize (2 ^ 64 - 1) = [0xcf, 255, 255, 255, 255, 255, 255, 255, 255] ∧
    packArrayLen 16 = [0xdc, 0, 16] := by decide

/-- `pack_within_limit`: the canonical encoding of a description within capacity never exceeds the inflate limit
    of `from_bytes` — the crate's constants `857` per constraint and `30` fixed are sufficient -/
theorem pack_within_limit {c : PackedCircuit} {m : Nat} (hs : ∀ s ∈ c.scalars, s.length = 32)
    (hp : ∀ p ∈ c.polynomials, p.length = 11) (hk : ∀ k ∈ c.constraints, k.length = 5)
    (hc : WithinCapacity c m) : (pack c).length ≤ packedSizeLimit m :=
  pack_length_le hs hp hk hc

example : (∀ s ∈ exP.scalars, s.length = 32) ∧ (∀ p ∈ exP.polynomials, p.length = 11) ∧
    (∀ k ∈ exP.constraints, k.length = 5) := by decide +kernel

/-- so `from_bytes` accepts the canonical encoding of every representable, valid, canonical description -/
theorem pack_accepted {c : PackedCircuit} {m : Nat} (hr : Representable c) (hc : WithinCapacity c m)
    (hv : validateIndices c (baseScalars c.hades).length = true) (hs : ∀ s ∈ c.scalars, leNat s < R) :
    fromPayload (pack c) m = .ok (rebuild c (baseScalars c.hades ++ c.scalars.map leNat)) :=
  fromPayload_eq_ok.2 ⟨pack_length_le (fun s h => (hr.scalars s h).1) (fun s h => (hr.polynomials s h).1)
    (fun s h => (hr.constraints s h).1) hc, c, unpackBounded_pack hr hc, hv, hs, rfl⟩

example : Representable exP ∧ WithinCapacity exP 3 ∧ validateIndices exP (baseScalars exP.hades).length = true ∧
    (∀ s ∈ exP.scalars, leNat s < R) := ⟨exP_representable, exP_within, exP_valid, exP_canonical⟩

/-! ## T4. what is accepted, what is rejected -/

/-- `accepted_is_valid`: an accepted payload is within the inflate limit, is read by the bounded reader into a
    description that is structurally valid in the sense of `Model/Compress.lean` (`CompressedShape.valid`:
    counts within capacity, rows strictly increasing and below the constraint count, every scalar / polynomial /
    witness index in range), carries only canonical scalars, and the result is the rebuilt composer -/
theorem accepted_is_valid {bs : List Nat} {m : Nat} {comp : Composer} (h : fromPayload bs m = .ok comp) :
    ∃ c, unpackBounded bs m = some c ∧ c.shape.valid (baseScalars c.hades).length m = true ∧
      (∀ s ∈ c.scalars, leNat s < R) ∧ bs.length ≤ packedSizeLimit m ∧
      comp = rebuild c (baseScalars c.hades ++ c.scalars.map leNat) := by
  obtain ⟨hl, c, hc, hv, hs, rfl⟩ := fromPayload_eq_ok.1 h
  obtain ⟨h1, h2, h3, h4, -⟩ := unpackBounded_counts hc
  exact ⟨c, hc, shape_valid_iff.2 ⟨⟨h1, h2, h3, h4⟩, hv⟩, hs, hl, rfl⟩

example : ∃ comp, fromPayload exBytes 3 = .ok comp := ⟨_, exBytes_ok⟩

/-- the structural validity is exactly the counts plus `validate_indices` -/
theorem valid_iff_counts_and_indices (c : PackedCircuit) (m base : Nat) : c.shape.valid base m = true ↔
    (c.publicInputs.length ≤ m ∧ c.scalars.length ≤ m * Generated.SELECTORS_PER_POLYNOMIAL ∧
     c.polynomials.length ≤ m ∧ c.constraints.length ≤ m) ∧ validateIndices c base = true :=
  shape_valid_iff

/-- `rejected_iff`: the exact error classification.  `InvalidCompressedCircuit` iff the payload exceeds the
    inflate limit, or the bounded reader fails (truncated, malformed tag, over capacity, trailing bytes), or
    `validate_indices` fails; `BlsScalarMalformed` iff all of those pass and some scalar is not canonical -/
theorem rejected_iff {bs : List Nat} {m : Nat} {e : Packed.PErr} :
    fromPayload bs m = .error e ↔
      (e = .invalid ∧ (bs.length > packedSizeLimit m ∨ unpackBounded bs m = none ∨
        ∃ c, unpackBounded bs m = some c ∧ validateIndices c (baseScalars c.hades).length = false)) ∨
      (e = .scalarMalformed ∧ bs.length ≤ packedSizeLimit m ∧
        ∃ c, unpackBounded bs m = some c ∧ validateIndices c (baseScalars c.hades).length = true ∧
          ∃ s ∈ c.scalars, R ≤ leNat s) :=
  fromPayload_eq_error

/-- both error classes are inhabited: a row equal to the constraint count (out of range), and the scalar `R` -/
example :
    fromPayload (pack { exP with publicInputs := [0, 3] }) 3 = .error .invalid ∧
    fromPayload (pack { exP with scalars := [leBytes32 5, leBytes32 R] }) 3 = .error .scalarMalformed := by
  -- both descriptions are representable and within capacity, so the reader returns them (`unpack_pack`); what is
  -- evaluated is `validate_indices` and the value of the last scalar
  have r1 : Representable { exP with publicInputs := [0, 3] } :=
    { exP_representable with publicInputs := by decide, lenPublicInputs := by decide }
  have r2 : Representable { exP with scalars := [leBytes32 5, leBytes32 R] } :=
    { exP_representable with
      scalars := fun s hs => by
        rcases List.mem_pair.1 hs with rfl | rfl <;> exact ⟨leBytes32_length _, leBytes32_lt _⟩
      lenScalars := by decide }
  have w1 : WithinCapacity { exP with publicInputs := [0, 3] } 3 := ⟨by decide, by decide, by decide, by decide⟩
  have w2 : WithinCapacity { exP with scalars := [leBytes32 5, leBytes32 R] } 3 :=
    ⟨by decide, by decide, by decide, by decide⟩
  constructor
  · exact rejected_iff.2 (Or.inl ⟨rfl, Or.inr (Or.inr ⟨_, unpackBounded_pack r1 w1, by decide +kernel⟩)⟩)
  · exact rejected_iff.2 (Or.inr ⟨rfl, pack_length_le (fun s h => (r2.scalars s h).1)
      (fun s h => (r2.polynomials s h).1) (fun s h => (r2.constraints s h).1) w2, _, unpackBounded_pack r2 w2,
      by decide +kernel, leBytes32 R, List.mem_cons_of_mem _ List.mem_cons_self, by decide +kernel⟩)

/-- the decoder is total with exactly these outcomes -/
theorem outcome_trichotomy (bs : List Nat) (m : Nat) :
    (∃ comp, fromPayload bs m = .ok comp) ∨ fromPayload bs m = .error .invalid ∨
    fromPayload bs m = .error .scalarMalformed := by
  cases h : fromPayload bs m with
  | ok comp => exact Or.inl ⟨comp, rfl⟩
  | error e => cases e with
    | invalid => exact Or.inr (Or.inl rfl)
    | scalarMalformed => exact Or.inr (Or.inr rfl)

/-- `accepted_canonical` (C17): whatever is accepted consists only of canonically encoded field elements — every
    transmitted scalar is 32 bytes with value below `R`, every entry of the built-in dictionary is below `R`, and
    hence every selector of every rebuilt gate is below `R` -/
theorem accepted_canonical {bs : List Nat} {m : Nat} {comp : Composer} (h : fromPayload bs m = .ok comp) :
    (∃ c, unpackBounded bs m = some c ∧ (∀ s ∈ c.scalars, s.length = 32 ∧ leNat s < R) ∧
      (∀ x ∈ baseScalars c.hades, x < R)) ∧
    (∀ g ∈ comp.gates.toList, ∀ s ∈ gateSelectors g, s < R) := by
  obtain ⟨-, c, hc, -, hs, rfl⟩ := fromPayload_eq_ok.1 h
  obtain ⟨-, -, -, -, h32, -⟩ := unpackBounded_counts hc
  refine ⟨⟨c, hc, fun s hm => ⟨h32 s hm, hs s hm⟩, baseScalars_lt c.hades⟩, ?_⟩
  apply rebuild_canon
  intro x hx
  rcases List.mem_append.1 hx with hx | hx
  · exact baseScalars_lt c.hades x hx
  · obtain ⟨s, hm, rfl⟩ := List.mem_map.1 hx
    exact hs s hm

example : ∃ comp, fromPayload exBytes 3 = .ok comp := ⟨_, exBytes_ok⟩

/-! ## T5. the rebuilt composer -/

/-- `rebuild_shape_any`: for ANY packed circuit and scalar table the rebuilt composer has one gate per
    constraint, only zero witnesses, every gate wire allocated, and at most `4` witnesses per constraint — the
    declared `witnesses` field (up to `2^64 - 1`) allocates nothing -/
theorem rebuild_shape_any (c : PackedCircuit) (scalars : List Nat) :
    (rebuild c scalars).gates.size = c.constraints.length ∧
    (rebuild c scalars).wit.size ≤ 4 * c.constraints.length ∧
    (∀ v ∈ (rebuild c scalars).wit.toList, v = 0) ∧
    (∀ g ∈ (rebuild c scalars).gates.toList,
      g.a < (rebuild c scalars).wit.size ∧ g.b < (rebuild c scalars).wit.size ∧
      g.c < (rebuild c scalars).wit.size ∧ g.d < (rebuild c scalars).wit.size) :=
  PackedLemmas.rebuild_shape c scalars

/-- `rebuild_shape`: for an accepted payload the rebuilt composer has exactly `c.constraints.length ≤ m` gates,
    a zero-valued public input on exactly the rows `c.publicInputs` (in order), only zero witnesses, every gate
    wire below `wit.size`, and `wit.size ≤ 4 · c.constraints.length ≤ 4 · m` -/
theorem rebuild_shape {bs : List Nat} {m : Nat} {comp : Composer} (h : fromPayload bs m = .ok comp) :
    ∃ c, unpackBounded bs m = some c ∧
      comp.gates.size = c.constraints.length ∧ comp.gates.size ≤ m ∧
      comp.pis.toList = c.publicInputs.map (fun r => (r, 0)) ∧
      (∀ v ∈ comp.wit.toList, v = 0) ∧
      (∀ g ∈ comp.gates.toList, g.a < comp.wit.size ∧ g.b < comp.wit.size ∧ g.c < comp.wit.size ∧
        g.d < comp.wit.size) ∧
      comp.wit.size ≤ 4 * c.constraints.length ∧ comp.wit.size ≤ 4 * m := by
  obtain ⟨-, c, hc, hv, -, rfl⟩ := fromPayload_eq_ok.1 h
  obtain ⟨-, -, -, h4, -⟩ := unpackBounded_counts hc
  obtain ⟨s1, s2, s3, s4⟩ := PackedLemmas.rebuild_shape c (baseScalars c.hades ++ c.scalars.map leNat)
  obtain ⟨p1, p2⟩ := validateIndices_pis hv
  exact ⟨c, hc, s1, s1 ▸ h4, rebuild_pis c _ p1 p2, s3, s4, s2, Nat.le_trans s2 (Nat.mul_le_mul_left 4 h4)⟩

/-- on the example: 3 gates, 5 witnesses (labels 4, 1, 0, 3, 200 in order of first use; the declared count is
    300), rows 0 and 2 -/
example : ∃ comp, fromPayload exBytes 3 = .ok comp ∧ comp.gates.size = 3 ∧ comp.wit.size = 5 ∧
    comp.pis.toList = [(0, 0), (2, 0)] ∧
    comp.gates.toList.map (fun g => [g.a, g.b, g.c, g.d]) = [[0, 1, 0, 2], [1, 3, 2, 2], [3, 3, 0, 4]] ∧
    comp.gates.toList.map gateSelectors =
      [[0, 1, 0, 5, 0, 0, 1, 0, 0, 0, 0], [R - 2, 0, 0, 0, 0, R - 1, 0, 0, 0, 0, 0], [0, 1, 0, 5, 0, 0, 1, 0, 0, 0, 0]] := by
  exact ⟨_, exBytes_ok, by decide +kernel⟩

/-! ## T6. the byte-level round trip -/

/-- the composer of `Props/C15.lean`: 3 gates, witness 2 unused, gates 0 and 2 share their selector tuple, a
    public input on row 0 and row 2 inserted twice -/
def exComp : Composer :=
  { gates := #[{ ql := 1, qo := 2, qarith := 1, a := 4, b := 1, c := 4, d := 0 },
               { qm := 3, qc := 5, a := 1, b := 3, c := 0, d := 0 },
               { ql := 1, qo := 2, qarith := 1, a := 3, b := 3, c := 4, d := 0 }],
    wit := #[0, 11, 12, 13, 14],
    pis := #[(2, 9), (0, 0), (2, 5)] }

theorem exComp_compressible : Compressible exComp 3 :=
  ⟨by decide +kernel, by decide +kernel, by decide, by decide, by decide, by decide⟩

/-- `roundtrip_bytes`: decoding the payload that `Circuit::compress()` deflates gives the composer
    `decompressCompress` of `Model/Compress.lean` (same gates with wires relabelled in order of first use, zero
    witnesses, sorted de-duplicated zero-valued public-input rows) — so the compiled keys are the ones of
    `Props/C15.lean::compress_compile_same_keys` -/
theorem roundtrip_bytes {comp : Composer} {m : Nat} (h : Compressible comp m) :
    fromPayload (compressPayload comp) m = .ok (decompressCompress comp) :=
  fromPayload_compressPayload h

example : Compressible exComp 3 := exComp_compressible

/-- the same for either setting of the hades flag of `from_composer` -/
theorem roundtrip_bytes_any_flag {comp : Composer} {m : Nat} (hades : Bool) (h : Compressible comp m) :
    fromPayload (pack (fromComposer hades comp)) m = .ok (decompressCompress comp) :=
  fromPayload_pack_fromComposer hades h

/-- evaluated on the example without the hades table (no SHA-512 in the kernel): 2 extra scalars, 2 polynomials -/
example : Compressible exComp 3 ∧
    fromComposer false exComp =
      { hades := false, publicInputs := [0, 2], witnesses := 5, scalars := [leBytes32 2, leBytes32 3, leBytes32 5],
        polynomials := [[0, 1, 0, 3, 0, 0, 1, 0, 0, 0, 0], [4, 0, 0, 0, 0, 5, 0, 0, 0, 0, 0]],
        constraints := [[0, 4, 1, 4, 0], [1, 1, 3, 0, 0], [0, 3, 3, 4, 0]] } ∧
    unpackBounded (pack (fromComposer false exComp)) 3 = some (fromComposer false exComp) := by
  exact ⟨exComp_compressible, by decide +kernel, unpackBounded_pack_fromComposer false exComp_compressible⟩

/-- `roundtrip_reader`: the bounded reader returns exactly the encoder's description -/
theorem roundtrip_reader {comp : Composer} {m : Nat} (hades : Bool) (h : Compressible comp m) :
    unpackBounded (pack (fromComposer hades comp)) m = some (fromComposer hades comp) :=
  unpackBounded_pack_fromComposer hades h

example : Compressible exComp 3 := exComp_compressible

/-- `encoder_output_good`: what the encoder produces is representable, within capacity, passes
    `validate_indices`, carries only canonical scalars, and rebuilds to `decompressCompress` -/
theorem encoder_output_good {comp : Composer} {m : Nat} (hades : Bool) (h : Compressible comp m) :
    Representable (fromComposer hades comp) ∧ WithinCapacity (fromComposer hades comp) m ∧
    validateIndices (fromComposer hades comp) (baseScalars hades).length = true ∧
    (∀ s ∈ (fromComposer hades comp).scalars, leNat s < R) ∧
    rebuild (fromComposer hades comp) (baseScalars hades ++ (fromComposer hades comp).scalars.map leNat) =
      decompressCompress comp :=
  fromComposer_good hades h

example : Compressible exComp 3 := exComp_compressible

/-- `dictionaries_decode` (no hypothesis on the composer): the scalar table `S` extends the built-in one, its tail
    is what is transmitted, all its entries are canonical, and every constraint `[pi, a, b, c, d]` names a
    polynomial whose eleven indices look up, in the FINAL tables, the selectors of its gate reduced mod `R` -/
theorem dictionaries_decode (hades : Bool) (comp : Composer) :
    ∃ S : List Nat, baseScalars hades <+: S ∧ (∀ x ∈ S, x < R) ∧
      (fromComposer hades comp).scalars = (S.drop (baseScalars hades).length).map leBytes32 ∧
      List.Forall₂ (fun g k => ∃ pi idx, k = [pi, g.a, g.b, g.c, g.d] ∧
          (fromComposer hades comp).polynomials[pi]? = some idx ∧
          idx.map (fun i => S[i]?) = ((gateSelectors g).map (· % R)).map some)
        comp.gates.toList (fromComposer hades comp).constraints :=
  fromComposer_dictionaries hades comp

/-- `scalar_bytes_roundtrip`: the 32 little-endian bytes of a canonical scalar decode to it -/
theorem scalar_bytes_roundtrip {v : Nat} (h : v < R) :
    (leBytes32 v).length = 32 ∧ (∀ b ∈ leBytes32 v, b < 256) ∧ leNat (leBytes32 v) = v :=
  ⟨leBytes32_length v, leBytes32_lt v, leNat_leBytes32 (Nat.lt_trans h R_lt_256_pow_32)⟩

example : (5 : Nat) < R ∧ R - 2 < R := by decide

/-- the built-in dictionary has at most `3 + 335 + 25` entries, all canonical (proved without evaluating a single
    SHA-512) -/
theorem builtin_dictionary (hades : Bool) :
    (baseScalars hades).length ≤ 363 ∧ ∀ x ∈ baseScalars hades, x < R :=
  ⟨baseScalars_length_le hades, baseScalars_lt hades⟩

end Plonk.Props.C15Packed
