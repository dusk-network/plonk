/-
  Tie by translation, part 2 (used by C01, C02, C05, C06): the PROVER-SIDE GLUE of /repo — how `quotient_poly.rs` assembles
  the quotient numerator and applies the `len > 7·(size/8)` rule, how `linearization_poly.rs` (with the evaluations taken in
  `prove_inner`) assembles the linearisation polynomial, how `composer/permutation.rs` builds the accumulator — regenerated
  into `Plonk/GeneratedProver.lean` by `tools/rs2lean_prover.py` on every run, IS what the model's `prove` does
  (`quotientEvals`, `permVec`, rounds 4 and 5). Lemmas: `Plonk/Proofs/ProverSource.lean`.
-/
import Plonk.Proofs.ProverSource

namespace Plonk.Props.ProverTie
open Plonk Plonk.GeneratedWidgets Plonk.GeneratedProver Plonk.WidgetSource Plonk.ProverSource Plonk.Quot Polynomial

/-- **the numerator vector for arbitrary evaluation lists** (no assumption on the transform kernel `cf`): entry `i` of
    the translated `quotient` is entry `i` of the model's `quotientEvals`. -/
theorem quotient_numerator_is_the_source {Dom Pol : Type} (cf : Dom → Pol → List Nat) (sz : Dom → Nat) (szInv : Dom → Nat)
    (qd : Dom) (zP aP bP cP dP piP : Pol) (selE sigE8 : Array (Array Nat)) (linE vh vhInv8 : Array Nat)
    (alpha beta gamma rSep lSep fSep vSep : Nat)
    (hz : 8 ≤ (cf qd zP).length) (ha : 8 ≤ (cf qd aP).length) (hb : 8 ≤ (cf qd bP).length)
    (hd : 8 ≤ (cf qd dP).length) (hc : sz qd ≤ (cf qd cP).length) :
    quotient_compute_quotient (A := F) (dom_coset_fft := fun d p => (cf d p).map toF) (dom_size := sz)
      (dom_size_inv := fun d => toF (szInv d)) (quotient_domain := qd)
      (z_poly := zP) (a_poly := aP) (b_poly := bP) (c_poly := cP) (d_poly := dP) (public_inputs_poly := piP)
      (vanishing_coset_inverses := arrF vhInv8)
      (alpha := toF alpha) (beta := toF beta) (gamma := toF gamma)
      (range_challenge := toF rSep) (logic_challenge := toF lSep) (fixed_base_challenge := toF fSep)
      (var_base_challenge := toF vSep)
      (EDWARDS_D := dF) (K1 := toF Generated.K1) (K2 := toF Generated.K2) (K3 := toF Generated.K3)
      (prover_key_arithmetic_q_m_1 := arrF (selE.getD 0 #[])) (prover_key_arithmetic_q_l_1 := arrF (selE.getD 1 #[]))
      (prover_key_arithmetic_q_r_1 := arrF (selE.getD 2 #[])) (prover_key_arithmetic_q_o_1 := arrF (selE.getD 3 #[]))
      (prover_key_arithmetic_q_f_1 := arrF (selE.getD 4 #[])) (prover_key_arithmetic_q_c_1 := arrF (selE.getD 5 #[]))
      (prover_key_arithmetic_q_arith_1 := arrF (selE.getD 6 #[]))
      (prover_key_range_q_range_1 := arrF (selE.getD 7 #[]))
      (prover_key_logic_q_logic_1 := arrF (selE.getD 8 #[])) (prover_key_logic_q_c_1 := arrF (selE.getD 5 #[]))
      (prover_key_fixed_base_q_fixed_group_add_1 := arrF (selE.getD 9 #[]))
      (prover_key_fixed_base_q_c_1 := arrF (selE.getD 5 #[])) (prover_key_fixed_base_q_l_1 := arrF (selE.getD 1 #[]))
      (prover_key_fixed_base_q_r_1 := arrF (selE.getD 2 #[]))
      (prover_key_variable_base_q_variable_group_add_1 := arrF (selE.getD 10 #[]))
      (prover_key_permutation_linear_evaluations := arrF linE)
      (prover_key_permutation_linear_evaluations_evals := arrF linE)
      (prover_key_permutation_s_sigma_1_1 := arrF (sigE8.getD 0 #[]))
      (prover_key_permutation_s_sigma_2_1 := arrF (sigE8.getD 1 #[]))
      (prover_key_permutation_s_sigma_3_1 := arrF (sigE8.getD 2 #[]))
      (prover_key_permutation_s_sigma_4_1 := arrF (sigE8.getD 3 #[]))
      (prover_key_v_h_coset_8n_evals := arrF vh)
    = (quotientEvals (sz qd) selE sigE8 linE (wrap8 (cf qd aP)) (wrap8 (cf qd bP)) (wrap8 (cf qd cP))
        (wrap8 (cf qd dP)) (wrap8 (cf qd zP)) (cf qd piP).toArray vh vhInv8
        (batchInversion (linE.toList.map fun e => fsub e 1)).toArray (fmul (szInv qd) 8)
        beta gamma alpha rSep lSep fSep vSep).map toF := by
  simp only [quotient_compute_quotient, quotient_gate, quotient_perm, quotientEvals, List.map_map]
  rw [wrap_loop4 _ _ _ _ (by simpa using hz) (by simpa using ha) (by simpa using hb) (by simpa using hd)]
  apply List.map_congr_left
  intro i hi
  rw [List.mem_range] at hi
  simp only [Function.comp]
  rw [getD_map_rangeF _ _ _ hi, getD_map_rangeF _ _ _ hi]
  simp only [getD_map_toF, arrF_getD, wrapF_getD, arr_getD, and7]
  have hci := wrap8_getD_lt (cf qd cP) i (lt_of_lt_of_le hi hc)
  simp only [first_lagrange_getD, hci, range_quotient_source, logic_quotient_source, fixed_quotient_source,
    var_quotient_source, arith_quotient_i, perm_quotient_i, perm_quotient_identity_i, perm_quotient_copy_i,
    perm_quotient_one_i, toF_fmul, toF_fadd, toF_fsub, toF_fneg, toF_fsq, toF_one, toF_arithVal, arithF, toF_zero,
    toF_ofNat 8, toF_rangeScalar_expanded, toF_logicScalar_expanded, toF_varScalar_expanded, rowEvals, add_zero]

/-- **call site, round 3**: the arguments of `quotient_poly::compute` in `prove_inner` (tuple `wires`, tuple `args`). -/
theorem call_site_quotient {Dom : Type} (cf : Dom → Poly → List Nat) (ci : Dom → List Nat → List Nat)
    (sz : Dom → Nat) (szInv : Dom → Nat)
    (qd : Dom) (zP aP bP cP dP piP : Poly) (selE sigE8 : Array (Array Nat)) (linE vh vhInv8 : Array Nat)
    (alpha beta gamma rSep lSep fSep vSep : Nat)
    (hz : 8 ≤ (cf qd zP).length) (ha : 8 ≤ (cf qd aP).length) (hb : 8 ≤ (cf qd bP).length)
    (hd : 8 ≤ (cf qd dP).length) (hc : sz qd ≤ (cf qd cP).length) :
    prover_t_poly (A := F) (Pol := Poly) (dom_coset_fft := fun d p => (cf d p).map toF) (dom_size := sz)
      (dom_size_inv := fun d => toF (szInv d))
      (dom_coset_ifft := fun d l => (ci d (l.map ZMod.val)).map toF)
      (poly_from_coefficients_vec := fun l => Poly.ofCoeffs (l.map ZMod.val)) (poly_len := List.length)
      (self_quotient_domain := qd)
      (z_poly := zP) (a_poly := aP) (b_poly := bP) (c_poly := cP) (d_poly := dP) (pi_poly := piP)
      (self_vanishing_coset_inverses := arrF vhInv8)
      (alpha := toF alpha) (beta := toF beta) (gamma := toF gamma)
      (range_sep_challenge := toF rSep) (logic_sep_challenge := toF lSep) (fixed_base_sep_challenge := toF fSep)
      (var_base_sep_challenge := toF vSep)
      (EDWARDS_D := dF) (K1 := toF Generated.K1) (K2 := toF Generated.K2) (K3 := toF Generated.K3)
      (self_prover_key_arithmetic_q_m_1 := arrF (selE.getD 0 #[]))
      (self_prover_key_arithmetic_q_l_1 := arrF (selE.getD 1 #[]))
      (self_prover_key_arithmetic_q_r_1 := arrF (selE.getD 2 #[]))
      (self_prover_key_arithmetic_q_o_1 := arrF (selE.getD 3 #[]))
      (self_prover_key_arithmetic_q_f_1 := arrF (selE.getD 4 #[]))
      (self_prover_key_arithmetic_q_c_1 := arrF (selE.getD 5 #[]))
      (self_prover_key_arithmetic_q_arith_1 := arrF (selE.getD 6 #[]))
      (self_prover_key_range_q_range_1 := arrF (selE.getD 7 #[]))
      (self_prover_key_logic_q_logic_1 := arrF (selE.getD 8 #[]))
      (self_prover_key_logic_q_c_1 := arrF (selE.getD 5 #[]))
      (self_prover_key_fixed_base_q_fixed_group_add_1 := arrF (selE.getD 9 #[]))
      (self_prover_key_fixed_base_q_c_1 := arrF (selE.getD 5 #[]))
      (self_prover_key_fixed_base_q_l_1 := arrF (selE.getD 1 #[]))
      (self_prover_key_fixed_base_q_r_1 := arrF (selE.getD 2 #[]))
      (self_prover_key_variable_base_q_variable_group_add_1 := arrF (selE.getD 10 #[]))
      (self_prover_key_permutation_linear_evaluations := arrF linE)
      (self_prover_key_permutation_linear_evaluations_evals := arrF linE)
      (self_prover_key_permutation_s_sigma_1_1 := arrF (sigE8.getD 0 #[]))
      (self_prover_key_permutation_s_sigma_2_1 := arrF (sigE8.getD 1 #[]))
      (self_prover_key_permutation_s_sigma_3_1 := arrF (sigE8.getD 2 #[]))
      (self_prover_key_permutation_s_sigma_4_1 := arrF (sigE8.getD 3 #[]))
      (self_prover_key_v_h_coset_8n_evals := arrF vh)
    = (let quot := quotientEvals (sz qd) selE sigE8 linE (wrap8 (cf qd aP)) (wrap8 (cf qd bP)) (wrap8 (cf qd cP))
        (wrap8 (cf qd dP)) (wrap8 (cf qd zP)) (cf qd piP).toArray vh vhInv8
        (batchInversion (linE.toList.map fun e => fsub e 1)).toArray (fmul (szInv qd) 8)
        beta gamma alpha rSep lSep fSep vSep
       let tPoly := Poly.ofCoeffs (ci qd (quot.map (· % R)))
       if tPoly.length > 7 * (sz qd / 8) then Except.error "Error::CircuitUnsatisfied" else Except.ok tPoly) := by
  simp only [prover_t_poly, quotient_compute]
  rw [quotient_numerator_is_the_source cf sz szInv qd zP aP bP cP dP piP selE sigE8 linE vh vhInv8 alpha beta gamma rSep
    lSep fSep vSep hz ha hb hd hc]
  simp only [map_val_map_toF, ofCoeffs_map_mod]

/-- **`quotient_poly::compute`, as `prove` calls it.** On the big domain `d8` (size `8n`), with the kernels
    `Domain.cosetFft` / `Domain.cosetIfft` and the arrays of the prover key, the translated function — coset evaluations,
    8 wrap-around pushes, numerator per index (`i`, `i + 8`, which widget gets which wires / selectors / challenge, `+ pi`,
    the L1 vector), `· vanishing_coset_inverses[i & 7]`, `coset_ifft`, `from_coefficients_vec`, `len() > 7 * (size / 8)` —
    is the text of round 3 of the model's `prove` (`quotientEvals`, `Poly.ofCoeffs ∘ cosetIfft`, `length > 7 * n`). -/
theorem quotient_of_prove_is_the_source (k : PKey) (m : Nat) (d d8 : Domain) (hd : Domain.new? m = some d)
    (hd8 : Domain.new? (8 * d.size) = some d8) (zP aP bP cP dP piP : Poly)
    (alpha beta gamma rSep lSep fSep vSep : Nat) :
    quotient_compute (A := F) (Pol := Poly) (dom_coset_fft := fun (d : Domain) p => (d.cosetFft p).map toF)
      (dom_size := Domain.size) (dom_size_inv := fun d => toF d.sizeInv)
      (dom_coset_ifft := fun d l => (d.cosetIfft (l.map ZMod.val)).map toF)
      (poly_from_coefficients_vec := fun l => Poly.ofCoeffs (l.map ZMod.val)) (poly_len := List.length)
      (quotient_domain := d8)
      (z_poly := zP) (a_poly := aP) (b_poly := bP) (c_poly := cP) (d_poly := dP) (public_inputs_poly := piP)
      (vanishing_coset_inverses := arrF (batchInversion (k.vh.toList.take 8)).toArray)
      (alpha := toF alpha) (beta := toF beta) (gamma := toF gamma)
      (range_challenge := toF rSep) (logic_challenge := toF lSep) (fixed_base_challenge := toF fSep)
      (var_base_challenge := toF vSep)
      (EDWARDS_D := dF) (K1 := toF Generated.K1) (K2 := toF Generated.K2) (K3 := toF Generated.K3)
      (prover_key_arithmetic_q_m_1 := arrF (k.selE.getD 0 #[])) (prover_key_arithmetic_q_l_1 := arrF (k.selE.getD 1 #[]))
      (prover_key_arithmetic_q_r_1 := arrF (k.selE.getD 2 #[])) (prover_key_arithmetic_q_o_1 := arrF (k.selE.getD 3 #[]))
      (prover_key_arithmetic_q_f_1 := arrF (k.selE.getD 4 #[])) (prover_key_arithmetic_q_c_1 := arrF (k.selE.getD 5 #[]))
      (prover_key_arithmetic_q_arith_1 := arrF (k.selE.getD 6 #[]))
      (prover_key_range_q_range_1 := arrF (k.selE.getD 7 #[]))
      (prover_key_logic_q_logic_1 := arrF (k.selE.getD 8 #[])) (prover_key_logic_q_c_1 := arrF (k.selE.getD 5 #[]))
      (prover_key_fixed_base_q_fixed_group_add_1 := arrF (k.selE.getD 9 #[]))
      (prover_key_fixed_base_q_c_1 := arrF (k.selE.getD 5 #[])) (prover_key_fixed_base_q_l_1 := arrF (k.selE.getD 1 #[]))
      (prover_key_fixed_base_q_r_1 := arrF (k.selE.getD 2 #[]))
      (prover_key_variable_base_q_variable_group_add_1 := arrF (k.selE.getD 10 #[]))
      (prover_key_permutation_linear_evaluations := arrF k.linE)
      (prover_key_permutation_linear_evaluations_evals := arrF k.linE)
      (prover_key_permutation_s_sigma_1_1 := arrF (k.sigE8.getD 0 #[]))
      (prover_key_permutation_s_sigma_2_1 := arrF (k.sigE8.getD 1 #[]))
      (prover_key_permutation_s_sigma_3_1 := arrF (k.sigE8.getD 2 #[]))
      (prover_key_permutation_s_sigma_4_1 := arrF (k.sigE8.getD 3 #[]))
      (prover_key_v_h_coset_8n_evals := arrF k.vh)
    = (let quot := quotientEvals d8.size k.selE k.sigE8 k.linE (cosetEvals d8 aP) (cosetEvals d8 bP) (cosetEvals d8 cP)
        (cosetEvals d8 dP) (cosetEvals d8 zP) (d8.cosetFft piP).toArray k.vh
        (batchInversion (k.vh.toList.take 8)).toArray
        (batchInversion (k.linE.toList.map fun e => fsub e 1)).toArray (fmul d8.sizeInv 8)
        beta gamma alpha rSep lSep fSep vSep
       let tPoly := Poly.ofCoeffs (d8.cosetIfft quot)
       if tPoly.length > 7 * d.size then Except.error "Error::CircuitUnsatisfied" else Except.ok tPoly) := by
  have h8 : d8.WF := Domain.new?_WF _ d8 hd8
  have hsz : d8.size = 8 * d.size := (gen8_pow_eight m d d8 hd hd8).1
  have hpos : 0 < d.size := (Domain.new?_WF _ d hd).size_pos
  have hlen : ∀ p : Poly, (d8.cosetFft p).length = d8.size := fun p => Domain.cosetFft_length h8 (le_refl 1) p
  have hdiv : 7 * (d8.size / 8) = 7 * d.size := by rw [hsz, Nat.mul_div_cancel_left _ (by omega : 0 < 8)]
  have h := call_site_quotient (fun (d : Domain) p => d.cosetFft p) (fun d l => d.cosetIfft l) Domain.size
    Domain.sizeInv d8 zP aP bP cP dP piP k.selE k.sigE8 k.linE k.vh (batchInversion (k.vh.toList.take 8)).toArray
    alpha beta gamma rSep lSep fSep vSep
    (by rw [hlen, hsz]; omega) (by rw [hlen, hsz]; omega) (by rw [hlen, hsz]; omega) (by rw [hlen, hsz]; omega)
    (by rw [hlen])
  simp only [prover_t_poly] at h
  rw [h]
  simp only [hdiv, wrap8, cosetEvals, cosetIfft_map_mod]
  rfl

/-- **`compute_permutation_vec`** is the model's `permVec` (including where it panics / returns `none`). -/
theorem accumulator_is_the_source {Dom : Type} (sz : Dom → Nat) (els : Dom → List Nat) (dom : Dom)
    (aS bS cS dS : List Nat) (sigE : List (List Nat)) (beta gamma : Nat)
    (hr : (els dom).length = sz dom) (ha : aS.length = sz dom) :
    compute_permutation_vec (A := F) (dom_size := sz) (dom_elements := fun d => (els d).map toF) (domain := dom)
      (wires := [aS.map toF, bS.map toF, cS.map toF, dS.map toF]) (beta := toF beta) (gamma := toF gamma)
      (sigma_evaluations := sigE.map (List.map toF))
      (K1 := toF Generated.K1) (K2 := toF Generated.K2) (K3 := toF Generated.K3)
    = (permVec (sz dom) (els dom) aS bS cS dS sigE beta gamma).map (List.map toF) :=
  compute_permutation_vec_source sz els dom aS bS cS dS sigE beta gamma hr ha

/-- **`linearization_poly::compute`** (with `compute_circuit_satisfiability` and the permutation widget's
    `compute_linearization`) is round 5 of the model's `prove`, as polynomials over `F`: widget terms with their selector
    polynomials and separation challenges, `+ PI(z)`, the three permutation terms, `(t_low + zⁿ t_mid + z²ⁿ t_high +
    z³ⁿ t_fourth)·(−Z_H(z))`. The untranslated kernels are quantified; each hypothesis says that the kernel returns the
    model's value on the arguments the SOURCE passes to it. -/
theorem linearisation_is_the_source {Dom : Type} (k : PKey) (d : Domain) (ev : Evals) (zP tLowP tMidP tHighP tFourthP : Poly)
    (pis : List Nat) (beta gamma alpha rSep lSep fSep vSep zc : Nat)
    (bary : List F[X] → F[X] → Dom → F[X]) (deg : F[X] → Nat) (dnew : Nat → Dom) (lag : Dom → F[X] → List F[X])
    (dsz : Dom → Nat) (van : Dom → F[X] → F[X]) (dom : Dom)
    (hsz : dsz dom = d.size)
    (hbary : bary (pis.map fun x => C (toF x)) (C (toF zc)) dom = C (toF (d.barycentric pis zc)))
    (hlag : (lag (dnew (deg (toPoly zP) - 2)) (C (toF zc))).getD 0 0
              = C (toF ((((Domain.new? (Poly.degree zP - 2)).getD d).lagrangeCoeffs zc).headD 0)))
    (hvan : van dom (C (toF zc)) = C (toF (d.evaluateVanishing zc)))
    (hn : 3 * d.size < 2 ^ 256) :
    lin_compute (A := F[X]) (compute_barycentric_eval := bary) (poly_degree := deg) (dom_new := dnew)
      (dom_evaluate_all_lagrange_coefficients := lag) (dom_size := dsz) (dom_evaluate_vanishing_polynomial := van)
      (z_poly := toPoly zP) (domain := dom) (t_low_poly := toPoly tLowP) (t_mid_poly := toPoly tMidP)
      (t_high_poly := toPoly tHighP) (t_fourth_poly := toPoly tFourthP) (pub_inputs := pis.map fun x => C (toF x))
      (EDWARDS_D := C dF) (K1 := C (toF Generated.K1)) (K2 := C (toF Generated.K2)) (K3 := C (toF Generated.K3))
      (challenges_alpha := C (toF alpha)) (challenges_beta := C (toF beta)) (challenges_gamma := C (toF gamma))
      (challenges_range_separation := C (toF rSep)) (challenges_logic_separation := C (toF lSep))
      (challenges_fixed_base_separation := C (toF fSep)) (challenges_variable_base_separation := C (toF vSep))
      (challenges_z := C (toF zc))
      (evaluations_a_eval := C (toF ev.a)) (evaluations_b_eval := C (toF ev.b)) (evaluations_c_eval := C (toF ev.c))
      (evaluations_d_eval := C (toF ev.d)) (evaluations_a_w_eval := C (toF ev.aw)) (evaluations_b_w_eval := C (toF ev.bw))
      (evaluations_d_w_eval := C (toF ev.dw)) (evaluations_q_arith_eval := C (toF ev.qarith))
      (evaluations_q_c_eval := C (toF ev.qc)) (evaluations_q_l_eval := C (toF ev.ql)) (evaluations_q_r_eval := C (toF ev.qr))
      (evaluations_s_sigma_1_eval := C (toF ev.s1)) (evaluations_s_sigma_2_eval := C (toF ev.s2))
      (evaluations_s_sigma_3_eval := C (toF ev.s3)) (evaluations_z_eval := C (toF ev.z))
      (prover_key_arithmetic_q_m_0 := toPoly (k.sel.getD 0 [])) (prover_key_arithmetic_q_l_0 := toPoly (k.sel.getD 1 []))
      (prover_key_arithmetic_q_r_0 := toPoly (k.sel.getD 2 [])) (prover_key_arithmetic_q_o_0 := toPoly (k.sel.getD 3 []))
      (prover_key_arithmetic_q_f_0 := toPoly (k.sel.getD 4 [])) (prover_key_arithmetic_q_c_0 := toPoly (k.sel.getD 5 []))
      (prover_key_range_q_range_0 := toPoly (k.sel.getD 7 [])) (prover_key_logic_q_logic_0 := toPoly (k.sel.getD 8 []))
      (prover_key_fixed_base_q_fixed_group_add_0 := toPoly (k.sel.getD 9 []))
      (prover_key_variable_base_q_variable_group_add_0 := toPoly (k.sel.getD 10 []))
      (prover_key_permutation_s_sigma_4_0 := toPoly (k.sigma.getD 3 []))
    = toPoly (linPolyModel k d ev zP tLowP tMidP tHighP tFourthP pis beta gamma alpha rSep lSep fSep vSep zc) := by
  simp only [lin_compute, lin_gate, perm_linearization, perm_linearizer_one, hsz, hbary, hlag, hvan]
  rw [range_linearization_poly, logic_linearization_poly, fixed_linearization_poly, var_linearization_poly]
  simp only [linPolyModel, toPoly_add, toPoly_addAssign, toPoly_scale_right, toPoly_addConst, arith_linearization,
    perm_linearizer_identity, perm_linearizer_copy, toF_fmul, toF_fadd, toF_fneg, toF_fsq,
    toF_fpow _ _ (by omega : d.size < 2 ^ 256), toF_fpow _ _ (by omega : 2 * d.size < 2 ^ 256), toF_fpow _ _ hn,
    C_mul, C_add, C_neg, C_pow]

/-- **round 4 of `prove_inner`**: which polynomial is evaluated at `z` and which at `z·ω`, field by field. -/
theorem evaluations_are_the_source (k : PKey) (d : Domain) (aP bP cP dP zP : Poly) (zc : Nat) :
    prover_evaluations (A := F) (Pol := Poly) (Dom := Domain) (poly_evaluate := fun p z => (toPoly p).eval z)
      (dom_group_gen := fun d => toF d.groupGen) (a_poly := aP) (b_poly := bP) (c_poly := cP) (d_poly := dP) (domain := d)
      (self_prover_key_arithmetic_q_arith_0 := k.sel.getD 6 []) (self_prover_key_arithmetic_q_c_0 := k.sel.getD 5 [])
      (self_prover_key_arithmetic_q_l_0 := k.sel.getD 1 []) (self_prover_key_arithmetic_q_r_0 := k.sel.getD 2 [])
      (self_prover_key_permutation_s_sigma_1_0 := k.sigma.getD 0 [])
      (self_prover_key_permutation_s_sigma_2_0 := k.sigma.getD 1 [])
      (self_prover_key_permutation_s_sigma_3_0 := k.sigma.getD 2 []) (z_challenge := toF zc) (z_poly := zP)
    = ["a_eval", "b_eval", "c_eval", "d_eval", "a_w_eval", "b_w_eval", "d_w_eval", "q_arith_eval", "q_c_eval", "q_l_eval",
       "q_r_eval", "s_sigma_1_eval", "s_sigma_2_eval", "s_sigma_3_eval", "z_eval"].map
        (fun l => (l, toF ((evalsModel k d aP bP cP dP zP zc).byLabel l))) := by
  -- the values are folded back to model values; `rfl` then looks up the fifteen labels
  simp only [prover_evaluations, ← evaluate_spec, ← toF_fmul]
  rfl

/-- **call site, round 2**: `compute_permutation_vec(&domain, [a, b, c, d], β, γ, sigma_evaluations[0..3])`. -/
theorem call_site_accumulator {Dom : Type} (sz : Dom → Nat) (els : Dom → List Nat) (dom : Dom)
    (aS bS cS dS s0 s1 s2 s3 : List Nat) (beta gamma : Nat)
    (hr : (els dom).length = sz dom) (ha : aS.length = sz dom) :
    prover_permutation (A := F) (dom_size := sz) (dom_elements := fun d => (els d).map toF) (domain := dom)
      (K1 := toF Generated.K1) (K2 := toF Generated.K2) (K3 := toF Generated.K3)
      (a_scalars := aS.map toF) (b_scalars := bS.map toF) (c_scalars := cS.map toF) (d_scalars := dS.map toF)
      (beta := toF beta) (gamma := toF gamma)
      (self_sigma_evaluations := [s0.map toF, s1.map toF, s2.map toF, s3.map toF])
    = (permVec (sz dom) (els dom) aS bS cS dS [s0, s1, s2, s3] beta gamma).map (List.map toF) := by
  have h := accumulator_is_the_source sz els dom aS bS cS dS [s0, s1, s2, s3] beta gamma hr ha
  simp only [List.map_cons, List.map_nil] at h
  simp only [prover_permutation, List.getD_cons_zero, List.getD_cons_succ]
  exact h

/-- **call site, rounds 4–5**: the `ProofEvaluations` and `LinearizationChallenges` literals and the arguments of
    `linearization_poly::compute` in `prove_inner`. -/
theorem call_site_linearisation {Dom : Type} (k : PKey) (d : Domain) (aP bP cP dP zP tLowP tMidP tHighP tFourthP : Poly)
    (pis : List Nat) (beta gamma alpha rSep lSep fSep vSep zc : Nat)
    (bary : List F[X] → F[X] → Dom → F[X]) (deg : F[X] → Nat) (dnew : Nat → Dom) (lag : Dom → F[X] → List F[X])
    (dsz : Dom → Nat) (van : Dom → F[X] → F[X]) (dom : Dom)
    (hsz : dsz dom = d.size)
    (hbary : bary (pis.map fun x => C (toF x)) (C (toF zc)) dom = C (toF (d.barycentric pis zc)))
    (hlag : (lag (dnew (deg (toPoly zP) - 2)) (C (toF zc))).getD 0 0
              = C (toF ((((Domain.new? (Poly.degree zP - 2)).getD d).lagrangeCoeffs zc).headD 0)))
    (hvan : van dom (C (toF zc)) = C (toF (d.evaluateVanishing zc)))
    (hn : 3 * d.size < 2 ^ 256) :
    prover_r_poly (A := F[X]) (poly_evaluate := fun p z => C (p.eval (z.coeff 0)))
      (dom_group_gen := fun _ => C (toF d.groupGen))
      (compute_barycentric_eval := bary) (poly_degree := deg) (dom_new := dnew)
      (dom_evaluate_all_lagrange_coefficients := lag) (dom_size := dsz) (dom_evaluate_vanishing_polynomial := van)
      (EDWARDS_D := C dF) (K1 := C (toF Generated.K1)) (K2 := C (toF Generated.K2)) (K3 := C (toF Generated.K3))
      (a_poly := toPoly aP) (b_poly := toPoly bP) (c_poly := toPoly cP) (d_poly := toPoly dP) (z_poly := toPoly zP)
      (alpha := C (toF alpha)) (beta := C (toF beta)) (gamma := C (toF gamma))
      (range_sep_challenge := C (toF rSep)) (logic_sep_challenge := C (toF lSep))
      (fixed_base_sep_challenge := C (toF fSep)) (var_base_sep_challenge := C (toF vSep))
      (z_challenge := C (toF zc)) (domain := dom) (public_inputs := pis.map fun x => C (toF x))
      (self_prover_key_arithmetic_q_m_0 := toPoly (k.sel.getD 0 []))
      (self_prover_key_arithmetic_q_l_0 := toPoly (k.sel.getD 1 []))
      (self_prover_key_arithmetic_q_r_0 := toPoly (k.sel.getD 2 []))
      (self_prover_key_arithmetic_q_o_0 := toPoly (k.sel.getD 3 []))
      (self_prover_key_arithmetic_q_f_0 := toPoly (k.sel.getD 4 []))
      (self_prover_key_arithmetic_q_c_0 := toPoly (k.sel.getD 5 []))
      (self_prover_key_arithmetic_q_arith_0 := toPoly (k.sel.getD 6 []))
      (self_prover_key_range_q_range_0 := toPoly (k.sel.getD 7 []))
      (self_prover_key_logic_q_logic_0 := toPoly (k.sel.getD 8 []))
      (self_prover_key_fixed_base_q_fixed_group_add_0 := toPoly (k.sel.getD 9 []))
      (self_prover_key_variable_base_q_variable_group_add_0 := toPoly (k.sel.getD 10 []))
      (self_prover_key_permutation_s_sigma_1_0 := toPoly (k.sigma.getD 0 []))
      (self_prover_key_permutation_s_sigma_2_0 := toPoly (k.sigma.getD 1 []))
      (self_prover_key_permutation_s_sigma_3_0 := toPoly (k.sigma.getD 2 []))
      (self_prover_key_permutation_s_sigma_4_0 := toPoly (k.sigma.getD 3 []))
      (t_low_poly := toPoly tLowP) (t_mid_poly := toPoly tMidP) (t_high_poly := toPoly tHighP)
      (t_fourth_poly := toPoly tFourthP)
    = toPoly (linPolyModel k d (evalsModel k d aP bP cP dP zP zc) zP tLowP tMidP tHighP tFourthP pis beta gamma alpha
        rSep lSep fSep vSep zc) := by
  have h := linearisation_is_the_source k d (evalsModel k d aP bP cP dP zP zc) zP tLowP tMidP tHighP tFourthP pis beta gamma
    alpha rSep lSep fSep vSep zc bary deg dnew lag dsz van dom hsz hbary hlag hvan hn
  simp only [evalsModel, evaluate_spec, toF_fmul] at h
  simp only [prover_r_poly, ← C_mul, coeff_C_zero]
  exact h

/-- non-vacuity of the kernel hypotheses of `linearisation_is_the_source`: constant kernels satisfy them -/
example (k : PKey) (d : Domain) (ev : Evals) (zP tLowP tMidP tHighP tFourthP : Poly) (pis : List Nat)
    (beta gamma alpha rSep lSep fSep vSep zc : Nat) (hn : 3 * d.size < 2 ^ 256) :
    ∃ r : F[X], r = toPoly (linPolyModel k d ev zP tLowP tMidP tHighP tFourthP pis beta gamma alpha rSep lSep fSep vSep zc) :=
  ⟨_, linearisation_is_the_source (Dom := Unit) k d ev zP tLowP tMidP tHighP tFourthP pis beta gamma alpha rSep lSep fSep
    vSep zc (fun _ _ _ => C (toF (d.barycentric pis zc))) (fun _ => 0) (fun _ => ())
    (fun _ _ => [C (toF ((((Domain.new? (Poly.degree zP - 2)).getD d).lagrangeCoeffs zc).headD 0))])
    (fun _ => d.size) (fun _ _ => C (toF (d.evaluateVanishing zc))) () rfl rfl rfl rfl hn⟩

/-- non-vacuity: the translated accumulator on a concrete two-row input (field `ℚ`; `K₁ K₂ K₃ = 2 3 4`, identity sigma on
    row 0 scaled by the same constants, so the first ratio is `1`) -/
example : compute_permutation_vec (A := ℚ) (Dom := Unit) (dom_size := fun _ => 2) (dom_elements := fun _ => [1, -1])
    (domain := ()) (wires := [[5, 6], [7, 8], [9, 10], [11, 12]]) (beta := 1) (gamma := 0)
    (sigma_evaluations := [[1, -1], [2, -2], [3, -3], [4, -4]]) (K1 := 2) (K2 := 3) (K3 := 4) = some [1, 1] := by
  decide +kernel

end Plonk.Props.ProverTie
