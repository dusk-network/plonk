/-
  C19 (polynomial half): the coefficient-list arithmetic of `src/fft/polynomial.rs`
  (model: `Plonk/Model/Poly.lean`) agrees with schoolbook arithmetic in `(ZMod R)[X]`.

  Interpretation: `toPoly p = Σ_i C (toF p[i]) * X^i` (Mathlib `Polynomial`, `F = ZMod R`).
  `Reduced p`: every coefficient `< R`;  `Trimmed p`: empty or last coefficient `≠ 0`.

  All refinement statements hold for *arbitrary* coefficient lists (trimmed or not, reduced or
  not), i.e. the `degree a ≥ degree b` branches with `zip` are harmless.

  Finding recorded here (statement not weakened, the exceptional case is excluded by an explicit
  hypothesis and exhibited by `addConst_untrimmed_witness`): `&p + &k` (`addConst`) does not
  truncate, so a constant polynomial `[c]` plus `k = −c` yields the untrimmed list `[0]`
  (which `is_zero()` still recognises as zero, and `degree()` reports as 0).

  Sections 5–6: `batch_inversion` and the closed-form evaluations of `src/fft/domain.rs` /
  `src/proof_system/linearization_poly.rs`.  A domain is assumed well formed (`DomainOK d`:
  `size > 0`, `group_gen` a primitive `size`-th root of unity, `size_inv = size⁻¹`,
  `group_gen_inv = group_gen⁻¹`); `new_domain_ok` proves this for every domain returned by
  `EvaluationDomain::new`.  `L_i(τ)` is `lagrangeF n ω τ i = (τ^n − 1)·ω^i / (n·(τ − ω^i))`.
  Forced side conditions (all benign, they restate that the model's `fpow` takes exponents
  `< 2^256`, while the Rust exponents are `u64`): `deg < 2^256` in `vanishingOverCoset_spec`,
  `evals.length ≤ 2^256` in `barycentric_spec`.
-/
import Plonk.Proofs.PolyBridge
import Plonk.Proofs.DomainSpec

namespace Plonk.Props.C19Poly
open Plonk Plonk.PolyC19 Polynomial

/-! ## 1. interpretation -/

/-- `toPoly p = Σ_i C (toF p[i]) · X^i` -/
theorem toPoly_sum (p : List Nat) :
    toPoly p = ∑ i ∈ Finset.range p.length, C (toF (p.getD i 0)) * X ^ i := toPoly_eq_sum p
example : toPoly [3, 0, 5] = C (toF 3) + X * (C (toF 0) + X * (C (toF 5) + X * 0)) := rfl

theorem toPoly_cons (x : Nat) (xs : List Nat) : toPoly (x :: xs) = C (toF x) + X * toPoly xs := rfl

theorem toPoly_coeff (p : List Nat) (i : Nat) : (toPoly p).coeff i = toF (p.getD i 0) :=
  coeff_toPoly p i

/-- `truncate_leading_zeros` does not change the polynomial and yields a trimmed list -/
theorem trim_spec (p : List Nat) : toPoly (Poly.trim p) = toPoly p ∧ Trimmed (Poly.trim p) :=
  ⟨toPoly_trim p, Poly.trimmed_trim p⟩
example : Poly.trim [1, 0, 2, 0, 0] = [1, 0, 2] := by decide

/-- `from_coefficients_vec`: same polynomial, canonical (reduced and trimmed) representation -/
theorem ofCoeffs_spec (p : List Nat) :
    toPoly (Poly.ofCoeffs p) = toPoly p ∧ Reduced (Poly.ofCoeffs p) ∧ Trimmed (Poly.ofCoeffs p) :=
  ⟨toPoly_ofCoeffs p, reduced_ofCoeffs p, trimmed_ofCoeffs p⟩
example : Poly.ofCoeffs [1, R + 2, R, 0] = [1, 2] := by decide +kernel

/-- `is_zero()` decides `toPoly p = 0` (reduced coefficients, as `BlsScalar`s always are) -/
theorem isZero_spec {p : List Nat} (hp : Reduced p) : toPoly p = 0 ↔ Poly.isZero p = true :=
  toPoly_eq_zero_iff hp
example : Reduced [0, 0, 4] := by intro x hx; simp at hx; rcases hx with rfl | rfl <;> decide +kernel

/-- `degree()` is the `natDegree` of the polynomial (and 0 for the zero polynomial) -/
theorem degree_spec {p : List Nat} (hp : Reduced p) : Poly.degree p = (toPoly p).natDegree :=
  degree_eq_natDegree hp
example : Poly.degree [1, 0, 2, 0, 0] = 2 := by decide

/-- reduced, trimmed lists are unique representatives of their polynomial -/
theorem canonical_unique {p q : List Nat} (hp : Reduced p) (hq : Reduced q)
    (tp : Trimmed p) (tq : Trimmed q) (h : toPoly p = toPoly q) : p = q :=
  toPoly_injective hp hq tp tq h
example : Reduced [1, 2] ∧ Trimmed [1, 2] :=
  ⟨by intro x hx; simp at hx; rcases hx with rfl | rfl <;> decide +kernel, by intro _; simp⟩

/-! ## 2. ring operations (for ALL lists) -/

/-- `&a + &b` -/
theorem add_spec (a b : List Nat) :
    toPoly (Poly.add a b) = toPoly a + toPoly b ∧ Trimmed (Poly.add a b) :=
  ⟨toPoly_add a b, trimmed_add a b⟩
-- untrimmed operand whose list is longer although its degree is smaller
example : Poly.add [1, 2, 3] [5, 0, 0, 0, 0] = [6, 2, 3] := by decide +kernel
example : Poly.add [1, 2] [5, R - 2] = [6] := by decide +kernel

/-- `a += &b` -/
theorem addAssign_spec (a b : List Nat) :
    toPoly (Poly.addAssign a b) = toPoly a + toPoly b ∧ Trimmed (Poly.addAssign a b) :=
  ⟨toPoly_addAssign a b, trimmed_addAssign a b⟩
example : Poly.addAssign [1] [5, 7, 0] = [6, 7] := by
  rw [Poly.addAssign]; simp only [Poly.zipLong]; decide +kernel

/-- `a += (f, &b)` -/
theorem addAssignScaled_spec (a : List Nat) (f : Nat) (b : List Nat) :
    toPoly (Poly.addAssignScaled a f b) = toPoly a + C (toF f) * toPoly b ∧
      Trimmed (Poly.addAssignScaled a f b) :=
  ⟨toPoly_addAssignScaled a f b, trimmed_addAssignScaled a f b⟩
example : Poly.addAssignScaled [1, 1] 3 [5, 7, 1] = [16, 22, 3] := by
  rw [Poly.addAssignScaled]; simp only [Poly.zipLong]; decide +kernel

/-- `&a - &b` -/
theorem sub_spec (a b : List Nat) :
    toPoly (Poly.sub a b) = toPoly a - toPoly b ∧ Trimmed (Poly.sub a b) :=
  ⟨toPoly_sub a b, trimmed_sub a b⟩
example : Poly.sub [7, 2, 3] [5, 2, 3, 0] = [2] := by decide +kernel

/-- `a -= &b` -/
theorem subAssign_spec (a b : List Nat) :
    toPoly (Poly.subAssign a b) = toPoly a - toPoly b ∧ Trimmed (Poly.subAssign a b) :=
  ⟨toPoly_subAssign a b, trimmed_subAssign a b⟩
example : Poly.subAssign [0, 0] [5, 2] = [R - 5, R - 2] := by
  rw [Poly.subAssign]; simp only [List.take, List.length, Poly.zipLong]; decide +kernel

/-- `&p * &k` (scalar) -/
theorem scale_spec (p : List Nat) (k : Nat) :
    toPoly (Poly.scale p k) = C (toF k) * toPoly p ∧ Reduced (Poly.scale p k) ∧
      Trimmed (Poly.scale p k) :=
  ⟨toPoly_scale p k, reduced_scale p k, trimmed_scale p k⟩
example : Poly.scale [1, 2, 0] 3 = [3, 6] := by decide +kernel

/-- `&p + &k` (constant); trimmed unless a constant polynomial is cancelled exactly -/
theorem addConst_spec (p : List Nat) (k : Nat) :
    toPoly (Poly.addConst p k) = toPoly p + C (toF k) ∧
      (Trimmed p → (2 ≤ p.length ∨ toPoly p + C (toF k) ≠ 0) → Trimmed (Poly.addConst p k)) :=
  ⟨toPoly_addConst p k, fun hp h => trimmed_addConst hp k h⟩
example : Poly.addConst [1, 2] 3 = [4, 2] := by decide +kernel
/-- the excluded case is real: `[5] + (−5)` is the untrimmed list `[0]` -/
theorem addConst_untrimmed_witness : Poly.addConst [5] (R - 5) = [0] ∧ ¬ Trimmed [0] :=
  ⟨by decide +kernel, fun h => h (by simp) (by simp)⟩

/-- `&p - &k` (constant) -/
theorem subConst_spec (p : List Nat) (k : Nat) :
    toPoly (Poly.subConst p k) = toPoly p - C (toF k) := toPoly_subConst p k
example : Poly.subConst [4, 2] 3 = [1, 2] := by decide +kernel

/-- the schoolbook product is the product -/
theorem mulSchool_spec (a b : List Nat) :
    toPoly (Poly.mulSchool a b) = toPoly a * toPoly b ∧ Reduced (Poly.mulSchool a b) :=
  ⟨toPoly_mulSchool a b, reduced_mulSchool a b⟩
example : Poly.mulSchool [1, 1] [1, 1] = [1, 2, 1] := by
  simp only [Poly.mulSchool, List.map, Poly.zipLong]; decide +kernel

/-- reduced inputs give reduced outputs -/
theorem reduced_closed {a b : List Nat} (ha : Reduced a) (hb : Reduced b) (f k : Nat) :
    Reduced (Poly.add a b) ∧ Reduced (Poly.addAssign a b) ∧ Reduced (Poly.addAssignScaled a f b) ∧
    Reduced (Poly.sub a b) ∧ Reduced (Poly.subAssign a b) ∧ Reduced (Poly.addConst a k) :=
  ⟨reduced_add ha hb, reduced_addAssign ha hb, reduced_addAssignScaled ha f b, reduced_sub ha b,
   reduced_subAssign ha b, reduced_addConst ha k⟩
example : Reduced ([] : List Nat) := reduced_nil

/-! ## 3. evaluation -/

theorem evaluate_spec (p : List Nat) (z : Nat) :
    toF (Poly.evaluate p z) = (toPoly p).eval (toF z) ∧ Poly.evaluate p z < R :=
  ⟨Plonk.evaluate_spec p z, evaluate_lt p z⟩
example : Poly.evaluate [1, 2, 3] 2 = 17 := by decide +kernel

/-! ## 4. division by a linear factor -/

/-- `ruffini(z)` is the quotient of the division by `X − z`; the dropped remainder is `p(z)` -/
theorem ruffini_spec (p : List Nat) (z : Nat) :
    toPoly p = toPoly (Poly.ruffini p z) * (X - C (toF z)) + C ((toPoly p).eval (toF z)) ∧
    toPoly (Poly.ruffini p z) = toPoly p /ₘ (X - C (toF z)) ∧
    Reduced (Poly.ruffini p z) ∧ Trimmed (Poly.ruffini p z) :=
  ⟨Plonk.ruffini_spec p z, ruffini_eq_divByMonic p z, reduced_ruffini p z, trimmed_ruffini p z⟩
-- (X² − 1) / (X − 1) = X + 1
example : Poly.ruffini [R - 1, 0, 1] 1 = [1, 1] := by decide +kernel

/-- exact division at a root -/
theorem ruffini_root (p : List Nat) (z : Nat) (h : (toPoly p).eval (toF z) = 0) :
    toPoly p = toPoly (Poly.ruffini p z) * (X - C (toF z)) := ruffini_of_root p z h
example : (toPoly [R - 1, 0, 1]).eval (toF 1) = 0 := by
  rw [← Plonk.evaluate_spec]
  have : Poly.evaluate [R - 1, 0, 1] 1 = 0 := by decide +kernel
  rw [this]; simp


/-! ## 5. batch inversion -/

/-- `batch_inversion`: length preserved; every entry is replaced by its inverse, zero entries
    (mod `R`) become / stay `0`; all outputs are reduced -/
theorem batchInversion_spec (v : List Nat) :
    (batchInversion v).length = v.length ∧
    ∀ i (h : i < v.length), ∃ h' : i < (batchInversion v).length,
      toF (batchInversion v)[i] = (toF v[i])⁻¹ ∧ (batchInversion v)[i] < R ∧
      (v[i] % R = 0 → (batchInversion v)[i] = 0) ∧
      (v[i] % R ≠ 0 → toF v[i] * toF (batchInversion v)[i] = 1) :=
  ⟨batchInversion_length v, batchInversion_entry v⟩
example : batchInversion [2, 0, R, 1] = [(R + 1) / 2, 0, 0, 1] := by decide +kernel

/-! ## 6. closed forms on a domain -/

/-- every domain returned by `EvaluationDomain::new` is well formed -/
theorem new_domain_ok (k : Nat) (d : Domain) (h : Domain.new? k = some d) : DomainOK d :=
  domainOK_of_new? k d h
example : ∃ d : Domain, Domain.new? 4 = some d ∧ d.size = 4 ∧ DomainOK d := exists_domainOK_four

/-- `ROOT_OF_UNITY` is a primitive `2^32`-th root of unity -/
theorem root_of_unity_primitive : IsPrimitiveRoot (toF ROOT_OF_UNITY) (2 ^ 32) :=
  Plonk.root_of_unity_primitive

/-- `elements()` = `[ω^0, …, ω^(n−1)]` (canonical representatives) -/
theorem elements_spec (d : Domain) :
    d.elements = (List.range d.size).map (fun i => (toF d.groupGen ^ i).val) ∧
    d.elements.map toF = (List.range d.size).map (fun i => toF d.groupGen ^ i) :=
  ⟨elements_eq d, elements_map_toF d⟩
example : ∃ d : Domain, Domain.new? 4 = some d ∧ d.elements.length = 4 := by
  obtain ⟨d, hd, hs, _⟩ := exists_domainOK_four
  exact ⟨d, hd, by rw [elements_length, hs]⟩

/-- `evaluate_vanishing_polynomial(τ) = τ^n − 1 = ∏_{i<n} (τ − ω^i)` -/
theorem vanishing_spec {d : Domain} (ok : DomainOK d) (tau : Nat) :
    toF (d.evaluateVanishing tau) = toF tau ^ d.size - 1 ∧
    toF tau ^ d.size - 1 = ∏ i ∈ Finset.range d.size, (toF tau - toF d.groupGen ^ i) :=
  ⟨toF_evaluateVanishing ok.size_lt tau, vanishing_eq_prod ok.size_pos ok.prim _⟩
example : ∃ d : Domain, DomainOK d := let ⟨d, _, _, ok⟩ := exists_domainOK_four; ⟨d, ok⟩

/-- membership in the domain: `τ^n = 1 ↔ τ = ω^i` for some `i < n` -/
theorem mem_domain_iff {d : Domain} (ok : DomainOK d) (tau : Nat) :
    toF tau ^ d.size = 1 ↔ ∃ i < d.size, toF tau = toF d.groupGen ^ i :=
  pow_eq_one_iff_mem ok.size_pos ok.prim _

/-- `evaluate_all_lagrange_coefficients(τ)`, `τ` outside the domain: entry `i` is `L_i(τ)`;
    `L_i(τ)` is the value at `τ` of the Lagrange basis polynomial `∏_{j≠i} (X − ω^j)/(ω^i − ω^j)`
    (degree `< n`, `1` at `ω^i`, `0` at the other `ω^j`), hence `Σ_i L_i(τ)·f(ω^i) = f(τ)` for every
    `f` of degree `< n` -/
theorem lagrangeCoeffs_spec_outside {d : Domain} (ok : DomainOK d) (tau : Nat)
    (h : toF tau ^ d.size ≠ 1) :
    d.lagrangeCoeffs tau =
      (List.range d.size).map (fun i => (lagrangeF d.size (toF d.groupGen) (toF tau) i).val) ∧
    (∀ i < d.size, lagrangeF d.size (toF d.groupGen) (toF tau) i =
      eval (toF tau) (Lagrange.basis (Finset.range d.size) (fun i : ℕ => toF d.groupGen ^ i) i)) ∧
    (∀ f : F[X], f.degree < d.size →
      ∑ i ∈ Finset.range d.size,
        lagrangeF d.size (toF d.groupGen) (toF tau) i * f.eval (toF d.groupGen ^ i) = f.eval (toF tau)) :=
  ⟨lagrangeCoeffs_outside ok tau h,
   fun _ hi => lagrangeF_eq_basis ok.size_pos ok.prim h hi,
   fun f hf => sum_lagrangeF_mul_eval ok.size_pos ok.prim h f hf⟩
example : ∃ d : Domain, DomainOK d ∧ toF 2 ^ d.size ≠ 1 := by
  obtain ⟨d, _, hs, ok⟩ := exists_domainOK_four
  exact ⟨d, ok, by rw [hs]; exact two_pow_four_ne_one⟩

/-- `τ = ω^k` in the domain: the indicator vector of `k` -/
theorem lagrangeCoeffs_spec_inside {d : Domain} (ok : DomainOK d) (tau k : Nat) (hk : k < d.size)
    (h : toF tau = toF d.groupGen ^ k) :
    d.lagrangeCoeffs tau = (List.range d.size).map (fun i => if i = k then 1 else 0) :=
  lagrangeCoeffs_inside ok tau k hk h
example : ∃ d : Domain, DomainOK d ∧ 2 < d.size ∧
    toF (toF d.groupGen ^ 2).val = toF d.groupGen ^ 2 := by
  obtain ⟨d, _, hs, ok⟩ := exists_domainOK_four
  exact ⟨d, ok, by omega, toF_val _⟩

/-- `compute_barycentric_eval`: `Σ_i evals[i]·L_i(point)`; outside the domain and with one
    evaluation per element this is the value of the interpolation polynomial at `point` -/
theorem barycentric_spec {d : Domain} (ok : DomainOK d) (evals : List Nat) (point : Nat)
    (hlen : evals.length ≤ 2 ^ 256) :
    toF (d.barycentric evals point) =
      ∑ i ∈ Finset.range evals.length,
        toF (evals.getD i 0) * lagrangeF d.size (toF d.groupGen) (toF point) i ∧
    (evals.length = d.size → toF point ^ d.size ≠ 1 →
      toF (d.barycentric evals point) =
        eval (toF point) (Lagrange.interpolate (Finset.range d.size)
          (fun i : ℕ => toF d.groupGen ^ i) (fun i => toF (evals.getD i 0)))) :=
  ⟨barycentric_eq ok evals point hlen, fun h1 h2 => barycentric_eq_interpolate ok evals point h1 h2⟩
example : ∃ d : Domain, DomainOK d ∧ [5, 0, 7, 1].length = d.size ∧ toF 2 ^ d.size ≠ 1 := by
  obtain ⟨d, _, hs, ok⟩ := exists_domainOK_four
  exact ⟨d, ok, by rw [hs]; rfl, by rw [hs]; exact two_pow_four_ne_one⟩

/-- `compute_lagrange_and_barycentric_evaluations` fails exactly when a denominator vanishes -/
theorem lagrangeAndPi_none_spec {d : Domain} (ok : DomainOK d) (roots evals : List Nat)
    (point : Nat) :
    d.lagrangeAndPi roots evals point = none ↔
      toF point = 1 ∨ ∃ re ∈ roots.zip evals, toF re.2 ≠ 0 ∧ toF re.1 * toF point = 1 :=
  lagrangeAndPi_eq_none_iff ok roots evals point

/-- … and otherwise returns `(L_0(point), Σ_j evals[j]·(Z_H(point)/n)/(root_j·point − 1))`;
    a term with `root_j = ω^(−i)` is `evals[j]·L_i(point)` -/
theorem lagrangeAndPi_some_spec {d : Domain} (ok : DomainOK d) (roots evals : List Nat)
    (point l1 pi : Nat) (h : d.lagrangeAndPi roots evals point = some (l1, pi)) :
    (toF l1 = lagrangeF d.size (toF d.groupGen) (toF point) 0 ∧
     toF pi = ((roots.zip evals).map (fun re : Nat × Nat =>
       toF re.2 * ((toF point ^ d.size - 1) * ((d.size : F))⁻¹ *
         (toF re.1 * toF point - 1)⁻¹))).sum ∧
     l1 < R ∧ pi < R) ∧
    (∀ (e : F) (i : Nat),
      e * ((toF point ^ d.size - 1) * ((d.size : F))⁻¹ *
          ((toF d.groupGen)⁻¹ ^ i * toF point - 1)⁻¹) =
        e * lagrangeF d.size (toF d.groupGen) (toF point) i) :=
  ⟨lagrangeAndPi_some ok roots evals point l1 pi h, fun e i => congrArg (e * ·) (lagrangeF_eq_inv_form ok.size_pos ok.prim _ i)⟩
example : ∃ d : Domain, DomainOK d ∧ (d.lagrangeAndPi [1] [3] 2).isSome = true := by
  obtain ⟨d, _, hs, ok⟩ := exists_domainOK_four
  refine ⟨d, ok, ?_⟩
  rw [Option.isSome_iff_ne_none, Ne, lagrangeAndPi_eq_none_iff ok]
  have h21 : toF 2 ≠ 1 := by
    rw [← toF_one, Ne, toF_inj_of_lt (by decide +kernel) R_gt_one]; decide
  rintro (h | ⟨re, hre, _, h1⟩)
  · exact h21 h
  · simp only [List.zip_cons_cons, List.zip_nil_right, List.mem_singleton] at hre
    subst hre
    rw [toF_one, one_mul] at h1
    exact h21 h1

/-- `vanishing_poly_over_coset(deg)`: entry `i` is `(g·ω^i)^deg − 1` with `g = 7` -/
theorem vanishingOverCoset_spec (d : Domain) (deg : Nat) (hdeg : deg < 2 ^ 256) :
    d.vanishingOverCoset deg =
      (List.range d.size).map (fun i => (((7 : F) * toF d.groupGen ^ i) ^ deg - 1).val) :=
  vanishingOverCoset_eq d deg hdeg
example : (8 : Nat) < 2 ^ 256 := by norm_num

/-- `matches_linear_over_coset` accepts exactly the evaluations of `X` on the coset -/
theorem matchesLinearOverCoset_spec (d : Domain) (ev : List Nat) :
    d.matchesLinearOverCoset ev = true ↔
      ev = (List.range d.size).map (fun i => ((7 : F) * toF d.groupGen ^ i).val) :=
  matchesLinearOverCoset_iff d ev

/-- `matches_vanishing_over_coset` accepts exactly `deg < n` and the evaluations of
    `X^deg − 1` on the coset -/
theorem matchesVanishingOverCoset_spec {d : Domain} (ok : DomainOK d) (deg : Nat) (ev : List Nat) :
    d.matchesVanishingOverCoset deg ev = true ↔
      deg < d.size ∧
      ev = (List.range d.size).map (fun i => (((7 : F) * toF d.groupGen ^ i) ^ deg - 1).val) :=
  matchesVanishingOverCoset_iff d deg ev ok.size_lt.le
example : ∃ d : Domain, DomainOK d ∧ 1 < d.size := by
  obtain ⟨d, _, hs, ok⟩ := exists_domainOK_four
  exact ⟨d, ok, by omega⟩

end Plonk.Props.C19Poly
