/-
  C19, FFT half — property-level theorems.

  "Forward and inverse FFTs, plain and over the coset, of any vector on a power-of-two domain equal
  direct evaluation and interpolation on that subgroup or coset, for every worker-thread count, and
  are mutually inverse."

  Everything below is proved at full strength about the model's own `Domain.fft / ifft / cosetFft /
  cosetIfft` (i.e. through `bestFft` with its three-way switch, the parallel butterfly with explicit
  `threads`, `serialFft`, `bitreversePermute`, `foldMod`, `resize`, `distributePowers`), for every
  domain returned by `Domain.new?` and every `threads ≥ 1`.  Nothing is missing; there is no
  `_partial` theorem.  The chain is
    `bestFft = serialFft` (thread independence, thresholds `Generated.PARALLEL_*` never unfolded)
    `serialFft = dft` (loop invariant over the stages) `= fftRec` (radix-2 recursion)
    `toF ∘ dft = dftN` (field-level DFT) = evaluation of the coefficient polynomial.

  Field-level vocabulary (from `Plonk/Proofs`): `F = ZMod R`, `toF : Nat → F`,
  `seqF v j = toF (v.getD j 0)`, `polyN n u = Σ_{j<n} C (u j) X^j`,
  `dftN ω n u i = Σ_{j<n} u j · ω^(i·j)`.

  Remarks on hypotheses:
  * `1 ≤ threads`: with `threads = 0` the model's `parallelButterflyChunk` is a no-op
    (`divCeil m 0 = 0`); rayon never reports 0 threads.
  * `v.length ≤ d.size` in `fft_ifft_inverse`: a longer input is reduced modulo `X^n − 1` by `fft`
    (see `fft_long_input_is_evaluation`), so it cannot be recovered.
  * `e.length = d.size` for interpolation: `ifft` zero-pads / truncates (`resize`) other lengths.
-/
import Plonk.Proofs.FftDomain

namespace Plonk.Props.C19Fft
open Plonk FftMath Polynomial

/-- The domain: `d.size = 2^d.logSize ≥ m`, `d.logSize < 32`, and `d.groupGen` is a primitive
    `d.size`-th root of unity (so `i ↦ groupGen^i` enumerates the subgroup without repetition),
    `d.size ≠ 0` in the field, and the stored inverses are inverses. -/
theorem domain_is_subgroup (m : Nat) (d : Domain) (hd : Domain.new? m = some d) :
    d.size = 2 ^ d.logSize ∧ m ≤ d.size ∧ d.logSize < 32 ∧
    IsPrimitiveRoot (toF d.groupGen) d.size ∧ ((d.size : ℕ) : F) ≠ 0 ∧
    toF d.groupGenInv = (toF d.groupGen)⁻¹ ∧ toF d.sizeInv = ((d.size : ℕ) : F)⁻¹ ∧
    toF d.generatorInv = (toF GENERATOR)⁻¹ ∧ toF GENERATOR ≠ 0 :=
  have h := Domain.new?_wf m d hd
  ⟨h.1.size_eq, Domain.new?_size_ge m d hd, h.2, h.1.prim, h.1.size_ne_zero, h.1.genInv,
    h.1.sizeInv, h.1.generatorInv, generator_ne_zero⟩

example : ∃ d, Domain.new? 5 = some d :=
  Option.isSome_iff_exists.mp (by decide +kernel)

/-- **Forward FFT = direct evaluation on the subgroup.** For a coefficient vector that fits the
    domain, `fft` returns exactly the model's O(n²) `dft` of the zero-padded reduced vector, and its
    `i`-th entry is the value of the coefficient polynomial at `groupGen^i`. -/
theorem fft_is_evaluation (m : Nat) (d : Domain) (hd : Domain.new? m = some d) (threads : Nat)
    (ht : 1 ≤ threads) (v : List Nat) (hlen : v.length ≤ d.size) :
    (d.fft v threads).length = d.size ∧
    d.fft v threads = dft d.groupGen (resize (v.map (· % R)) d.size) ∧
    (∀ x ∈ d.fft v threads, x < R) ∧
    ∀ i, i < d.size →
      toF ((d.fft v threads).getD i 0) = (polyN v.length (seqF v)).eval (toF d.groupGen ^ i) := by
  have h := Domain.new?_WF m d hd
  refine ⟨Domain.fft_length h ht v, ?_, Domain.fft_mem_lt h ht v,
    fun i hi => Domain.toF_fft_getD h ht v i hi⟩
  rw [Domain.fft_eq_dft h ht, foldMod_eq_resize _ _ (by rw [List.length_map]; exact hlen),
    map_mod_of_lt _ (map_mod_lt v)]

example : ∃ d, Domain.new? 5 = some d ∧ 1 ≤ 3 ∧ ([7, 0, R + 2, 5, 1] : List Nat).length ≤ d.size := by
  obtain ⟨d, hd⟩ : ∃ d, Domain.new? 5 = some d := Option.isSome_iff_exists.mp (by decide +kernel)
  exact ⟨d, hd, by decide, Domain.new?_size_ge 5 d hd⟩

/-- **Long inputs.** For an input of *any* length `fft` returns the `dft` of the vector folded
    modulo `X^n − 1`, and its `i`-th entry is still the value of the full (long) coefficient
    polynomial at `groupGen^i`. -/
theorem fft_long_input_is_evaluation (m : Nat) (d : Domain) (hd : Domain.new? m = some d)
    (threads : Nat) (ht : 1 ≤ threads) (v : List Nat) :
    (d.fft v threads).length = d.size ∧
    d.fft v threads = dft d.groupGen (foldMod (v.map (· % R)) d.size) ∧
    ∀ i, i < d.size →
      toF ((d.fft v threads).getD i 0) = (polyN v.length (seqF v)).eval (toF d.groupGen ^ i) := by
  have h := Domain.new?_WF m d hd
  exact ⟨Domain.fft_length h ht v, Domain.fft_eq_dft h ht v,
    fun i hi => Domain.toF_fft_getD h ht v i hi⟩

example : ∃ d, Domain.new? 2 = some d ∧ 1 ≤ 16 ∧ d.size < ([1, 2, 3, 4, 5, 6, 7] : List Nat).length := by
  obtain ⟨d, hd⟩ : ∃ d, Domain.new? 2 = some d := Option.isSome_iff_exists.mp (by decide +kernel)
  refine ⟨d, hd, by decide, ?_⟩
  have : d.size = 2 := by
    have : (Domain.new? 2).map (·.size) = some 2 := by decide +kernel
    rw [hd] at this; simpa using this
  rw [this]; decide

/-- **Inverse FFT = interpolation on the subgroup.** `ifft e` has `d.size` canonical entries, is
    `1/n` times the model's `dft` with the inverse root, equals the field-level inverse DFT, and
    the polynomial with these coefficients takes the value `e[i]` at `groupGen^i`. -/
theorem ifft_is_interpolation (m : Nat) (d : Domain) (hd : Domain.new? m = some d) (threads : Nat)
    (ht : 1 ≤ threads) (e : List Nat) (he : e.length = d.size) :
    (d.ifft e threads).length = d.size ∧
    d.ifft e threads = (dft d.groupGenInv (e.map (· % R))).map (fmul · d.sizeInv) ∧
    (∀ x ∈ d.ifft e threads, x < R) ∧
    (∀ j, j < d.size → toF ((d.ifft e threads).getD j 0)
        = ((d.size : ℕ) : F)⁻¹ * dftN (toF d.groupGen)⁻¹ d.size (seqF e) j) ∧
    ∀ i, i < d.size →
      (polyN d.size (seqF (d.ifft e threads))).eval (toF d.groupGen ^ i) = toF (e.getD i 0) := by
  have h := Domain.new?_WF m d hd
  refine ⟨Domain.ifft_length h ht e, ?_, Domain.ifft_mem_lt h ht e, ?_,
    fun i hi => Domain.eval_ifft h ht e he i hi⟩
  · rw [Domain.ifft_eq_dft h ht]
    have : resize (e.map (· % R)) d.size = e.map (· % R) := by
      rw [← he, ← List.length_map (f := (· % R)) (as := e)]; exact resize_self _
    rw [this]
  · intro j hj
    rw [Domain.toF_ifft_getD h ht e j hj, seqF_resize e _ (by omega)]

example : ∃ d, Domain.new? 4 = some d ∧ 1 ≤ 2 ∧ ([9, 8, 7, 6] : List Nat).length = d.size := by
  obtain ⟨d, hd⟩ : ∃ d, Domain.new? 4 = some d := Option.isSome_iff_exists.mp (by decide +kernel)
  refine ⟨d, hd, by decide, ?_⟩
  have : (Domain.new? 4).map (·.size) = some 4 := by decide +kernel
  rw [hd] at this
  simpa using (Option.some.inj this).symm

/-- **Coset FFT = evaluation on the coset `g·⟨groupGen⟩`** (`g = GENERATOR = 7`), for inputs of any
    length; and **coset inverse FFT = interpolation on the coset**. -/
theorem coset_fft_is_evaluation (m : Nat) (d : Domain) (hd : Domain.new? m = some d)
    (threads : Nat) (ht : 1 ≤ threads) :
    (∀ v : List Nat, (d.cosetFft v threads).length = d.size ∧
      ∀ i, i < d.size → toF ((d.cosetFft v threads).getD i 0)
        = (polyN v.length (seqF v)).eval (toF GENERATOR * toF d.groupGen ^ i)) ∧
    (∀ e : List Nat, e.length = d.size → (d.cosetIfft e threads).length = d.size ∧
      ∀ i, i < d.size →
        (polyN d.size (seqF (d.cosetIfft e threads))).eval (toF GENERATOR * toF d.groupGen ^ i)
          = toF (e.getD i 0)) := by
  have h := Domain.new?_WF m d hd
  exact ⟨fun v => ⟨Domain.cosetFft_length h ht v, fun i hi => Domain.toF_cosetFft_getD h ht v i hi⟩,
    fun e he => ⟨Domain.cosetIfft_length h ht e, fun i hi => Domain.eval_cosetIfft h ht e he i hi⟩⟩

example : ∃ d, Domain.new? 8 = some d ∧ 1 ≤ 5 ∧
    ∃ e : List Nat, e.length = d.size := by
  obtain ⟨d, hd⟩ : ∃ d, Domain.new? 8 = some d := Option.isSome_iff_exists.mp (by decide +kernel)
  exact ⟨d, hd, by decide, List.replicate d.size 3, by simp⟩

/-- **Mutually inverse** (as lists of canonical `Nat`s, with possibly different thread counts for
    the two transforms): `ifft ∘ fft` returns the reduced, zero-padded input; `fft ∘ ifft` returns
    the reduced input; the same for the coset pair. -/
theorem fft_ifft_inverse (m : Nat) (d : Domain) (hd : Domain.new? m = some d) (t1 t2 : Nat)
    (ht1 : 1 ≤ t1) (ht2 : 1 ≤ t2) :
    (∀ v : List Nat, v.length ≤ d.size →
      d.ifft (d.fft v t1) t2 = resize (v.map (· % R)) d.size ∧
      d.cosetIfft (d.cosetFft v t1) t2 = resize (v.map (· % R)) d.size) ∧
    (∀ e : List Nat, e.length = d.size →
      d.fft (d.ifft e t1) t2 = e.map (· % R) ∧
      d.cosetFft (d.cosetIfft e t1) t2 = e.map (· % R)) := by
  have h := Domain.new?_WF m d hd
  exact ⟨fun v hv => ⟨Domain.ifft_fft h ht2 ht1 v hv, Domain.cosetIfft_cosetFft h ht2 ht1 v hv⟩,
    fun e he => ⟨Domain.fft_ifft h ht2 ht1 e he, Domain.cosetFft_cosetIfft h ht2 ht1 e he⟩⟩

example : ∃ d, Domain.new? 3 = some d ∧ 1 ≤ 1 ∧ 1 ≤ 64 ∧
    ([5, R, 11] : List Nat).length ≤ d.size ∧ ∃ e : List Nat, e.length = d.size := by
  obtain ⟨d, hd⟩ : ∃ d, Domain.new? 3 = some d := Option.isSome_iff_exists.mp (by decide +kernel)
  exact ⟨d, hd, by decide, by decide, Domain.new?_size_ge 3 d hd, List.replicate d.size 1, by simp⟩

/-- **Thread independence**: all four transforms return the same list for every `threads ≥ 1`
    (proved for arbitrary values of the `Generated.PARALLEL_*` thresholds; needs only
    `d.logSize ≤ 256`, which every `Domain.new?` domain satisfies — see `domain_is_subgroup`). -/
theorem fft_threads_irrelevant (d : Domain) (hlog : d.logSize ≤ 256) (v : List Nat)
    (threads threads' : Nat) (ht : 1 ≤ threads) (ht' : 1 ≤ threads') :
    d.fft v threads = d.fft v threads' ∧ d.ifft v threads = d.ifft v threads' ∧
    d.cosetFft v threads = d.cosetFft v threads' ∧ d.cosetIfft v threads = d.cosetIfft v threads' := by
  obtain ⟨a1, a2, a3, a4⟩ := Domain.threads_irrelevant d hlog v threads ht
  obtain ⟨b1, b2, b3, b4⟩ := Domain.threads_irrelevant d hlog v threads' ht'
  exact ⟨a1.trans b1.symm, a2.trans b2.symm, a3.trans b3.symm, a4.trans b4.symm⟩

example : ∃ d, Domain.new? 1000 = some d ∧ d.logSize ≤ 256 ∧ 1 ≤ 7 ∧ 1 ≤ 32 := by
  obtain ⟨d, hd⟩ : ∃ d, Domain.new? 1000 = some d := Option.isSome_iff_exists.mp (by decide +kernel)
  have := (Domain.new?_wf 1000 d hd).2
  exact ⟨d, hd, by omega, by decide, by decide⟩

/-- **One chunk**: the parallel butterfly equals the serial butterfly chunk for every
    `threads ≥ 1` (no bounds hypothesis; `m < 2^256` is the range of the model's `fpow`). -/
theorem parallel_chunk_threads_irrelevant (a : Array Nat) (lo m wm threads : Nat)
    (ht : 1 ≤ threads) (hm : m < 2 ^ 256) :
    parallelButterflyChunk a lo m wm threads = butterflyChunk a lo m wm :=
  parallelButterflyChunk_eq_butterflyChunk a lo m wm threads ht hm

example : (1 : Nat) ≤ 3 ∧ (8 : Nat) < 2 ^ 256 := by constructor <;> norm_num

/-- **The kernels**: on a vector of `2^L` canonical entries and a primitive `2^L`-th root, the
    iterative in-place transform, the thread-switched `bestFft`, the radix-2 recursion and the
    O(n²) definition all coincide. -/
theorem kernels_agree (L ω : Nat) (v : List Nat) (hlen : v.length = 2 ^ L)
    (hlt : ∀ x ∈ v, x < R) (hprim : IsPrimitiveRoot (toF ω) (2 ^ L)) (threads : Nat)
    (ht : 1 ≤ threads) :
    (serialFft v.toArray ω L).toList = dft ω v ∧
    (bestFft v.toArray ω L threads).toList = dft ω v ∧
    fftRec L ω v = dft ω v ∧
    ∀ i, i < 2 ^ L → toF ((dft ω v).getD i 0) = (polyN (2 ^ L) (seqF v)).eval (toF ω ^ i) := by
  refine ⟨serialFft_toList_eq_dft L ω v hlen hlt hprim,
    bestFft_eq_dft L ω threads v ht hlen hlt hprim, fftRec_eq_dft L ω v hlen hlt hprim, ?_⟩
  intro i hi
  have hb : 2 ^ L < 2 ^ 256 := order_lt_of_primitive (Nat.two_pow_pos _) hprim
  rw [toF_dft_getD ω v i (hlen ▸ hi) (hlen ▸ hb.le), hlen, dftN_eq_eval]

example : ∃ (L ω : Nat) (v : List Nat), L = 3 ∧ v.length = 2 ^ L ∧ (∀ x ∈ v, x < R) ∧
    IsPrimitiveRoot (toF ω) (2 ^ L) ∧ 1 ≤ 4 := by
  obtain ⟨d, hd⟩ : ∃ d, Domain.new? 8 = some d := Option.isSome_iff_exists.mp (by decide +kernel)
  have hL : d.logSize = 3 := by
    have : (Domain.new? 8).map (·.logSize) = some 3 := by decide +kernel
    rw [hd] at this; simpa using this
  have h := Domain.new?_WF 8 d hd
  refine ⟨d.logSize, d.groupGen, [1, 2, 3, 4, 5, 6, 7, 8], hL, by rw [hL]; rfl, ?_, ?_, by decide⟩
  · intro x hx
    have : x ≤ 8 := by
      simp only [List.mem_cons, List.not_mem_nil, or_false] at hx
      omega
    have : 8 < R := by decide +kernel
    omega
  · rw [← h.size_eq]; exact h.prim

end Plonk.Props.C19Fft
